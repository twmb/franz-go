import FranzVerif.Model.C30
import FranzVerif.Spec.C30
import FranzVerif.Proof.C30
/-! The latch model's event log passes `Spec.C30.latchSpec`. The counter of the single-worker scan is the number of workers
the latch word stands for, `held st`, along the run (`single_go`, from what `cnt_step` says about each event). The
no-lost-wake-up scan reads the log backwards; it is the negation of the ghost flag `pending` recomputed forwards from the
log (`noLost_go_false`, `pending_run`); that `pending` is false once all threads are idle is read off `Cnt.pend` in
`Props.C30.latch_model_satisfies_spec`. -/
namespace Proof.C30
open Model.C30

/-- the Spec-level event of a model event of thread `i` (raw calls and silent steps have none) -/
def toLEv (i : Nat) : Ev → Option Spec.C30.LEv
  | .beginRet b => some (.beginRet i b)
  | .worked => some (.worked i)
  | .finishRet b => some (.finishRet i b)
  | .hard => some (.hard i)
  | _ => none

/-- run an action list, collecting the Spec-level event log -/
def runEv (s : LS) : List (Nat × Choice) → Option (LS × List Spec.C30.LEv)
  | [] => some (s, [])
  | a :: as => match s.stepEv a with
    | none => none
    | some (s', ev) => match runEv s' as with
      | none => none
      | some (s'', evs) => some (s'', (toLEv a.1 ev).toList ++ evs)

theorem runEv_cons {s s' : LS} {a : Nat × Choice} {as : List (Nat × Choice)} {evs : List Spec.C30.LEv}
    (h : runEv s (a :: as) = some (s', evs)) :
    ∃ s1 ev evs1, s.stepEv a = some (s1, ev) ∧ runEv s1 as = some (s', evs1) ∧ evs = (toLEv a.1 ev).toList ++ evs1 := by
  simp only [runEv] at h
  split at h
  · cases h
  · split at h
    · cases h
    · cases h; exact ⟨_, _, _, by assumption, by assumption, rfl⟩

theorem run_of_runEv {s s' : LS} (as : List (Nat × Choice)) (evs : List Spec.C30.LEv)
    (hr : runEv s as = some (s', evs)) : s.run as = some s' := by
  induction as generalizing s evs with
  | nil => cases hr; rfl
  | cons a t ih =>
    obtain ⟨s1, ev, evs1, h1, h2, _⟩ := runEv_cons hr
    simp only [LS.run, step_eq_map_stepEv, h1, Option.map_some]
    exact ih evs1 h2

theorem single_go {n n' : Nat} {ev : Ev} (h : evHeld n n' ev) (i : Nat) (evs : List Spec.C30.LEv) :
    Spec.C30.latchSingle.go ((toLEv i ev).toList ++ evs) n = Spec.C30.latchSingle.go evs n' := by
  cases ev with
  | beginRet b =>
    cases b
    · rw [show n' = n from h]; rfl
    · obtain ⟨rfl, rfl⟩ := h; rfl
  | finishRet b =>
    cases b
    · rw [show n' = n - 1 from h]; rfl
    · rw [show n' = n from h]; rfl
  | hard => rw [show n' = n - 1 from h]; rfl
  | worked | none | rawBeginRet _ | rawFinishRet _ | rawHard => rw [show n' = n from h]; rfl

theorem single_run {s s' : LS} (as : List (Nat × Choice)) (evs : List Spec.C30.LEv) (hp : protoOnly as) (hI : LInv s)
    (hr : runEv s as = some (s', evs)) : Spec.C30.latchSingle.go evs (held s.st) = true := by
  induction as generalizing s evs with
  | nil => cases hr; rfl
  | cons a t ih =>
    obtain ⟨s1, ev, evs1, h1, h2, rfl⟩ := runEv_cons hr
    obtain ⟨hI1, hev, -⟩ := linv_step a (hp a List.mem_cons_self) hI h1
    rw [single_go hev]
    exact ih evs1 (fun b hb => hp b (List.mem_cons_of_mem _ hb)) hI1 h2

/-- "a signal is unanswered" as a function of the log -/
def upd (p : Bool) : Spec.C30.LEv → Bool
  | .beginRet _ _ => true
  | .worked _ => false
  | .hard _ => false
  | _ => p

theorem pending_run {s s' : LS} (as : List (Nat × Choice)) (evs : List Spec.C30.LEv)
    (hr : runEv s as = some (s', evs)) : s'.pending = evs.foldl upd s.pending := by
  induction as generalizing s evs with
  | nil => cases hr; rfl
  | cons a t ih =>
    obtain ⟨s1, ev, evs1, h1, h2, rfl⟩ := runEv_cons hr
    obtain ⟨_, _, _, _, rfl⟩ := stepEv_some h1
    rw [ih evs1 h2, List.foldl_append]
    congr 1
    cases ev <;> rfl

theorem noLost_go_true (r : List Spec.C30.LEv) : Spec.C30.latchNoLost.go r true = true := by
  induction r with
  | nil => rfl
  | cons e t ih => cases e <;> simp [Spec.C30.latchNoLost.go, ih]

theorem noLost_go_false (r : List Spec.C30.LEv) :
    Spec.C30.latchNoLost.go r false = !(r.foldr (fun e p => upd p e) false) := by
  induction r with
  | nil => rfl
  | cons e t ih => cases e <;> simp [Spec.C30.latchNoLost.go, upd, ih, noLost_go_true]

theorem noLost_of_not_pending (evs : List Spec.C30.LEv) (h : evs.foldl upd false = false) :
    Spec.C30.latchNoLost evs = true := by
  unfold Spec.C30.latchNoLost
  rw [noLost_go_false, List.foldr_reverse]
  simp only [Bool.not_eq_true']
  exact h
end Proof.C30
