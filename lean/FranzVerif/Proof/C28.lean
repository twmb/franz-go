import FranzVerif.Model.C28
import FranzVerif.Spec.C28
/-! murmur2: under `toNat` each `BitVec 32` operation of the Go transcription is the `Nat`-with-explicit-`mod`
operation of the Java transcription (`mul_mC`, `xor_shr`, `word_eq`), and Go's slice-consuming loop is Java's index
loop once the slice is known to be `data.drop (i * 4)` (`loop_eq`), as Go's `switch` on what is left is Java's on
`length % 4` (`tailGo_eq`). Partitioners: the state invariant `Inv` bounds
the current index from below only (`n` may shrink between calls), which is what every branch that returns the
stored index unchecked needs; a keyed call is the hasher's answer with the state untouched (`partitionN_keyed`), so
every observation of a run is in range and, when keyed, a function of key and `n` (`run_calls`), and the Spec's
`traceOk` follows from that alone (`traceOk_of_calls`). -/
namespace Proof.C28
open Model.C28 Spec.C28

/-- Java's `data[i] & 0xff` on the signed byte is the octet. -/
theorem byte_eq (b : UInt8) : and255 (jbyte b) = b.toNat := by
  have := b.toNat_lt
  unfold and255 jbyte
  generalize b.toNat = n at *
  split
  · rw [Int.emod_eq_of_lt (by omega) (by omega)]; rfl
  · rw [Int.sub_emod_right, Int.emod_eq_of_lt (by omega) (by omega)]; rfl

theorem toNat_u32 (b : UInt8) : (u32 b).toNat = b.toNat :=
  Nat.mod_eq_of_lt (Nat.lt_trans b.toNat_lt (by decide))

theorem mul_mC (x : BitVec 32) : (x * mC).toNat = jmul x.toNat jm := BitVec.toNat_mul ..

theorem xor_eq (x y : BitVec 32) : (x ^^^ y).toNat = jxor x.toNat y.toNat := BitVec.toNat_xor ..

theorem xor_shr (x : BitVec 32) (r : Nat) : (x ^^^ (x >>> r)).toNat = jxor x.toNat (jushr x.toNat r) := by
  rw [xor_eq, BitVec.toNat_ushiftRight, Nat.shiftRight_eq_div_pow]; rfl

theorem mixK_eq (k : BitVec 32) :
    (mixK k).toNat = jmul (jxor (jmul k.toNat jm) (jushr (jmul k.toNat jm) 24)) jm := by
  rw [mixK, mul_mC, xor_shr, mul_mC]

theorem finGo_eq (h : BitVec 32) :
    (finGo h).toNat = jxor (jmul (jxor h.toNat (jushr h.toNat 13)) jm) (jushr (jmul (jxor h.toNat (jushr h.toNat 13)) jm) 15) := by
  rw [finGo, xor_shr, mul_mC, xor_shr]

theorem shl_u32 (b : UInt8) (k : Nat) : (u32 b <<< k).toNat = jshl b.toNat k := by
  rw [BitVec.toNat_shiftLeft, toNat_u32, Nat.shiftLeft_eq]; rfl

/-- Go adds the four bytes from the top, Java from the bottom: the same sum modulo 2^32. -/
theorem word_eq (b0 b1 b2 b3 : UInt8) :
    ((u32 b3 <<< 24) + (u32 b2 <<< 16) + (u32 b1 <<< 8) + u32 b0).toNat =
    jadd (jadd (jadd b0.toNat (jshl b1.toNat 8)) (jshl b2.toNat 16)) (jshl b3.toNat 24) := by
  rw [BitVec.toNat_add, BitVec.toNat_add, BitVec.toNat_add, shl_u32, shl_u32, shl_u32, toNat_u32]
  simp only [jadd, Nat.mod_add_mod]
  congr 1
  ac_rfl

theorem byteAt_drop (data rest : List UInt8) (o j : Nat) (b : UInt8) (hd : data.drop o = rest)
    (hj : rest[j]? = some b) : byteAt data (o + j) = b.toNat := by
  rw [byteAt, List.getD_eq_getElem?_getD, ← List.getElem?_drop, hd, hj]
  exact byte_eq b

theorem stepJ_eq (data : List UInt8) (h : BitVec 32) (i : Nat) (b0 b1 b2 b3 : UInt8) (rest : List UInt8)
    (hd : data.drop (i * 4) = b0 :: b1 :: b2 :: b3 :: rest) :
    ((h * mC) ^^^ mixK ((u32 b3 <<< 24) + (u32 b2 <<< 16) + (u32 b1 <<< 8) + u32 b0)).toNat = stepJ data h.toNat i := by
  rw [stepJ, byteAt_drop data _ _ 0 b0 hd rfl, byteAt_drop data _ _ 1 b1 hd rfl, byteAt_drop data _ _ 2 b2 hd rfl,
    byteAt_drop data _ _ 3 b3 hd rfl, xor_eq, mul_mC, mixK_eq, word_eq]

theorem loop_eq (data : List UInt8) : ∀ (h : BitVec 32) (rest : List UInt8) (i : Nat),
    data.drop (i * 4) = rest →
    (loopGo h rest).1.toNat = (List.range' i (rest.length / 4)).foldl (stepJ data) h.toNat ∧
    (loopGo h rest).2 = data.drop ((i + rest.length / 4) * 4) := by
  intro h rest
  induction h, rest using loopGo.induct with
  | case1 h b0 b1 b2 b3 rest k ih =>
    intro i hd
    have hlen : (b0 :: b1 :: b2 :: b3 :: rest).length / 4 = rest.length / 4 + 1 := by
      simp only [List.length_cons]; omega
    obtain ⟨ih1, ih2⟩ := ih (i + 1) (by rw [Nat.succ_mul, ← List.drop_drop, hd]; rfl)
    rw [hlen, loopGo, ih1, ih2, List.range'_succ, List.foldl_cons, stepJ_eq data h i b0 b1 b2 b3 rest hd]
    exact ⟨rfl, by congr 2; omega⟩
  | _ => intro i hd; simp [loopGo, hd]

theorem h0_eq (n : Nat) : (seedC ^^^ BitVec.ofNat 32 n).toNat = jxor jseed (n % 4294967296) := by
  rw [xor_eq, BitVec.toNat_ofNat]; rfl

/-- Go's `switch len(b)` on the bytes after the last whole word is Java's `switch (length % 4)` reading them at `base`,
`base + 1`, `base + 2`. -/
theorem tailGo_eq (data tl : List UInt8) (base : Nat) (h : BitVec 32) (htl : data.drop base = tl) (hlen : tl.length < 4) :
    (tailGo h tl).toNat = match tl.length with
      | 3 => jmul (jxor (jxor (jxor h.toNat (jshl (byteAt data (base + 2)) 16)) (jshl (byteAt data (base + 1)) 8))
          (byteAt data base)) jm
      | 2 => jmul (jxor (jxor h.toNat (jshl (byteAt data (base + 1)) 8)) (byteAt data base)) jm
      | 1 => jmul (jxor h.toNat (byteAt data base)) jm
      | _ => h.toNat := by
  have e0 := fun a (ha : tl[0]? = some a) => Nat.add_zero _ ▸ byteAt_drop data tl base 0 a htl ha
  have e1 := fun a => byteAt_drop data tl base 1 a htl
  have e2 := fun a => byteAt_drop data tl base 2 a htl
  match tl, hlen with
  | [], _ => rfl
  | [a], _ =>
    simp only [List.length_cons, List.length_nil, Nat.zero_add]
    rw [tailGo, mul_mC, xor_eq, toNat_u32, e0 a rfl]
  | [a, b], _ =>
    simp only [List.length_cons, List.length_nil, Nat.zero_add, Nat.reduceAdd]
    rw [tailGo, mul_mC, xor_eq, xor_eq, toNat_u32, shl_u32, e0 a rfl, e1 b rfl]
  | [a, b, c], _ =>
    simp only [List.length_cons, List.length_nil, Nat.zero_add, Nat.reduceAdd]
    rw [tailGo, mul_mC, xor_eq, xor_eq, xor_eq, toNat_u32, shl_u32, shl_u32, e0 a rfl, e1 b rfl, e2 c rfl]
  | _ :: _ :: _ :: _ :: _, hlen => simp at hlen; omega

theorem murmur2_toNat (data : List UInt8) : (murmur2 data).toNat = murmur2U data := by
  obtain ⟨h1, h2⟩ := loop_eq data (seedC ^^^ BitVec.ofNat 32 data.length) data 0 rfl
  rw [Nat.zero_add] at h2
  rw [← List.range_eq_range', h0_eq] at h1
  have hlen : (data.drop (data.length / 4 * 4)).length = data.length % 4 := by
    rw [List.length_drop]; omega
  have hbase : data.length - data.length % 4 = data.length / 4 * 4 := by omega
  unfold murmur2 murmur2U loopJ
  dsimp only
  rw [finGo_eq, h2, hbase, ← h1, tailGo_eq data _ _ _ rfl (by omega), hlen]
  rfl
theorem and_mask (h : BitVec 32) : (h &&& 0x7fffffff#32).toNat = h.toNat % 2147483648 := by
  rw [BitVec.toNat_and]
  exact Nat.and_two_pow_sub_one_eq_mod h.toNat 31

theorem i32_id (x : Int) (h1 : -2147483648 ≤ x) (h2 : x < 2147483648) : i32 x = x := by
  unfold i32; omega

theorem i32_u (u : Nat) (h : u < 4294967296) : i32 (u : Int) = toInt32 u := by
  unfold i32 toInt32; split <;> omega

/-- Go's `%` truncates: the absolute value of the remainder is the remainder of the absolute value. -/
theorem abs_tmod (s n : Int) (hn : 0 < n) :
    (if s.tmod n < 0 then -s.tmod n else s.tmod n) = (if s < 0 then -s else s) % n := by
  have h : ((s.tmod n).natAbs : Int) = s.natAbs % n := by
    rw [Int.natAbs_tmod, Int.natCast_emod, Int.natAbs_of_nonneg (Int.le_of_lt hn)]
  rw [show (if s < 0 then -s else s) = (s.natAbs : Int) by omega, ← h]
  omega

/-- A hasher that never panics and stays in range for partition counts `1 ≤ n ≤ 2^31-1`. -/
def HasherOk (h : Hasher) : Prop :=
  ∀ k n, 1 ≤ n → n ≤ 2147483647 → ∃ p, h k n = some p ∧ 0 ≤ p ∧ p < n

theorem emod_range (x n : Int) (hn : 1 ≤ n) : 0 ≤ x % n ∧ x % n < n :=
  ⟨Int.emod_nonneg _ (by omega), Int.emod_lt_of_pos _ (by omega)⟩

theorem intn_ok (n : Int) (raw : Nat) (hn : 1 ≤ n) : ∃ d, intn n raw = some d ∧ 0 ≤ d ∧ d < n := by
  refine ⟨(raw : Int) % n, ?_, emod_range _ n hn⟩
  unfold intn; rw [if_neg (by omega)]

theorem rr_ok (s : RR) (n : Int) (hs : 0 ≤ s.on) (hn : 1 ≤ n) :
    ∃ s' p, s.partition n = .ok s' p ∧ 0 ≤ s'.on ∧ 0 ≤ p ∧ p < n := by
  unfold RR.partition
  dsimp only
  refine ⟨_, _, rfl, ?_, ?_, ?_⟩
  · show 0 ≤ (if s.on ≥ n then 0 else s.on) + 1
    split <;> omega
  · split <;> omega
  · split <;> omega

theorem sticky_ok (s : Sticky) (n : Int) (raw : Nat) (hs : -1 ≤ s.onPart) (hn : 1 ≤ n) :
    ∃ s' p, s.partition n raw = .ok s' p ∧ s'.onPart = p ∧ 0 ≤ p ∧ p < n := by
  unfold Sticky.partition
  by_cases hc : s.onPart = -1 ∨ s.onPart ≥ n
  · rw [if_pos hc]
    obtain ⟨d, hd, hd0, hd1⟩ := intn_ok n raw hn
    rw [hd]
    dsimp only
    by_cases he : d = s.lastPart
    · rw [if_pos he, Int.tmod_eq_emod_of_nonneg (by omega)]
      exact ⟨_, _, rfl, rfl, emod_range _ n hn⟩
    · rw [if_neg he]
      exact ⟨_, _, rfl, rfl, hd0, hd1⟩
  · rw [if_neg hc]
    exact ⟨_, _, rfl, rfl, by omega, by omega⟩

theorem stickyKey_ok (h : Hasher) (hh : HasherOk h) (s : Sticky) (key : Option (List UInt8)) (n : Int) (raw : Nat)
    (hs : -1 ≤ s.onPart) (hn : 1 ≤ n) (hn2 : n ≤ 2147483647) :
    ∃ s' p, stickyKeyPartition h s key n raw = .ok s' p ∧ -1 ≤ s'.onPart ∧ 0 ≤ p ∧ p < n := by
  unfold stickyKeyPartition
  cases key with
  | some k =>
    obtain ⟨p, hp, h0, h1⟩ := hh k n hn hn2
    dsimp only; rw [hp]
    exact ⟨_, _, rfl, hs, h0, h1⟩
  | none =>
    obtain ⟨s', p, e, e2, h0, h1⟩ := sticky_ok s n raw hs hn
    exact ⟨s', p, e, by omega, h0, h1⟩

/-- the least-backup scan over `N` partitions has chosen a valid index. -/
def Picked (N : Int) (a : LBAcc) : Prop := 1 ≤ a.npicked ∧ 0 ≤ a.onPart ∧ a.onPart < N

/-- Starting from `least = maxInt64` no partition buffers more than that, so the first step makes a choice. The last
hypothesis is the loop invariant in its two stages: a choice has been made, or nothing has been scanned yet and a step is
still to come. -/
theorem lbLoop_picked (N : Int) : ∀ (k : Nat) (it : Iter) (a : LBAcc), k ≤ it.length → (it.length : Int) ≤ N →
    (∀ b ∈ it, b ≤ maxInt64) → Picked N a ∨ (0 < k ∧ a.npicked = 0 ∧ a.least = maxInt64) →
    ∃ a', lbLoop k it a = some a' ∧ Picked N a' := by
  intro k
  induction k with
  | zero => intro it a _ _ _ ha; exact ⟨a, rfl, ha.resolve_right fun h => Nat.lt_irrefl 0 h.1⟩
  | succ k ih =>
    intro it a hk hN hb ha
    match it, hk, hN, hb with
    | [], hk, _, _ => simp at hk
    | b :: rest, hk, hN, hb =>
      have hrl : (rest.length : Int) < N := by simp at hN; omega
      have hbm : b ≤ maxInt64 := hb b List.mem_cons_self
      -- whatever the comparison, the next accumulator holds a valid choice
      have next : ∀ a1, Picked N a1 → ∃ a', lbLoop k rest a1 = some a' ∧ Picked N a' := fun a1 h1 =>
        ih rest a1 (by simp at hk; omega) (by omega) (fun x hx => hb x (List.mem_cons_of_mem _ hx)) (Or.inl h1)
      rw [lbLoop]
      simp only [Iter.next]
      by_cases h1 : b < a.least
      · rw [if_pos h1]
        exact next _ ⟨Nat.le_refl 1, Int.natCast_nonneg _, hrl⟩
      · rw [if_neg h1]
        by_cases h2 : b = a.least
        · rw [if_pos h2]
          refine next _ ⟨Nat.le_add_left 1 _, ?_, ?_⟩ <;>
          · rcases ha with ⟨_, p2, p3⟩ | ⟨_, hz, _⟩
            · dsimp only; split <;> omega
            · simp only [hz, Nat.zero_add, Nat.mod_one, if_true]; omega
        · rw [if_neg h2]
          exact next a (ha.resolve_right fun h => by omega)

theorem lb_ok (s : LB) (n : Int) (mapping : List Int) (draws : List Nat) (hs : -1 ≤ s.onPart) (hn : 1 ≤ n)
    (hl : (mapping.length : Int) = n) (hb : ∀ b ∈ mapping, b ≤ maxInt64) :
    ∃ s' p, s.partitionByBackup n (Iter.ofMapping mapping) draws = .ok s' p ∧ s'.onPart = p ∧ 0 ≤ p ∧ p < n := by
  unfold LB.partitionByBackup
  by_cases hc : s.onPart = -1 ∨ s.onPart ≥ n
  · have hlen : (Iter.ofMapping mapping).length = mapping.length := List.length_reverse
    obtain ⟨a', e, _, q2, q3⟩ := lbLoop_picked n n.toNat (Iter.ofMapping mapping)
      { least := maxInt64, npicked := 0, onPart := s.onPart, draws := draws } (by omega) (by omega)
      (fun b hb' => hb b (List.mem_reverse.mp hb')) (Or.inr ⟨by omega, rfl, rfl⟩)
    rw [if_pos hc, e]
    exact ⟨_, _, rfl, rfl, q2, q3⟩
  · rw [if_neg hc]
    exact ⟨_, _, rfl, rfl, by omega, by omega⟩

theorem calcIdx_ok : ∀ (k : Nat) (it : Iter), k ≤ it.length →
    ∃ l, calcIdx k it = some l ∧ l.length = k ∧ ∀ x ∈ l, 0 ≤ x ∧ x < (it.length : Int) := by
  intro k
  induction k with
  | zero => intro it _; exact ⟨[], rfl, rfl, by simp⟩
  | succ k ih =>
    intro it hk
    match it, hk with
    | [], hk => simp at hk
    | b :: rest, hk =>
      obtain ⟨l, e, e2, e3⟩ := ih rest (by simp at hk; omega)
      refine ⟨(rest.length : Int) :: l, ?_, by simp [e2], ?_⟩
      · rw [calcIdx]; simp only [Iter.next]; rw [e]; rfl
      · intro x hx
        rcases List.mem_cons.mp hx with rfl | hx
        · simp; omega
        · have := e3 x hx; simp; omega

theorem repick_ok (c : UBCfg) (bytes : Int) (n : Int) (mapping : List Int) (raw : Nat)
    (hn : 1 ≤ n) (hl : (mapping.length : Int) = n) :
    ∃ s' p, UB.repick c bytes n (Iter.ofMapping mapping) raw = .ok s' p ∧ 0 ≤ p ∧ p < n := by
  unfold UB.repick
  by_cases ha : (!c.adaptive) = true
  · rw [if_pos ha]
    obtain ⟨d, hd, hd0, hd1⟩ := intn_ok n raw hn
    rw [hd]; exact ⟨_, _, rfl, hd0, hd1⟩
  · rw [if_neg ha]
    have hlen : (Iter.ofMapping mapping).length = mapping.length := by simp [Iter.ofMapping]
    obtain ⟨l, e, e2, e3⟩ := calcIdx_ok n.toNat (Iter.ofMapping mapping) (by omega)
    rw [e]
    match l, e2, e3 with
    | [], e2, _ => simp at e2; omega
    | i :: is, e2, e3 =>
      dsimp only
      have hm : (i :: is).getD (raw % (is.length + 1)) i ∈ i :: is := by
        rw [List.getD_eq_getElem?_getD]
        have hlt : raw % (is.length + 1) < (i :: is).length := by
          simp; exact Nat.mod_lt _ (by omega)
        rw [List.getElem?_eq_getElem hlt]
        exact List.getElem_mem hlt
      have := e3 _ hm
      exact ⟨_, _, rfl, this.1, by omega⟩

theorem ub_ok (c : UBCfg) (hh : HasherOk c.hasher) (s : UB) (r : Rec) (n : Int) (mapping : List Int) (raw : Nat)
    (hn : 1 ≤ n) (hn2 : n ≤ 2147483647) (hl : (mapping.length : Int) = n) :
    ∃ s' p, s.partitionByBackup c r n (Iter.ofMapping mapping) raw = .ok s' p ∧ 0 ≤ p ∧ p < n := by
  unfold UB.partitionByBackup
  split
  · rename_i k hk
    obtain ⟨p, hp, h0, h1⟩ := hh k n hn hn2
    rw [hp]; exact ⟨_, _, rfl, h0, h1⟩
  · dsimp only
    generalize (if s.bytes + r.estimate ≥ c.limit then ({ bytes := r.estimate, onPart := -1 } : UB)
      else { bytes := s.bytes + r.estimate, onPart := s.onPart }) = s1
    by_cases hin : 0 ≤ s1.onPart ∧ s1.onPart < n
    · rw [if_pos hin]; exact ⟨_, _, rfl, hin.1, hin.2⟩
    · rw [if_neg hin]; exact repick_ok c s1.bytes n mapping raw hn hl

/-- the hasher a partitioner was configured with is a well-behaved one (`HasherOk`); for `basic`, the same of the
partition function itself, which `ManualPartitioner` does not satisfy. -/
def KindOk : PKind → Prop
  | .stickyKey h => HasherOk h
  | .uniformBytes c => HasherOk c.hasher
  | .basic f => ∀ r n, 1 ≤ n → n ≤ 2147483647 → ∃ p, f r n = some p ∧ 0 ≤ p ∧ p < n
  | _ => True

/-- State invariant: the current partition (`onPart`; round-robin's `on`) is `-1` ("none") or non-negative; it may
be ≥ the next `n`, which the partitioners test themselves before returning it. Uniform bytes tests both bounds
(`0 ≤ onPart ∧ onPart < n`) and so needs nothing of its state; the last clause rules out a state of another kind. -/
def Inv : PKind → PState → Prop
  | .roundRobin, .rr s => 0 ≤ s.on
  | .sticky, .st s => -1 ≤ s.onPart
  | .stickyKey _, .st s => -1 ≤ s.onPart
  | .leastBackup, .lb s => -1 ≤ s.onPart
  | .uniformBytes _, .ub _ => True
  | .basic _, .unit => True
  | _, _ => False

/-- What `doPartition` guarantees about a call: `1 ≤ n ≤ 2^31-1` (partition counts are int32 on the wire),
and for the backup partitioners the iterator ranges over exactly `n` partitions with int64 counts. -/
def OpValid (k : PKind) : Op → Prop
  | .newBatch => True
  | .part _ n mapping _ => 1 ≤ n ∧ n ≤ 2147483647 ∧
      (k.usesBackup = true → (mapping.length : Int) = n ∧ ∀ b ∈ mapping, b ≤ maxInt64)

theorem init_inv (k : PKind) : Inv k k.init := by
  cases k <;> simp [Inv, PKind.init]

theorem newBatch_inv (k : PKind) (s : PState) (h : Inv k s) : Inv k (k.onNewBatch s) := by
  cases k <;> cases s <;> first | exact h | exact Int.le_refl _

theorem part_ok (k : PKind) (s : PState) (r : Rec) (n : Int) (mapping : List Int) (draws : List Nat)
    (hk : KindOk k) (hs : Inv k s) (hv : OpValid k (.part r n mapping draws)) :
    ∃ s' p, k.partitionN s r n (Iter.ofMapping mapping) draws = .ok s' p ∧ Inv k s' ∧ 0 ≤ p ∧ p < n := by
  obtain ⟨hn, hn2, hb⟩ := hv
  revert hs
  -- the clauses of `Inv`, in its order: round robin, sticky, sticky key, least backup, uniform bytes, basic; last, a state
  -- of another kind
  fun_cases Inv k s <;> intro hs
  next s =>
    obtain ⟨s', p, e, i1, h0, h1⟩ := rr_ok s n hs hn
    exact ⟨.rr s', p, by simp only [PKind.partitionN, e], i1, h0, h1⟩
  next s =>
    obtain ⟨s', p, e, i1, h0, h1⟩ := sticky_ok s n (draws.headD 0) hs hn
    exact ⟨.st s', p, by simp only [PKind.partitionN, e], by simp only [Inv]; omega, h0, h1⟩
  next h s =>
    obtain ⟨s', p, e, i1, h0, h1⟩ := stickyKey_ok h hk s r.key n (draws.headD 0) hs hn hn2
    exact ⟨.st s', p, by simp only [PKind.partitionN, e], i1, h0, h1⟩
  next s =>
    obtain ⟨hl, hbb⟩ := hb rfl
    obtain ⟨s', p, e, i1, h0, h1⟩ := lb_ok s n mapping draws hs hn hl hbb
    exact ⟨.lb s', p, by simp only [PKind.partitionN, e], by simp only [Inv]; omega, h0, h1⟩
  next c s =>
    obtain ⟨s', p, e, h0, h1⟩ := ub_ok c hk s r n mapping (draws.headD 0) hn hn2 (hb rfl).1
    exact ⟨.ub s', p, by simp only [PKind.partitionN, e], trivial, h0, h1⟩
  next f =>
    obtain ⟨p, e, h0, h1⟩ := hk r n hn hn2
    exact ⟨.unit, p, by simp only [PKind.partitionN, e], trivial, h0, h1⟩
  · cases hs

/-- the hasher consulted for keyed records (`none` for partitioners without key logic). -/
def kindHasher : PKind → Hasher
  | .stickyKey h => h
  | .uniformBytes c => c.hasher
  | _ => fun _ _ => none

/-- the partition the property's key rule prescribes, when it prescribes one. -/
def ruleFormula : KeyRule → List UInt8 → Int → Option Int
  | .kafkaDefault, k, n => some (kafkaPartition k n)
  | .saramaFnv, k, n => some (saramaPartition (fnv1a32 k) n)
  | .unsignedFnv, k, n => some (unsignedPartition (fnv1a32 k) n)
  | .consistentOnly, _, _ => none

/-- the configured hasher computes the rule's formula. -/
def RuleOk (k : PKind) (rule : KeyRule) : Prop :=
  ∀ key n f, 1 ≤ n → n ≤ 2147483647 → ruleFormula rule key n = some f → kindHasher k key n = some f

theorem partitionN_keyed (k : PKind) (s : PState) (hs : Inv k s) (r : Rec) (key : List UInt8)
    (hkey : k.obsKey r = some key) (n : Int) (it : Iter) (draws : List Nat) :
    k.partitionN s r n it draws = match kindHasher k key n with | none => .panic | some p => .ok s p := by
  cases k with
  | stickyKey h =>
    cases s <;> simp only [Inv] at hs
    simp only [PKind.obsKey] at hkey
    simp only [PKind.partitionN, stickyKeyPartition, hkey, kindHasher]
    cases h key n <;> rfl
  | uniformBytes c =>
    cases s <;> simp only [Inv] at hs
    simp only [PKind.obsKey] at hkey
    simp only [PKind.partitionN, UB.partitionByBackup, hkey, kindHasher]
    cases c.hasher key n <;> rfl
  | _ => simp [PKind.obsKey] at hkey

theorem ruleHolds_of_hasher (k : PKind) (rule : KeyRule) (hr : RuleOk k rule) (key : List UInt8) (n p : Int)
    (hn : 1 ≤ n) (hn2 : n ≤ 2147483647) (hp : kindHasher k key n = some p) : ruleHolds rule key n p = true := by
  have h : ∀ f, ruleFormula rule key n = some f → p = f := fun f hf => Option.some.inj (hp ▸ hr key n f hn hn2 hf)
  cases rule <;> simp [ruleHolds, ruleFormula] at h ⊢ <;> exact h

def toObs (t : Option (List UInt8) × Int × Int) : Obs := ⟨t.1, t.2.1, t.2.2⟩

/-- What one call guarantees of its observation, whatever came before: the pick is in range, and when the key
logic sees a key the pick is the hasher's answer for that key and `n`. -/
def CallOk (k : PKind) (o : Obs) : Prop :=
  0 ≤ o.pick ∧ o.pick < o.n ∧ o.n ≤ 2147483647 ∧ ∀ key, o.key = some key → kindHasher k key o.n = some o.pick

theorem run_calls (k : PKind) (hk : KindOk k) : ∀ (ops : List Op) (s : PState), Inv k s → (∀ op ∈ ops, OpValid k op) →
    ∃ picks, k.run s ops = some picks ∧ ∀ t ∈ picks, CallOk k (toObs t) := by
  intro ops
  induction ops with
  | nil => intro s _ _; exact ⟨[], rfl, nofun⟩
  | cons op ops ih =>
    intro s hs hv
    have hv' : ∀ op ∈ ops, OpValid k op := fun o ho => hv o (List.mem_cons_of_mem _ ho)
    cases op with
    | newBatch => exact ih _ (newBatch_inv k s hs) hv'
    | part r n mapping draws =>
      have hvo := hv _ List.mem_cons_self
      obtain ⟨s', p, e, i1, h0, h1⟩ := part_ok k s r n mapping draws hk hs hvo
      obtain ⟨picks, e2, hp⟩ := ih s' i1 hv'
      refine ⟨(k.obsKey r, n, p) :: picks, by rw [PKind.run, e]; simp only [e2, Option.map_some], ?_⟩
      refine List.forall_mem_cons.2 ⟨⟨h0, h1, hvo.2.1, fun key hkey => ?_⟩, hp⟩
      -- a keyed call is the hasher's answer
      rw [partitionN_keyed k s hs r key hkey] at e
      split at e
      · cases e
      · next q hq => cases e; exact hq

/-- Observations that each are the hasher's answer are consistent with one another and follow the rule the
hasher computes: the Spec's `traceOk`, from any earlier observations of the same kind. -/
theorem traceOk_of_calls (k : PKind) (rule : KeyRule) (hr : RuleOk k rule) : ∀ (tr earlier : List Obs),
    (∀ o ∈ earlier, CallOk k o) → (∀ o ∈ tr, CallOk k o) → traceOk rule earlier tr = true := by
  intro tr
  induction tr with
  | nil => intros; rfl
  | cons o tr ih =>
    intro earlier he ht
    obtain ⟨⟨h0, h1, h2, hkeyed⟩, ht⟩ := List.forall_mem_cons.1 ht
    simp only [traceOk, Bool.and_eq_true]
    refine ⟨?_, ih (o :: earlier) (List.forall_mem_cons.2 ⟨⟨h0, h1, h2, hkeyed⟩, he⟩) ht⟩
    simp only [obsOk, inRange, Bool.and_eq_true, decide_eq_true_eq]
    refine ⟨⟨h0, h1⟩, ?_⟩
    cases hkey : o.key with
    | none => rfl
    | some key =>
      have hp := hkeyed key hkey
      simp only [Bool.and_eq_true, List.all_eq_true]
      refine ⟨fun e hm => ?_, ruleHolds_of_hasher k rule hr key o.n o.pick (by omega) h2 hp⟩
      by_cases hc : (e.key == some key && e.n == o.n) = true
      · simp only [Bool.and_eq_true, beq_iff_eq] at hc
        have := (he e hm).2.2.2 key hc.1
        rw [hc.2, hp] at this
        simp [hc.1, hc.2, Option.some.inj this]
      · simp [hc]

theorem fnv_step (h : BitVec 32) (b : UInt8) :
    ((h ^^^ u32 b) * 16777619#32).toNat = ((h.toNat ^^^ b.toNat) * 16777619) % 4294967296 := by
  rw [BitVec.toNat_mul, BitVec.toNat_xor, toNat_u32]; rfl

theorem fnv_eq (data : List UInt8) : (fnv32a data).toNat = fnv1a32 data :=
  (List.foldl_hom BitVec.toNat fun h b => (fnv_step h b).symm).symm

end Proof.C28
