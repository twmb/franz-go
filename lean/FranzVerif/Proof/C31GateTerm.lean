import FranzVerif.Proof.C31Gate
/-! C31 — the gate: the lexicographic measure (`M`, `L`) that every action decreases, for any programs. The actions inside
a wait loop (re-check after a wake-up and park again, park) keep `main` of their thread, lower its `loc` and do not
broadcast; every other action lowers `main` (`Step.decrease`). A broadcast raises `loc` of the threads it wakes (0 at
`pWait`/`rWait`, 2 at `pWake`/`rWake`), which is why `main` comes first. So no run is infinite (`no_lex_descent`). -/
namespace Model.C31.Gate

def opLen : Op → Nat | .P => 3 | .Q => 5 | .A => 2 | .R => 5
def progLen : List Op → Nat | [] => 0 | o :: r => opLen o + progLen r

/-- straight-line actions left (a park costs one, paid when the thread first decides to wait) -/
def main (t : Th) : Nat := progLen t.prog + match t.pc with
  | .pLock q => if q then 5 else 3
  | .pPark q | .pWait q | .pWake q => if q then 4 else 2
  | .pUnlock q => if q then 3 else 1
  | .uLock _ => 2 | .uUnlock _ => 1 | .aLock => 2 | .aUnlock => 1
  | .rLock => 5 | .rPark _ | .rWait _ | .rWake _ => 4 | .rUnlock => 3 | .xLock => 2 | .xUnlock => 1
  | .done => 0

/-- actions left inside a wait loop before the thread is parked again -/
def loc (t : Th) : Nat := match t.pc with
  | .pWake _ | .rWake _ => 2 | .pPark _ | .rPark _ => 1 | _ => 0

theorem main_start (p : List Op) : main (start p) = progLen p := by
  rcases p with _ | ⟨_ | _ | _ | _, r⟩ <;> simp [start, main, progLen, opLen] <;> omega

theorem Step.decrease {sh : Sh} {t : Th} {sh' : Sh} {t' : Th} {b : Bool} (h : Step sh t sh' t' b) :
    main t' < main t ∨ (main t' = main t ∧ b = false ∧ loc t' < loc t) := by
  have hms := main_start t.prog
  cases h with
  | lockPark q | lockEnter q | park q | wakePark q | wakeEnter q => cases q <;> simp [main, loc]
  | _ => simp [↓hms, main, loc] <;> omega

def M (s : St Sh Th) : Nat := cnt main s.ths
def L (s : St Sh Th) : Nat := cnt loc s.ths

theorem no_lex_descent {α : Type} (M L : α → Nat) (f : Nat → α)
    (h : ∀ n, M (f (n + 1)) < M (f n) ∨ (M (f (n + 1)) = M (f n) ∧ L (f (n + 1)) < L (f n))) : False := by
  suffices H : ∀ m l n, M (f n) = m → L (f n) = l → False from H _ _ 0 rfl rfl
  intro m
  induction m using Nat.strongRecOn with
  | _ m ihm =>
    intro l
    induction l using Nat.strongRecOn with
    | _ l ihl =>
      intro n hm hl
      rcases h n with h1 | ⟨h1, h2⟩
      · exact ihm _ (hm ▸ h1) _ (n + 1) rfl rfl
      · exact ihl _ (hl ▸ h2) (n + 1) (h1.trans hm) rfl

end Model.C31.Gate
