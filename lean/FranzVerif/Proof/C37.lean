import FranzVerif.Model.C37
/-! `cset` rewrites the first header with the key or appends one; every law of the carrier — `Get` of other keys, `Keys`,
and the Spec's recursive predicates `changeOK`, `othersSame`, `expectGet` on the model's own observations — is an
induction along `cset`'s own recursion (`fun_induction cset`). A sequence of `Set`s is analysed from its last element
(`rev_ind`, `setAll_append`, `lastVal_append`). A carrier operation on record `i` of a batch is core's `List.modify`
(`bmod_eq_modify`). -/
namespace Proof.C37
open Model.C37

theorem get_set_self (h : List Hdr) (k v : Bytes) : cget (cset h k v) k = v := by
  fun_induction cset h k v with
  | case1 k v => simp [cget, Hdr.str]
  | case2 x xs v => simp [cget, Hdr.str]
  | case3 x xs k v hk ih => simp [cget, hk, ih]

theorem get_set_other (h : List Hdr) (k v k' : Bytes) (hne : k' ≠ k) : cget (cset h k v) k' = cget h k' := by
  fun_induction cset h k v with
  | case1 k v => simp [cget, Ne.symm hne]
  | case2 x xs v => simp [cget, Ne.symm hne]
  | case3 x xs k v hk ih => simp [cget, ih hne]

theorem keys_eq_map (h : List Hdr) : ckeys h = h.map (·.key) := by
  induction h with
  | nil => rfl
  | cons x xs ih => simp [ckeys, ih]

theorem keys_set (h : List Hdr) (k v : Bytes) :
    ckeys (cset h k v) = if k ∈ ckeys h then ckeys h else ckeys h ++ [k] := by
  fun_induction cset h k v with
  | case1 k v => rfl
  | case2 x xs v => simp [ckeys]
  | case3 x xs k v hk ih =>
    simp only [ckeys, ih, List.mem_cons, Ne.symm hk, false_or]
    split <;> rfl

theorem changeOK_refl (k v : Bytes) (h : List Hdr) : changeOK k v h h = true := by
  induction h with
  | nil => simp [changeOK]
  | cons x xs ih => simp [changeOK, ih]

theorem changeOK_set (h : List Hdr) (k v : Bytes) : changeOK k v h (cset h k v) = true := by
  fun_induction cset h k v with
  | case1 k v => simp [changeOK]
  | case2 x xs v =>
    simp only [changeOK]
    split
    · exact changeOK_refl x.key v xs
    · simp
  | case3 x xs k v hk ih => simp [changeOK, ih]

theorem othersSame_set_aux (k v : Bytes) (full : List Hdr) (xs : List Hdr) :
    othersSame k xs (xs.map fun x => cget full x.key) (xs.map fun x => cget (cset full k v) x.key) = true := by
  induction xs with
  | nil => simp [othersSame]
  | cons x xs ih =>
    simp only [List.map_cons, othersSame, ih, Bool.and_true, Bool.or_eq_true, beq_iff_eq]
    by_cases hk : x.key = k
    · left; exact hk
    · right; exact (get_set_other full k v x.key hk).symm

theorem othersSame_set (k v : Bytes) (full xs : List Hdr) :
    othersSame k xs (xs.map fun x => cget full x.key) ((cset xs k v).map fun x => cget (cset full k v) x.key) = true := by
  fun_induction cset xs k v with
  | case1 k v => rfl
  | case2 x xs v => simp [othersSame, othersSame_set_aux]
  | case3 x xs k v hk ih => simp [othersSame, ih, get_set_other full k v x.key hk]

theorem expectGet_eq (full xs : List Hdr) (k : Bytes) :
    expectGet xs (xs.map fun x => cget full x.key) k = if k ∈ xs.map (·.key) then cget full k else [] := by
  induction xs with
  | nil => rfl
  | cons x xs ih =>
    simp only [List.map_cons, expectGet, beq_iff_eq, List.mem_cons]
    by_cases hk : x.key = k
    · simp only [hk, if_true, true_or]
    · have : ¬ k = x.key := fun h => hk h.symm
      simp only [hk, if_false, this, false_or, ih]

theorem get_absent (h : List Hdr) (k : Bytes) (hk : k ∉ h.map (·.key)) : cget h k = [] := by
  induction h with
  | nil => rfl
  | cons x xs ih =>
    simp only [List.map_cons, List.mem_cons, not_or] at hk
    have : ¬ x.key = k := fun h => hk.1 h.symm
    simp [cget, this, ih hk.2]

theorem lastVal_append (kvs : List (Bytes × Bytes)) (kv : Bytes × Bytes) (k : Bytes) :
    lastVal (kvs ++ [kv]) k = if kv.1 = k then some kv.2 else lastVal kvs k := by
  simp [lastVal, List.foldl_append]

theorem setAll_append (h : List Hdr) (kvs : List (Bytes × Bytes)) (kv : Bytes × Bytes) :
    setAll h (kvs ++ [kv]) = cset (setAll h kvs) kv.1 kv.2 := by
  simp [setAll, List.foldl_append]

theorem rev_ind {α : Type} {P : List α → Prop} (hnil : P []) (snoc : ∀ l a, P l → P (l ++ [a])) : ∀ l, P l := by
  intro l
  rw [← List.reverse_reverse l]
  induction l.reverse with
  | nil => exact hnil
  | cons a t ih => rw [List.reverse_cons]; exact snoc _ _ ih

theorem bmod_eq_modify (f : List Hdr → List Hdr) (b : Batch) (i : Nat) : bmod f b i = b.modify i f := by
  induction b generalizing i with
  | nil => cases i <;> rfl
  | cons h rs ih => cases i with
    | zero => rfl
    | succ i => rw [bmod, ih, List.modify_succ_cons]

theorem bmod_length (f : List Hdr → List Hdr) (b : Batch) (i : Nat) : (bmod f b i).length = b.length := by
  rw [bmod_eq_modify, List.length_modify]

theorem bmod_get_self (f : List Hdr → List Hdr) (b : Batch) (i : Nat) : (bmod f b i)[i]? = (b[i]?).map f := by
  rw [bmod_eq_modify, List.getElem?_modify_eq]
  rfl

theorem bmod_get_other (f : List Hdr → List Hdr) (b : Batch) (i j : Nat) (hne : j ≠ i) :
    (bmod f b i)[j]? = b[j]? := by
  rw [bmod_eq_modify, List.getElem?_modify_ne _ _ (Ne.symm hne)]

theorem othersUntouched_bmod (f : List Hdr → List Hdr) (b : Batch) (i : Nat) :
    othersUntouched i (bobs b) (bobs (bmod f b i)) = true := by
  induction b generalizing i with
  | nil => simp [bmod, bobs, othersUntouched]
  | cons h rs ih =>
    cases i with
    | zero => simp [bmod, bobs, othersUntouched]
    | succ i =>
      have := ih i
      simp only [bobs] at this
      simp [bmod, bobs, othersUntouched, this]

theorem appHdrs_set_prop (h : List Hdr) (k v : Bytes) (hk : isPropKey k = true) : appHdrs (cset h k v) = appHdrs h := by
  unfold appHdrs
  fun_induction cset h k v with
  | case1 k v => simp [hk]
  | case2 x xs v => simp [hk]
  | case3 x xs k v hx ih => simp [List.filter_cons, ih hk]

theorem length_set (h : List Hdr) (k v : Bytes) :
    h.length ≤ (cset h k v).length ∧ (cset h k v).length ≤ h.length + 1 := by
  fun_induction cset h k v with
  | case1 k v => simp
  | case2 x xs v => simp
  | case3 x xs k v hk ih => simp only [List.length_cons]; omega

/-! `inject` is one or two `Set`s of propagation keys, so its laws are those of `cset` applied once or twice. -/

theorem get_inject_traceparent (h : List Hdr) (tp ts : Bytes) : cget (inject h tp ts) traceparentKey = tp :=
  get_set_self _ _ _

theorem get_inject_tracestate (h : List Hdr) (tp ts : Bytes) :
    cget (inject h tp ts) tracestateKey = if ts = [] then cget h tracestateKey else ts := by
  rw [inject, get_set_other _ _ _ _ (by decide : tracestateKey ≠ traceparentKey)]
  split
  · rfl
  · exact get_set_self _ _ _

theorem appHdrs_inject (h : List Hdr) (tp ts : Bytes) : appHdrs (inject h tp ts) = appHdrs h := by
  rw [inject, appHdrs_set_prop _ _ _ (by decide)]
  split
  · rfl
  · exact appHdrs_set_prop _ _ _ (by decide)

theorem length_inject (h : List Hdr) (tp ts : Bytes) :
    h.length ≤ (inject h tp ts).length ∧ (inject h tp ts).length ≤ h.length + 2 := by
  unfold inject
  split
  · have := length_set h traceparentKey tp; omega
  · have h1 := length_set h tracestateKey ts
    have h2 := length_set (cset h tracestateKey ts) traceparentKey tp
    omega

end Proof.C37
