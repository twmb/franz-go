import FranzVerif.Model.Txn
import FranzVerif.Proof.Txn
import FranzVerif.Proof.TxnInv
/-! The monitor's `lostEnd` list against the history-level observable `endResponseLost` (C11).

The monitor adds `k` to `lostEnd` when a `fault 26 2` event arrives while `s.ending = some k`; `ending` is set by
every `endStart` and cleared by every `endDone`. `endResponseLost k h` scans from each `endStart k` up to the next
`endDone` of any transaction and does not stop at an intermediate `endStart k'`, so it is the weaker of the two:
`k ∈ s.lostEnd → endResponseLost k h = true` (`LostInv.lost`), not the converse
(`[endStart 1 c, endStart 2 c, fault 26 2]`: `lostEnd = [2]`, `endResponseLost 1 = true`). That direction is the
one the refusal keys need: the known-finding key `C11.unconfirmed-commit-took-effect` is only given when
`endResponseLost` holds. -/
namespace Proof.Txn
open Model.Txn Proof.Monitor

def notEndDone : Ev → Bool := fun e => match e with | .endDone _ _ _ => false | _ => true

theorem endResponseLost_endStart (k k' : Nat) (c : Bool) (rest : List Ev) :
    endResponseLost k (.endStart k' c :: rest) =
      if k' == k then (rest.takeWhile notEndDone).any (fun e => e == .fault 26 2) || endResponseLost k rest
      else endResponseLost k rest := rfl

theorem any_takeWhile_append {α : Type} (p q : α → Bool) (l l' : List α)
    (h : (l.takeWhile p).any q = true) : ((l ++ l').takeWhile p).any q = true := by
  -- either `p` holds throughout `l`, which is then taken whole, or the prefix taken ends inside `l` and `l'` adds nothing
  rw [List.takeWhile_append]
  split
  · next e => rw [(List.takeWhile_prefix p).eq_of_length e] at h; rw [List.any_append, h]; rfl
  · exact h

theorem endResponseLost_append_right (k : Nat) (h h' : List Ev) (hl : endResponseLost k h = true) :
    endResponseLost k (h ++ h') = true := by
  induction h with
  | nil => cases hl
  | cons e es ih =>
    cases e with
    | endStart k' c =>
      rw [List.cons_append, endResponseLost_endStart]
      rw [endResponseLost_endStart] at hl
      split
      · rename_i hk
        simp only [hk, if_true, Bool.or_eq_true] at hl ⊢
        exact hl.imp (any_takeWhile_append _ _ _ _) ih
      · rename_i hk
        simp only [hk] at hl
        exact ih hl
    | _ => exact ih hl

theorem endResponseLost_append_left (k : Nat) (h h' : List Ev) (hl : endResponseLost k h' = true) :
    endResponseLost k (h ++ h') = true := by
  induction h with
  | nil => exact hl
  | cons e es ih =>
    cases e with
    | endStart k' c =>
      rw [List.cons_append, endResponseLost_endStart]
      split
      · simp [ih]
      · exact ih
    | _ => exact ih

theorem endResponseLost_of_fault (k : Nat) (c : Bool) (h₁ h₂ : List Ev) (hn : ∀ e ∈ h₂, notEndDone e = true) :
    endResponseLost k (h₁ ++ Ev.endStart k c :: (h₂ ++ [Ev.fault 26 2])) = true := by
  apply endResponseLost_append_left
  have : List.takeWhile notEndDone [Ev.fault 26 2] = [Ev.fault 26 2] := rfl
  rw [endResponseLost_endStart, List.takeWhile_append_of_pos hn, this]
  simp

structure LostInv (h : List Ev) (s : St) : Prop where
  ending : ∀ k, s.ending = some k → ∃ h₁ c h₂, h = h₁ ++ Ev.endStart k c :: h₂ ∧ ∀ e ∈ h₂, notEndDone e = true
  lost : ∀ k ∈ s.lostEnd, endResponseLost k h = true

theorem LostInv.ending_frame {h : List Ev} {ev : Ev} {s s' : St} (hi : LostInv h s)
    (e1 : s'.ending = s.ending) (hn : notEndDone ev = true) :
    ∀ k, s'.ending = some k →
      ∃ h₁ c h₂, h ++ [ev] = h₁ ++ Ev.endStart k c :: h₂ ∧ ∀ e ∈ h₂, notEndDone e = true := by
  intro k hk
  obtain ⟨h₁, c, h₂, rfl, hall⟩ := hi.ending k (e1 ▸ hk)
  refine ⟨h₁, c, h₂ ++ [ev], by simp, fun e he => ?_⟩
  rcases List.mem_append.1 he with he | he
  · exact hall e he
  · rw [List.mem_singleton.1 he]; exact hn

theorem LostInv.step {h : List Ev} {s : St} (hi : LostInv h s) (ev : Ev) : LostInv (h ++ [ev]) (apply s ev) := by
  have hlost : ∀ k ∈ s.lostEnd, endResponseLost k (h ++ [ev]) = true :=
    fun k hk => endResponseLost_append_right k h _ (hi.lost k hk)
  fun_cases apply s ev <;> try exact ⟨hi.ending_frame rfl rfl, hlost⟩
  -- left: `endStart k c` sets `ending`, `endDone` clears it, a lost response adds to `lostEnd`
  next k c => exact ⟨fun k' hk' => by cases hk'; exact ⟨h, c, [], rfl, by simp⟩, hlost⟩
  next k c ok => exact ⟨fun k' hk' => (nomatch hk'), hlost⟩
  next key act k hk hka =>
    -- a lost EndTxn response while `k` is ending
    obtain ⟨rfl, rfl⟩ : key = 26 ∧ act = 2 := by simpa using hka
    refine ⟨hi.ending_frame rfl rfl, fun k' hk' => ?_⟩
    rcases List.mem_cons.1 hk' with rfl | hk'
    · obtain ⟨h₁, c, h₂, rfl, hall⟩ := hi.ending k' hk
      simpa using endResponseLost_of_fault k' c h₁ h₂ hall
    · exact hlost k' hk'

theorem lostInv_of_run {h : List Ev} {s : St} (hr : run {} h = some s) : LostInv h s :=
  isMonitor.inv (fun _ _ ev hi _ => hi.step ev) ⟨by simp, by simp⟩ hr

theorem visible_check_unconfirmed {s : St} {part off : Nat} {id : Id}
    (h : check s (.visible part off id) = some "C11.unconfirmed-commit-took-effect") :
    ∃ k, txnOf s id = some k ∧ resultOf s k = some (true, false) ∧ k ∈ s.lostEnd := by
  revert h
  rw [check_visible]
  fun_cases visibleRule s id <;> intro h <;> try simp at h
  next k hk _ hres hl => exact ⟨k, hk, hres, by simpa using hl⟩

end Proof.Txn
