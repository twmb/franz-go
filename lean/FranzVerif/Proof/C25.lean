import FranzVerif.Model.C25
import FranzVerif.Proof.Ledger
import FranzVerif.Proof.ListFacts
/-! Every balancer is shown valid through `validPlan_of_tps`: every triple names a subscriber, and the (topic, partition)
pairs of the plan are a permutation of `tpsOf ts n` for a duplicate-free list `ts` that has every subscribed topic with a
partition; `validPlan_flatMap` is its topic-by-topic form. Range gets there by arithmetic on the quotas
(`sum_quotas_all`: they add up to the partition count, so `splitBy` hands out every partition phase 1 left), round robin
by showing that the walk over the members always reaches a subscriber (`rrFind_some`). `Keeps` is the contract of a loop
that threads a list of what it has already taken (the rack phase here, kfake's step 1 in `C25K`). -/
namespace Proof.C25
open Model.C25

theorem insertBy_perm (le : α → α → Bool) (x : α) (l : List α) : (insertBy le x l).Perm (x :: l) := by
  induction l with
  | nil => exact List.Perm.refl _
  | cons y ys ih =>
    simp only [insertBy]
    split
    · exact List.Perm.refl _
    · exact ((List.Perm.cons y ih).trans (List.Perm.swap x y ys))

theorem sortBy_perm (l : List α) (le : α → α → Bool) : (sortBy le l).Perm l := by
  induction l with
  | nil => exact List.Perm.refl _
  | cons x xs ih => exact (insertBy_perm le x _).trans (List.Perm.cons x ih)

theorem dedupAux_eq [BEq α] [LawfulBEq α] (seen l : List α) :
    dedupAux seen l = (l.filter fun x => !seen.contains x).eraseDups := by
  induction l generalizing seen with
  | nil => rfl
  | cons a as ih =>
    rw [dedupAux, List.filter_cons]
    cases h : seen.contains a
    · simp only [Bool.not_false, if_true, Bool.false_eq_true, if_false]
      rw [List.eraseDups_cons, List.filter_filter, ih]
      congr 3
      funext x
      rw [List.contains_cons, Bool.not_or]
    · simp only [Bool.not_true, if_true, Bool.false_eq_true, if_false]
      exact ih seen

theorem dedup_eq [BEq α] [LawfulBEq α] (l : List α) : dedup l = l.eraseDups := by
  rw [dedup, dedupAux_eq, show (l.filter fun x => ![].contains x) = l from List.filter_eq_self.mpr fun _ _ => rfl]

theorem mem_dedup [BEq α] [LawfulBEq α] (l : List α) (x : α) : x ∈ dedup l ↔ x ∈ l := by
  rw [dedup_eq, List.mem_eraseDups]

theorem nodup_dedup [BEq α] [LawfulBEq α] (l : List α) : (dedup l).Nodup := dedup_eq l ▸ List.nodup_eraseDups l

/-- every partition of every topic of `ts`, `n t` being the number of partitions of `t`. -/
def tpsOf (ts : List String) (n : String → Nat) : List TP := ts.flatMap fun t => (List.range (n t)).map fun p => (t, p)

theorem mem_tpsOf (ts : List String) (n : String → Nat) (tp : TP) : tp ∈ tpsOf ts n ↔ tp.1 ∈ ts ∧ tp.2 < n tp.1 := by
  simp only [tpsOf, List.mem_flatMap, List.mem_map, List.mem_range]
  constructor
  · rintro ⟨t, ht, p, hp, rfl⟩; exact ⟨ht, hp⟩
  · rintro ⟨h1, h2⟩; exact ⟨tp.1, h1, tp.2, h2, rfl⟩

theorem nodup_tpsOf (ts : List String) (hnd : ts.Nodup) (n : String → Nat) : (tpsOf ts n).Nodup := by
  unfold tpsOf List.Nodup
  rw [List.pairwise_flatMap]
  constructor
  · intro t _
    rw [List.pairwise_map]
    exact List.nodup_range.imp fun h e => h (congrArg Prod.snd e)
  · refine hnd.imp fun h x hx y hy e => ?_
    obtain ⟨p, _, rfl⟩ := List.mem_map.mp hx
    obtain ⟨q, _, rfl⟩ := List.mem_map.mp hy
    exact h (congrArg Prod.fst e)

theorem parts_tpsOf (ts : List String) (hnd : ts.Nodup) (n : String → Nat) (t : String) :
    ((tpsOf ts n).filter (·.1 == t)).map (·.2) = if t ∈ ts then List.range (n t) else [] := by
  induction ts with
  | nil => rfl
  | cons u us ih =>
    obtain ⟨hu, hus⟩ := List.nodup_cons.mp hnd
    rw [tpsOf, List.flatMap_cons, List.filter_append, List.map_append, ← tpsOf, ih hus]
    by_cases h : u = t
    · subst h
      simp [List.filter_map, Function.comp_def, hu]
    · simp [List.filter_map, Function.comp_def, h, Ne.symm h]

theorem filter_tpsOf (ts : List String) (n : String → Nat) (f : String → Bool) :
    (tpsOf ts n).filter (fun p => f p.1) = tpsOf (ts.filter f) n := by
  induction ts with
  | nil => rfl
  | cons t ts ih =>
    rw [tpsOf, List.flatMap_cons, List.filter_append, ← tpsOf, ih, List.filter_map, List.filter_cons]
    cases h : f t <;> simp [h, tpsOf, Function.comp_def]
    rw [List.filter_eq_self.mpr fun _ _ => rfl]

theorem validPlan_iff (subs : List (String × List String)) (n : String → Nat) (P : List Triple) :
    validPlan subs n P = true ↔
      (∀ x ∈ P, (∃ s ∈ subs, s.1 = x.1 ∧ x.2.1 ∈ s.2) ∧ x.2.2 < n x.2.1) ∧
      (∀ t ∈ subs.flatMap (·.2), ((P.filter fun x => x.2.1 == t).map (·.2.2)).Perm (List.range (n t))) := by
  simp only [validPlan, Bool.and_eq_true, List.all_eq_true, List.any_eq_true, decide_eq_true_eq, beq_iff_eq,
    List.contains_iff_mem, List.isPerm_iff]

theorem validPlan_once (subs : List (String × List String)) (n : String → Nat) (P : List Triple)
    (h : validPlan subs n P = true) (t : String) (ht : t ∈ subs.flatMap (·.2)) (p : Nat) (hp : p < n t) :
    (P.filter fun x => x.2.1 == t && x.2.2 == p).length = 1 := by
  have hc : List.count p ((P.filter fun x => x.2.1 == t).map (·.2.2)) = 1 := by
    rw [(((validPlan_iff subs n P).mp h).2 t ht).count_eq, List.nodup_range.count, if_pos (List.mem_range.mpr hp)]
  rw [List.count_eq_length_filter, List.filter_map, List.length_map, List.filter_filter] at hc
  rw [← hc]
  congr 1
  exact List.filter_congr fun x _ => Bool.and_comm ..

theorem validPlan_of_tps (subs : List (String × List String)) (n : String → Nat) (P : List Triple) (ts : List String)
    (hnd : ts.Nodup) (hts : ∀ t ∈ subs.flatMap (·.2), t ∉ ts → n t = 0)
    (hsub : ∀ x ∈ P, ∃ s ∈ subs, s.1 = x.1 ∧ x.2.1 ∈ s.2) (hperm : (P.map Triple.tp).Perm (tpsOf ts n)) :
    validPlan subs n P = true := by
  refine (validPlan_iff subs n P).mpr ⟨fun x hx => ⟨hsub x hx, ?_⟩, fun t ht => ?_⟩
  · exact ((mem_tpsOf ts n _).mp (hperm.mem_iff.mp (List.mem_map_of_mem hx))).2
  · have : (P.filter fun x => x.2.1 == t).map (·.2.2) = ((P.map Triple.tp).filter (·.1 == t)).map (·.2) := by
      rw [List.filter_map, List.map_map]; rfl
    rw [this]
    refine ((hperm.filter _).map _).trans ?_
    rw [parts_tpsOf ts hnd]
    split
    · exact List.Perm.refl _
    · next h => rw [hts t ht h]; exact List.Perm.refl _

/-- A member named `a` that lists topic `t` is an entry of the subscription list `validPlan` reads: the `hsub` of
`validPlan_of_tps` for a plan whose triples name members. -/
theorem sub_of_member {α} (f : α → String) (g : α → List String) {ms : List α} {a t : String}
    (h : ∃ m ∈ ms, a = f m ∧ t ∈ g m) : ∃ s ∈ ms.map (fun m => (f m, g m)), s.1 = a ∧ t ∈ s.2 :=
  let ⟨m, hm, h1, h2⟩ := h
  ⟨_, List.mem_map.mpr ⟨m, hm, rfl⟩, h1.symm, h2⟩

theorem flatMap_subs {α} (f : α → String) (g : α → List String) (ms : List α) :
    (ms.map fun m => (f m, g m)).flatMap (·.2) = ms.flatMap g :=
  List.flatMap_map _ _ ms

theorem length_indexFrom (k : Nat) (l : List α) : (indexFrom k l).length = l.length := by
  induction l generalizing k with
  | nil => rfl
  | cons a as ih => simp [indexFrom, ih]

/-- Σ of the quotas of consumers k … k+len-1 (the first `r` consumers get one more than `d`). `min r k` counts the
consumers before `k` that got the extra one; it stands on both sides so that the induction needs no subtraction. -/
theorem sum_quotas (d r k : Nat) (l : List α) :
    ((indexFrom k l).map (quotaOf d r)).sum + min r k = l.length * d + min r (k + l.length) := by
  induction l generalizing k with
  | nil => simp [indexFrom]
  | cons a as ih =>
    have h := ih (k + 1)
    have hq : quotaOf d r k + min r k = d + min r (k + 1) := by
      unfold quotaOf
      by_cases hk : k < r
      · rw [if_pos hk, Nat.min_eq_right (Nat.le_of_lt hk), Nat.min_eq_right hk]; omega
      · rw [if_neg hk, Nat.min_eq_left (Nat.le_of_not_lt hk), Nat.min_eq_left (by omega)]
    simp only [indexFrom, List.map_cons, List.sum_cons, List.length_cons, Nat.succ_mul]
    rw [show k + (as.length + 1) = k + 1 + as.length by omega]
    omega

theorem sum_quotas_all (numP : Nat) (l : List α) (h : l ≠ []) :
    ((indexFrom 0 l).map (quotaOf (numP / l.length) (numP % l.length))).sum = numP := by
  have h1 := Nat.mod_lt numP (List.length_pos_iff.mpr h)
  have h2 := Nat.div_add_mod numP l.length
  have h3 := sum_quotas (numP / l.length) (numP % l.length) 0 l
  rw [Nat.min_zero, Nat.zero_add, Nat.min_eq_left (Nat.le_of_lt h1)] at h3
  omega

theorem flatten_splitBy (qs : List Nat) (l : List α) : (splitBy qs l).flatten = l.take qs.sum := by
  induction qs generalizing l with
  | nil => simp [splitBy]
  | cons q qs ih => simp only [splitBy, List.flatten_cons, ih, List.sum_cons, List.take_add]

theorem length_splitBy (qs : List Nat) (l : List α) : (splitBy qs l).length = qs.length := by
  induction qs generalizing l with
  | nil => rfl
  | cons q qs ih => simp [splitBy, ih]

/-- `tag` and `tagK`: the `i`-th member, named by `f`, gets the `i`-th list of partitions of topic `t`. -/
def tagged (f : α → String) (t : String) (cs : List α) (ls : List (List Nat)) : List Triple :=
  (cs.zip ls).flatMap fun cl => cl.2.map fun p => (f cl.1, t, p)

theorem tag_eq (t : String) (cs : List Member) (ls : List (List Nat)) : tag t cs ls = tagged (·.id) t cs ls := by
  induction cs generalizing ls with
  | nil => cases ls <;> rfl
  | cons c cs ih => cases ls <;> simp [tag, ih, tagged]

theorem tagK_eq (t : String) (cs : List KMember) (ls : List (List Nat)) : tagK t cs ls = tagged (·.id) t cs ls := by
  induction cs generalizing ls with
  | nil => cases ls <;> rfl
  | cons c cs ih => cases ls <;> simp [tagK, ih, tagged]

theorem map_part_tagged (f : α → String) (t : String) (cs : List α) (ls : List (List Nat)) (h : ls.length ≤ cs.length) :
    (tagged f t cs ls).map (·.2.2) = ls.flatten := by
  rw [tagged, List.map_flatMap]
  simp only [List.map_map, Function.comp_def, List.map_id']
  exact congrArg List.flatten (List.map_snd_zip h)

theorem mem_tagged (f : α → String) (t : String) (cs : List α) (ls : List (List Nat)) (x : Triple)
    (hx : x ∈ tagged f t cs ls) : x.2.1 = t ∧ ∃ c ∈ cs, x.1 = f c := by
  obtain ⟨cl, hcl, hx⟩ := List.mem_flatMap.mp hx
  obtain ⟨p, _, rfl⟩ := List.mem_map.mp hx
  exact ⟨rfl, cl.1, (List.of_mem_zip hcl).1, rfl⟩

theorem tps_of_topic (Q : List Triple) (t : String) (h : ∀ x ∈ Q, x.2.1 = t) :
    Q.map Triple.tp = (Q.map (·.2.2)).map fun p => (t, p) := by
  rw [List.map_map]
  exact List.map_congr_left fun x hx => by rw [Triple.tp, h x hx]; rfl

/-- naming a member on (topic, partition) pairs and reading the pairs back -/
theorem map_tp_named (id : String) (l : List TP) : (l.map fun tp => ((id, tp.1, tp.2) : Triple)).map Triple.tp = l := by
  rw [List.map_map]
  exact List.map_id _

theorem validPlan_flatMap (subs : List (String × List String)) (n : String → Nat) (ts : List String) (hnd : ts.Nodup)
    (hts : ∀ t ∈ subs.flatMap (·.2), t ∉ ts → n t = 0) (plan : String → List Triple)
    (hmem : ∀ t ∈ ts, ∀ x ∈ plan t, x.2.1 = t ∧ ∃ s ∈ subs, s.1 = x.1 ∧ t ∈ s.2)
    (hparts : ∀ t ∈ ts, ((plan t).map (·.2.2)).Perm (List.range (n t))) :
    validPlan subs n (ts.flatMap plan) = true := by
  refine validPlan_of_tps subs n _ ts hnd hts (fun x hx => ?_) ?_
  · obtain ⟨t, ht, hxt⟩ := List.mem_flatMap.mp hx
    obtain ⟨e, s, hs, h1, h2⟩ := hmem t ht x hxt
    exact ⟨s, hs, h1, e ▸ h2⟩
  · rw [List.map_flatMap]
    refine List.perm_flatMap fun t ht => ?_
    rw [tps_of_topic _ t fun x hx => (hmem t ht x hx).1]
    exact (hparts t ht).map _

/-- What a loop that threads a `seen` list does from `seen` (the rack phase of range; each of the three nested loops of
kfake's step 1): it keeps a duplicate-free list `K` of elements that satisfy `V`, none of which was seen before, and has then
seen (`seen'`) those as well. -/
structure Keeps {α : Type} (V : α → Prop) (seen K seen' : List α) : Prop where
  nodup : K.Nodup
  valid : ∀ tp ∈ K, V tp ∧ tp ∉ seen
  mem_seen : ∀ x, x ∈ seen' ↔ x ∈ seen ∨ x ∈ K

theorem Keeps.nil {α : Type} (V : α → Prop) (seen : List α) : Keeps V seen [] seen :=
  ⟨List.nodup_nil, by simp, by simp⟩

theorem Keeps.mono {α : Type} {V W : α → Prop} {seen K seen' : List α} (h : Keeps V seen K seen') (hVW : ∀ tp, V tp → W tp) :
    Keeps W seen K seen' :=
  ⟨h.nodup, fun tp htp => ⟨hVW tp (h.valid tp htp).1, (h.valid tp htp).2⟩, h.mem_seen⟩

theorem Keeps.append {α : Type} {V : α → Prop} {seen K₁ s₁ K₂ s₂ : List α} (h₁ : Keeps V seen K₁ s₁) (h₂ : Keeps V s₁ K₂ s₂) :
    Keeps V seen (K₁ ++ K₂) s₂ := by
  obtain ⟨p1, p2, p3⟩ := h₁
  obtain ⟨i1, i2, i3⟩ := h₂
  refine ⟨List.nodup_append.mpr ⟨p1, i1, fun x hx y hy hxy => ?_⟩, fun tp htp => ?_, fun x => ?_⟩
  · exact (i2 y hy).2 ((p3 y).mpr (Or.inr (hxy ▸ hx)))
  · rcases List.mem_append.mp htp with h | h
    · exact p2 tp h
    · exact ⟨(i2 tp h).1, fun hm => (i2 tp h).2 ((p3 tp).mpr (Or.inl hm))⟩
  · rw [i3 x, p3 x, List.mem_append, or_assoc]

theorem phase1Take_spec (numP : Nat) (racks : List String) (q : Nat) (c : Member) (a : List Nat) :
    (phase1Take numP racks q c a).Nodup ∧ (phase1Take numP racks q c a).length ≤ q ∧
    ∀ p ∈ phase1Take numP racks q c a, p < numP ∧ p ∉ a := by
  unfold phase1Take
  split
  · split
    · simp
    · refine ⟨List.nodup_range.sublist ((List.take_sublist _ _).trans List.filter_sublist), List.length_take_le _ _, ?_⟩
      intro p hp
      have := List.mem_filter.mp (List.mem_of_mem_take hp)
      simp only [Bool.and_eq_true, Bool.not_eq_true', ← Bool.not_eq_true, List.contains_iff_mem] at this
      exact ⟨List.mem_range.mp this.1, this.2.1⟩
  · simp

theorem length_phase1 (numP : Nat) (racks : List String) (d r : Nat) (cs : List Member) (ci : Nat) (a : List Nat) :
    (phase1 numP racks d r cs ci a).length = cs.length := by
  induction cs generalizing ci a with
  | nil => rfl
  | cons c cs ih => simp [phase1, ih]

theorem phase1_spec (numP : Nat) (racks : List String) (d r : Nat) (cs : List Member) (ci : Nat) (a : List Nat) :
    Keeps (· < numP) a (phase1 numP racks d r cs ci a).flatten (a ++ (phase1 numP racks d r cs ci a).flatten) ∧
    ((indexFrom ci cs).zipWith (fun i tk => quotaOf d r i - tk.length) (phase1 numP racks d r cs ci a)).sum
      + (phase1 numP racks d r cs ci a).flatten.length = ((indexFrom ci cs).map (quotaOf d r)).sum := by
  induction cs generalizing ci a with
  | nil => exact ⟨by simpa [phase1] using Keeps.nil _ a, by simp [phase1, indexFrom]⟩
  | cons c cs ih =>
    obtain ⟨t1, t2, t3⟩ := phase1Take_spec numP racks (quotaOf d r ci) c a
    obtain ⟨i, is⟩ := ih (ci + 1) (a ++ phase1Take numP racks (quotaOf d r ci) c a)
    simp only [phase1, List.flatten_cons, indexFrom, List.zipWith_cons_cons, List.sum_cons, List.length_append,
      List.map_cons]
    exact ⟨List.append_assoc .. ▸ Keeps.append ⟨t1, t3, fun _ => List.mem_append⟩ i, by omega⟩

theorem rangeTopic_parts (ms : List Member) (topics : List (String × Nat)) (racks : List (String × List String))
    (t : String) (hne : consumersOf ms t ≠ []) :
    ((rangeTopic ms topics racks t).map (·.2.2)).Perm (List.range (cnt topics t)) := by
  unfold rangeTopic
  simp only []
  generalize consumersOf ms t = cs at hne
  generalize cnt topics t = numP
  generalize (racks.lookup t).getD [] = tr
  obtain ⟨⟨p1, p2, _⟩, p3⟩ := phase1_spec numP tr (numP / cs.length) (numP % cs.length) cs 0 []
  have hlenT := length_phase1 numP tr (numP / cs.length) (numP % cs.length) cs 0 []
  generalize phase1 numP tr (numP / cs.length) (numP % cs.length) cs 0 [] = T at p1 p2 p3 hlenT
  rw [sum_quotas_all numP cs hne] at p3
  -- what phase 1 took and the rest of the partitions; the quotas left add up to the length of the rest
  have hperm := List.perm_append_filter_not (List.range numP) T.flatten List.nodup_range p1
    fun p hp => List.mem_range.mpr (p2 p hp).1
  have hlenU := hperm.length_eq
  simp only [List.length_append, List.length_range] at hlenU
  rw [List.map_append, tag_eq, tag_eq, map_part_tagged _ _ _ _ (by omega),
    map_part_tagged _ _ _ _ (by rw [length_splitBy, List.length_zipWith, length_indexFrom]; omega),
    flatten_splitBy, List.take_of_length_le (by omega)]
  exact hperm

theorem mem_consumersOf (ms : List Member) (t : String) (c : Member) : c ∈ consumersOf ms t ↔ c ∈ ms ∧ t ∈ c.topics := by
  unfold consumersOf sortMembers
  rw [(sortBy_perm _ _).mem_iff]
  simp only [List.mem_flatMap, List.mem_map, List.mem_filter, beq_iff_eq]
  constructor
  · rintro ⟨m, hm, x, ⟨hx, rfl⟩, rfl⟩; exact ⟨hm, hx⟩
  · rintro ⟨hm, ht⟩; exact ⟨c, hm, t, ⟨ht, rfl⟩, rfl⟩

theorem mem_rangeTopic (ms : List Member) (topics : List (String × Nat)) (racks : List (String × List String))
    (t : String) (x : Triple) (hx : x ∈ rangeTopic ms topics racks t) :
    x.2.1 = t ∧ ∃ c ∈ ms, x.1 = c.id ∧ t ∈ c.topics := by
  unfold rangeTopic at hx
  simp only [tag_eq] at hx
  rcases List.mem_append.mp hx with hx | hx <;>
  · obtain ⟨h1, c, hc, h2⟩ := mem_tagged _ _ _ _ _ hx
    exact ⟨h1, c, ((mem_consumersOf ms t c).mp hc).1, h2, ((mem_consumersOf ms t c).mp hc).2⟩

theorem walk_reaches (len start j : Nat) (hj : j < len) : ∃ k, k < len ∧ (start + k) % len = j := by
  have hs := Nat.mod_lt start (show 0 < len by omega)
  simp only [← Nat.mod_add_mod start len]
  generalize start % len = s at hs
  by_cases hc : s ≤ j
  · exact ⟨j - s, by omega, by rw [show s + (j - s) = j by omega]; exact Nat.mod_eq_of_lt hj⟩
  · exact ⟨j + len - s, by omega, by
      rw [show s + (j + len - s) = j + len by omega, Nat.add_mod_right]; exact Nat.mod_eq_of_lt hj⟩

theorem rrFind_some (ms : List Member) (t : String) (start : Nat) (h : ∃ m ∈ ms, t ∈ m.topics) :
    ∃ i m, rrFind ms t start = some i ∧ ms[i]? = some m ∧ t ∈ m.topics := by
  obtain ⟨m, hm, ht⟩ := h
  obtain ⟨j, hj, hjm⟩ := List.getElem_of_mem hm
  obtain ⟨k, hk, hkj⟩ := walk_reaches ms.length start j hj
  have hsome : (rrFind ms t start).isSome = true := by
    unfold rrFind
    rw [List.find?_isSome]
    refine ⟨j, List.mem_map.mpr ⟨k, List.mem_range.mpr hk, hkj⟩, ?_⟩
    rw [List.getElem?_eq_getElem hj, hjm]
    exact List.contains_iff_mem.mpr ht
  obtain ⟨i, hi⟩ := Option.isSome_iff_exists.mp hsome
  have hp := List.find?_some hi
  cases hmi : ms[i]? with
  | none => simp [hmi] at hp
  | some m' =>
    simp only [hmi] at hp
    exact ⟨i, m', hi, hmi, List.contains_iff_mem.mp hp⟩

theorem rrGo_spec (ms : List Member) (idx : Nat) (parts : List TP)
    (h : ∀ tp ∈ parts, ∃ m ∈ ms, tp.1 ∈ m.topics) :
    ∃ P, rrGo ms idx parts = some P ∧ P.map Triple.tp = parts ∧
      ∀ x ∈ P, ∃ m ∈ ms, x.1 = m.id ∧ x.2.1 ∈ m.topics := by
  induction parts generalizing idx with
  | nil => exact ⟨[], rfl, rfl, by simp⟩
  | cons tp rest ih =>
    obtain ⟨t, p⟩ := tp
    obtain ⟨i, m, h1, h2, h3⟩ := rrFind_some ms t idx (h (t, p) List.mem_cons_self)
    obtain ⟨P, hP, hmap, hall⟩ := ih ((i + 1) % ms.length) (fun tp htp => h tp (List.mem_cons_of_mem _ htp))
    refine ⟨(m.id, t, p) :: P, by simp [rrGo, h1, h2, hP], by simp [Triple.tp, hmap], fun x hx => ?_⟩
    rcases List.mem_cons.mp hx with rfl | hx
    · exact ⟨m, List.mem_of_getElem? h2, rfl, h3⟩
    · exact hall x hx

end Proof.C25
