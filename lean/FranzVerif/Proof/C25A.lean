import FranzVerif.Proof.C25
/-! `adjust` (AdjustCooperative) is a fold of `adjStep` — erase one triple per revoked partition — over `revokedList`.
So its result is a sublist of the plan, and a triple that disappeared was erased for a revoked partition, which some
member claims and which therefore has a current owner (`withheld_has_owner`): that is `validCoop`. The converse
direction (`withheld_of_not_current`: a triple handed to a non-owner while another member still claims the partition is
erased) and `adjust_next_eq` are what Props/C27 builds on. -/
namespace Proof.C25
open Model.C25

/-- one step of the removal loop of `adjust`. -/
def adjStep (ms : List Member) (plan : List Triple) (acc : List Triple) (tp : TP) : List Triple :=
  match addedTo ms plan tp with
  | some a => acc.erase (a.id, tp.1, tp.2)
  | none => acc

theorem adjust_eq (ms : List Member) (plan : List Triple) :
    adjust ms plan = (revokedList ms plan).foldl (adjStep ms plan) plan := rfl

theorem adjStep_sublist (ms : List Member) (plan acc : List Triple) (tp : TP) : (adjStep ms plan acc tp).Sublist acc := by
  unfold adjStep; split
  · exact List.erase_sublist
  · exact List.Sublist.refl _

theorem foldl_adjStep_sublist (ms : List Member) (plan : List Triple) (L : List TP) (acc : List Triple) :
    (L.foldl (adjStep ms plan) acc).Sublist acc := by
  induction L generalizing acc with
  | nil => exact List.Sublist.refl _
  | cons tp L ih => exact (ih _).trans (adjStep_sublist ms plan acc tp)

theorem adjust_sublist (ms : List Member) (plan : List Triple) : (adjust ms plan).Sublist plan :=
  foldl_adjStep_sublist ms plan _ plan

theorem erased_of_not_mem (ms : List Member) (plan : List Triple) (L : List TP) (acc : List Triple) (x : Triple)
    (hx : x ∈ acc) (hn : x ∉ L.foldl (adjStep ms plan) acc) :
    ∃ tp ∈ L, ∃ a, addedTo ms plan tp = some a ∧ x = (a.id, tp.1, tp.2) := by
  induction L generalizing acc with
  | nil => exact absurd hx hn
  | cons tp L ih =>
    by_cases hin : x ∈ adjStep ms plan acc tp
    · obtain ⟨tp', h1, h2⟩ := ih _ hin hn
      exact ⟨tp', List.mem_cons_of_mem _ h1, h2⟩
    · unfold adjStep at hin
      split at hin
      · next a ha =>
        by_cases he : x = (a.id, tp.1, tp.2)
        · exact ⟨tp, List.mem_cons_self, a, ha, he⟩
        · exact absurd ((List.mem_erase_of_ne he).mpr hx) hin
      · exact absurd hx hin

theorem not_mem_of_erased (ms : List Member) (plan : List Triple) (L : List TP) (acc : List Triple)
    (hnd : acc.Nodup) (tp : TP) (htp : tp ∈ L) (a : Member) (ha : addedTo ms plan tp = some a) :
    (a.id, tp.1, tp.2) ∉ L.foldl (adjStep ms plan) acc := by
  induction L generalizing acc with
  | nil => cases htp
  | cons tp' L ih =>
    rcases List.mem_cons.mp htp with rfl | h
    · intro hm
      have := (foldl_adjStep_sublist ms plan L _).subset hm
      rw [adjStep, ha] at this
      exact ((List.Nodup.mem_erase_iff hnd).mp this).1 rfl
    · exact ih _ (hnd.sublist (adjStep_sublist ms plan acc tp')) h

theorem claims_iff (m : Member) (tp : TP) : claims m tp = true ↔ ∃ e ∈ m.owned, e.1 = tp.1 ∧ tp.2 ∈ e.2 := by
  simp only [claims, List.any_eq_true, Bool.and_eq_true, beq_iff_eq, List.contains_iff_mem]

theorem mem_revokedList (ms : List Member) (plan : List Triple) (tp : TP) :
    tp ∈ revokedList ms plan ↔ ∃ m ∈ ms, claims m tp = true ∧ (m.id, tp.1, tp.2) ∉ plan := by
  unfold revokedList
  simp only [mem_dedup, claims_iff, List.mem_flatMap, List.mem_map, List.mem_filter, Bool.not_eq_true',
    ← Bool.not_eq_true, List.contains_iff_mem]
  constructor
  · rintro ⟨m, hm, e, he, p, ⟨hp, hnc⟩, rfl⟩
    exact ⟨m, hm, ⟨e, he, rfl, hp⟩, hnc⟩
  · rintro ⟨m, hm, ⟨e, he, h1, h2⟩, h3⟩
    exact ⟨m, hm, e, he, tp.2, ⟨h2, h1 ▸ h3⟩, by rw [h1]⟩

/-- among the claimants of a partition there is one of maximal generation: a current owner. -/
theorem exists_currentOwner (ms : List Member) (tp : TP) (h : ∃ m ∈ ms, claims m tp = true) :
    ∃ m ∈ ms, currentOwner ms m tp = true := by
  obtain ⟨m0, hm0, hc0⟩ := h
  have hne : (ms.filter (claims · tp)).map (·.gen) ≠ [] :=
    List.ne_nil_of_mem (List.mem_map_of_mem (List.mem_filter.mpr ⟨hm0, hc0⟩))
  obtain ⟨g, hg⟩ := Option.isSome_iff_exists.mp (List.isSome_max?_iff.mpr hne)
  obtain ⟨hmem, hmax⟩ := List.max?_eq_some_iff.mp hg
  obtain ⟨m, hm, rfl⟩ := List.mem_map.mp hmem
  have := List.mem_filter.mp hm
  refine ⟨m, this.1, ?_⟩
  simp only [currentOwner, Bool.and_eq_true, List.all_eq_true, decide_eq_true_eq]
  exact ⟨this.2, fun o ho => hmax _ (List.mem_map_of_mem ho)⟩

theorem foldl_maxStep (l : List Member) (a : Int) :
    ∃ g, l.foldl maxStep (some a) = some g ∧ a ≤ g ∧ ∀ o ∈ l, o.gen ≤ g := by
  induction l generalizing a with
  | nil => exact ⟨a, rfl, Int.le_refl _, fun o ho => by cases ho⟩
  | cons x xs ih =>
    simp only [List.foldl_cons, maxStep, List.mem_cons, forall_eq_or_imp]
    split
    · obtain ⟨g, h1, h2, h3⟩ := ih x.gen
      exact ⟨g, h1, by omega, h2, h3⟩
    · obtain ⟨g, h1, h2, h3⟩ := ih a
      exact ⟨g, h1, h2, by omega, h3⟩

theorem geMax_false_of_higher (ms : List Member) (m o : Member) (tp : TP) (ho : o ∈ ms) (hc : claims o tp = true)
    (hlt : m.gen < o.gen) : geMax ms m tp = false := by
  unfold geMax maxClaim
  have hmem : o ∈ ms.filter (claims · tp) := List.mem_filter.mpr ⟨ho, hc⟩
  cases hl : ms.filter (claims · tp) with
  | nil => rw [hl] at hmem; cases hmem
  | cons x xs =>
    obtain ⟨g, h1, h2, h3⟩ := foldl_maxStep xs x.gen
    rw [List.foldl_cons, maxStep, h1]
    have : o.gen ≤ g := by
      rcases List.mem_cons.mp (hl ▸ hmem) with rfl | h
      · exact h2
      · exact h3 o h
    simp only [decide_eq_false_iff_not]
    omega

theorem withheld_has_owner (ms : List Member) (P : List Triple) (x : Triple) (hx : x ∈ P) (hn : x ∉ adjust ms P) :
    ∃ o ∈ ms, currentOwner ms o (x.2.1, x.2.2) = true := by
  obtain ⟨tp, htp, a, _, rfl⟩ := erased_of_not_mem ms P _ P x hx hn
  obtain ⟨m, hm, hc, _⟩ := (mem_revokedList ms P tp).mp htp
  exact exists_currentOwner ms tp ⟨m, hm, hc⟩

theorem adjust_count (ms : List Member) (P : List Triple) (t : String) (p : Nat)
    (hone : (P.filter fun x => x.2.1 == t && x.2.2 == p).length = 1) :
    ((adjust ms P).filter fun x => x.2.1 == t && x.2.2 == p).length = 1 ∨
    (((adjust ms P).filter fun x => x.2.1 == t && x.2.2 == p).length = 0 ∧
      ∃ o ∈ ms, currentOwner ms o (t, p) = true ∧ (o.id, t, p) ∉ adjust ms P) := by
  have hle := ((adjust_sublist ms P).filter fun x => x.2.1 == t && x.2.2 == p).length_le
  by_cases hc : ((adjust ms P).filter fun x => x.2.1 == t && x.2.2 == p).length = 1
  · exact Or.inl hc
  ·
    have hz : ((adjust ms P).filter fun x => x.2.1 == t && x.2.2 == p).length = 0 := by omega
    have hgone : ∀ y, y.2.1 = t → y.2.2 = p → y ∉ adjust ms P := fun y h1 h2 hy =>
      List.ne_nil_of_mem (List.mem_filter.mpr ⟨hy, by rw [h1, h2, beq_self_eq_true, beq_self_eq_true]; rfl⟩)
        (List.length_eq_zero_iff.mp hz)
    obtain ⟨x0, hx0⟩ := List.exists_mem_of_length_pos (show 0 < _ by rw [hone]; exact Nat.one_pos)
    obtain ⟨hx0P, hx0tp⟩ := List.mem_filter.mp hx0
    simp only [Bool.and_eq_true, beq_iff_eq] at hx0tp
    obtain ⟨o, ho, hcur⟩ := withheld_has_owner ms P x0 hx0P (hgone x0 hx0tp.1 hx0tp.2)
    rw [hx0tp.1, hx0tp.2] at hcur
    exact Or.inr ⟨hz, o, ho, hcur, hgone (o.id, t, p) rfl rfl⟩

theorem isAdded_of_not_current (ms : List Member) (P : List Triple) (m : Member) (tp : TP)
    (hP : (m.id, tp.1, tp.2) ∈ P) (hcm : currentOwner ms m tp = false) : isAdded ms P m tp = true := by
  unfold isAdded
  simp only [Bool.and_eq_true, List.contains_iff_mem, Bool.or_eq_true, List.any_eq_true, Bool.not_eq_true']
  refine ⟨hP, ?_⟩
  cases hes : (m.owned.filter (·.1 == tp.1)) with
  | nil => exact Or.inl rfl
  | cons e0 es =>
    refine Or.inr ⟨e0, List.mem_cons_self, ?_⟩
    by_cases hcl : claims m tp = true
    · -- m claims it, so somebody claims it at a higher generation
      simp only [currentOwner, hcl, Bool.true_and, List.all_eq_false, decide_eq_true_eq] at hcm
      obtain ⟨o', ho', hlt⟩ := hcm
      rw [geMax_false_of_higher ms m o' _ (List.mem_filter.mp ho').1 (List.mem_filter.mp ho').2 (by omega), Bool.and_false]
    · -- m does not claim it: no entry of the topic lists it
      have he0 := List.mem_filter.mp (hes ▸ List.mem_cons_self : e0 ∈ m.owned.filter (·.1 == tp.1))
      have : e0.2.contains tp.2 = false := by
        rw [← Bool.not_eq_true, List.contains_iff_mem]
        exact fun hc => hcl ((claims_iff m _).mpr ⟨e0, he0.1, eq_of_beq he0.2, hc⟩)
      rw [this, Bool.false_and]

/-- `hex`: the plan gives a partition to one member at most. -/
theorem withheld_of_not_current (ms : List Member) (P : List Triple) (hex : (P.map Triple.tp).Nodup) (x : Triple)
    (hxP : x ∈ P) (m : Member) (hm : m ∈ ms) (hmid : m.id = x.1) (hcm : currentOwner ms m (x.2.1, x.2.2) = false)
    (o : Member) (ho : o ∈ ms) (hoc : claims o (x.2.1, x.2.2) = true) (hne : o.id ≠ x.1) : x ∉ adjust ms P := by
  -- o loses the partition, so it is revoked …
  have hoP : (o.id, x.2.1, x.2.2) ∉ P := fun hin => hne (congrArg (·.1) (Ledger.eq_of_key_nodup _ hex hin hxP rfl))
  have hrev : (x.2.1, x.2.2) ∈ revokedList ms P := (mem_revokedList ms P _).mpr ⟨o, ho, hoc, hoP⟩
  -- … m is recorded in `allAdded` for it, so `addedTo` is a member with m's id, whose triple is erased
  have hadd := isAdded_of_not_current ms P m (x.2.1, x.2.2) (by rw [hmid]; exact hxP) hcm
  have hne' : (ms.filter fun m' => isAdded ms P m' (x.2.1, x.2.2)) ≠ [] :=
    List.ne_nil_of_mem (List.mem_filter.mpr ⟨hm, hadd⟩)
  obtain ⟨a, ha⟩ := Option.isSome_iff_exists.mp (List.getLast?_isSome.mpr hne')
  have haP : (a.id, x.2.1, x.2.2) ∈ P := by
    have := (List.mem_filter.mp (List.mem_of_getLast? ha)).2
    simp only [isAdded, Bool.and_eq_true, List.contains_iff_mem] at this
    exact this.1
  have hgone := not_mem_of_erased ms P (revokedList ms P) P
    (List.Pairwise.of_map _ (fun _ _ h e => h (congrArg _ e)) hex) _ hrev a ha
  exact Ledger.eq_of_key_nodup _ hex haP hxP rfl ▸ hgone

theorem eq_of_id_eq (ms : List Member) (hid : (ms.map (·.id)).Nodup) (a b : Member) (ha : a ∈ ms) (hb : b ∈ ms)
    (h : a.id = b.id) : a = b :=
  Ledger.eq_of_key_nodup _ hid ha hb h

theorem mem_ownedOf (plan : List Triple) (id : String) (e : String × List Nat) (he : e ∈ ownedOf plan id)
    (p : Nat) (hp : p ∈ e.2) : (id, e.1, p) ∈ plan := by
  unfold ownedOf at he
  obtain ⟨t, _, rfl⟩ := List.mem_map.mp he
  obtain ⟨x, hx, rfl⟩ := List.mem_map.mp hp
  have h1 := List.mem_filter.mp hx
  have h2 := List.mem_filter.mp h1.1
  have : (id, t, x.2.2) = x := by rw [← eq_of_beq h2.2, ← eq_of_beq h1.2]
  exact this ▸ h2.1

theorem adjust_next_eq (ms : List Member) (a1 : List Triple) (g : Int) (p2 : List Triple)
    (hkeep : ∀ x ∈ a1, x ∈ p2) : adjust (nextMembers ms a1 g) p2 = p2 := by
  have hrev : revokedList (nextMembers ms a1 g) p2 = [] := by
    refine List.eq_nil_iff_forall_not_mem.mpr fun tp htp => ?_
    obtain ⟨m, hm, hc, hn⟩ := (mem_revokedList _ p2 tp).mp htp
    obtain ⟨m0, _, rfl⟩ := List.mem_map.mp hm
    obtain ⟨e, he, e1, e2⟩ := (claims_iff _ tp).mp hc
    exact hn (e1 ▸ hkeep _ (mem_ownedOf a1 m0.id e he tp.2 e2))
  rw [adjust_eq, hrev]; rfl

end Proof.C25
