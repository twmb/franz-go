import FranzVerif.Proof.C15Step
/-! What one read of the schema decoder does to its input: it never reaches a Go panic and consumes at least the width of what
it reads. Stated once as `Reads` for the reader primitives, strings, array lengths and the raw tag section. -/
namespace Proof.C16
open Model.C15 Proof.C15

/-- `x` is not a panic, and on success the remaining input is no longer than `n`. -/
def Safe {α : Type} (x : Res α) (n : Nat) : Prop :=
  (∀ m, x ≠ .panic m) ∧ ∀ a r, x = .ok a r → r.length ≤ n

/-- on success at least `w` bytes were consumed -/
def Cons {α : Type} (x : Res α) (n w : Nat) : Prop := ∀ a r, x = .ok a r → r.length + w ≤ n

theorem Cons.weaken {α : Type} {x : Res α} {n w w' : Nat} (h : Cons x n w) (hw : w' ≤ w) : Cons x n w' :=
  fun a r e => by have := h a r e; omega

theorem Cons.mono {α : Type} {x : Res α} {n n' w : Nat} (h : Cons x n w) (hn : n ≤ n') : Cons x n' w :=
  fun a r e => by have := h a r e; omega

/-- the number of bytes a success consumed, as a witness rather than a difference -/
theorem Cons.consumed {α : Type} {x : Res α} {n w : Nat} {a : α} {r : Bytes} (h : Cons x n w) (e : x = .ok a r) :
    ∃ k, n = r.length + k ∧ w ≤ k :=
  ⟨n - r.length, by have := h a r e; omega, by have := h a r e; omega⟩

variable {α β : Type} {cap : Nat}

/-- The contract of a read `x` on `n` bytes of input: no panic as long as the allocation cap covers the input, and a success
consumed at least `w` bytes. Only `make` looks at the cap, so for everything below `dec` it is arbitrary. -/
def Reads (cap : Nat) (x : Res α) (n w : Nat) : Prop :=
  (n ≤ cap → ∀ m, x ≠ .panic m) ∧ Cons x n w

theorem Reads.safe {x : Res α} {n w : Nat} (h : Reads cap x n w) (hn : n ≤ cap) : Safe x n :=
  ⟨h.1 hn, h.2.weaken (Nat.zero_le w)⟩

theorem Safe.reads {x : Res α} {n : Nat} (h : Safe x n) : Reads n x n 0 :=
  ⟨fun _ => h.1, h.2⟩

theorem Reads.weaken {x : Res α} {n w w' : Nat} (h : Reads cap x n w) (hw : w' ≤ w) :
    Reads cap x n w' :=
  ⟨h.1, h.2.weaken hw⟩

/-- `Cons` does not mention the cap. The `reads_*` lemmas hold for every cap (it is implicit); projecting at cap 0 fixes it, where
`.2` alone would leave it undetermined. -/
theorem Reads.cons {x : Res α} {n w : Nat} (h : Reads 0 x n w) : Cons x n w := h.2

theorem reads_ok (a : α) (r : Bytes) : Reads cap (Res.ok a r) r.length 0 :=
  ⟨fun _ _ => nofun, fun _ _ e => by cases e; exact Nat.le_refl _⟩

theorem reads_err (s n w : Nat) : Reads cap (Res.err s : Res α) n w :=
  ⟨fun _ _ => nofun, nofun⟩

/-- Sequencing: the continuation runs on what the first read left, which the cap still covers. -/
theorem reads_andThen {x : Res α} {f : α → Bytes → Res β} {n w1 w2 : Nat}
    (hx : Reads cap x n w1) (hf : ∀ a r, x = .ok a r → Reads cap (f a r) r.length w2) :
    Reads cap (x.andThen f) n (w1 + w2) := by
  cases x with
  | ok a r =>
    have hr := hx.2 a r rfl
    have hfa := hf a r rfl
    exact ⟨fun hn => hfa.1 (by omega), fun b r' e => by have := hfa.2 b r' e; omega⟩
  | err s => exact reads_err s _ _
  | panic m => exact ⟨fun hn => absurd rfl (hx.1 hn m), nofun⟩

theorem reads_map {x : Res α} {n w : Nat} (hx : Reads cap x n w) (f : α → β) :
    Reads cap (x.map f) n w := by
  cases x with
  | ok a r => exact ⟨fun _ _ => nofun, fun _ _ e => by cases e; exact hx.2 a r rfl⟩
  | err s => exact reads_err s _ _
  | panic m => exact ⟨fun hn => absurd rfl (hx.1 hn m), nofun⟩

/-- A read followed by a step that is run for its value only (it is given what the read returned, not the input): what is left
is what the read left. The step may rely on the cap covering the read's input. -/
theorem reads_thenValue {γ : Type} {x : Res α} {y : α → Res β} {g : α → β → γ} {n w : Nat} (hx : Reads cap x n w)
    (hy : n ≤ cap → ∀ a r, x = .ok a r → ∀ m, y a ≠ .panic m) :
    Reads cap (x.andThen fun a r => (y a).andThen fun b _ => .ok (g a b) r) n w := by
  cases x with
  | ok a r =>
    rw [Res.andThen_ok]
    cases hb : y a with
    | ok b _ => exact ⟨fun _ _ => nofun, fun _ _ e => by cases e; exact hx.2 a r rfl⟩
    | err s => exact reads_err s _ _
    | panic m => exact ⟨fun hn => absurd hb (hy hn a r rfl m), nofun⟩
  | err s => exact reads_err s _ _
  | panic m => exact ⟨fun hn => absurd rfl (hx.1 hn m), nofun⟩

theorem reads_span (l : Int) (src : Bytes) : Reads cap (span l src) src.length l.toNat := by
  rw [span_eq]
  split
  · exact reads_err _ _ _
  · exact ⟨fun _ _ => nofun, fun _ _ e => by cases e; rw [List.length_drop]; omega⟩

theorem reads_readBE (n : Nat) (src : Bytes) : Reads cap (readBE n src) src.length n :=
  reads_map (reads_span n src) _

theorem reads_readInt (n m : Nat) (src : Bytes) : Reads cap (readInt n m src) src.length n :=
  reads_map (reads_readBE n src) _

theorem reads_readUint (n : Nat) (src : Bytes) : Reads cap (readUint n src) src.length n :=
  reads_map (reads_readBE n src) _

theorem uvDec_consumes (k m : Nat) (src : Bytes) (x : Nat) (r : Bytes) (h : uvDec k m src = some (x, r)) :
    r.length + 1 ≤ src.length := by
  -- the `some` arms of `uvDec`: a final byte (case2: the last allowed position, case4: a byte below 128) and a continuation
  -- byte whose tail decodes (case5)
  fun_induction uvDec k m src generalizing x r <;> cases h
  case case2 | case4 => exact Nat.le_refl _
  case case5 hd ih => exact Nat.le_succ_of_le (ih _ _ hd)

theorem reads_uvDec (k m : Nat) (src : Bytes) :
    Reads cap (match uvDec k m src with | some (x, r) => Res.ok x r | none => .err 0) src.length 1 := by
  split
  · rename_i h
    exact ⟨fun _ _ => nofun, fun _ _ e => by cases e; exact uvDec_consumes _ _ _ _ _ h⟩
  · exact reads_err _ _ _

theorem reads_readUvarint (src : Bytes) : Reads cap (readUvarint src) src.length 1 := reads_uvDec 4 15 src
theorem reads_readUvarlong (src : Bytes) : Reads cap (readUvarlong src) src.length 1 := reads_uvDec 9 1 src
theorem reads_readVarint (src : Bytes) : Reads cap (readVarint src) src.length 1 := reads_map (reads_readUvarint src) _
theorem reads_readVarlong (src : Bytes) : Reads cap (readVarlong src) src.length 1 := reads_map (reads_readUvarlong src) _

theorem reads_decPrim : ∀ (p : Prim) (src : Bytes), Reads cap (decPrim p src) src.length (primW p)
  | .bool, src => reads_map (reads_readBE 1 src) _
  | .int8, src => reads_map (reads_readInt 1 m8 src) _
  | .int16, src => reads_map (reads_readInt 2 m16 src) _
  | .uint16, src => reads_map (reads_readUint 2 src) _
  | .int32, src => reads_map (reads_readInt 4 m32 src) _
  | .uint32, src => reads_map (reads_readUint 4 src) _
  | .int64, src => reads_map (reads_readInt 8 m64 src) _
  | .float64, src => reads_map (reads_readUint 8 src) _
  | .varint, src => reads_map (reads_readVarint src) _
  | .varlong, src => reads_map (reads_readVarlong src) _
  | .uuid, src => reads_map (reads_span 16 src) _

theorem reads_lenThen {x : Res α} {n w : Nat} (hx : Reads cap x n w) (c : α → Bool) (v : Val) (l : α → Int) :
    Reads cap (x.andThen fun a r => if c a = true then .ok v r else (span (l a) r).map fun b => Val.blob (some b)) n w := by
  refine reads_andThen (w2 := 0) hx fun a r _ => ?_
  split
  · exact reads_ok _ _
  · exact reads_map ((reads_span _ _).weaken (Nat.zero_le _)) _

theorem safe_lenThen {α : Type} {x : Res α} {n : Nat} (hx : Safe x n) (c : α → Bool) (v : Val) (l : α → Int) :
    Safe (x.andThen fun a r => if c a = true then .ok v r else (span (l a) r).map fun b => Val.blob (some b)) n :=
  (reads_lenThen hx.reads c v l).safe (Nat.le_refl n)

theorem reads_strLen (flex : Bool) (k : SKind) (src : Bytes) : Reads cap (strLen flex k src) src.length 1 := by
  cases k <;> cases flex
  case vstr.false | vstr.true | vbytes.false | vbytes.true => exact reads_readVarint src
  case str.true | nstr.true | bytes.true | nbytes.true => exact reads_map (reads_readUvarint src) _
  case str.false | nstr.false => exact (reads_readInt 2 m16 src).weaken (by decide)
  case bytes.false | nbytes.false => exact (reads_readInt 4 m32 src).weaken (by decide)

theorem reads_decStr (ver : Int) (flex : Bool) (k : SKind) (src : Bytes) :
    Reads cap (decStr ver flex k src) src.length 1 := by
  rw [decStr_eq]
  exact reads_lenThen (reads_strLen flex _ src) _ _ _

theorem reads_chkLen (l : Int) (r : Bytes) : Reads cap (chkLen l r) r.length 0 := by
  simp only [chkLen]
  split
  · exact reads_err _ _ _
  · exact reads_ok _ _

theorem reads_decArrLen (flex : Bool) (k : AKind) (src : Bytes) : Reads cap (decArrLen flex k src) src.length 1 := by
  cases k <;> simp only [decArrLen]
  case varint => exact reads_andThen (reads_readVarint src) fun l r _ => reads_chkLen l r
  all_goals
    split
    · exact reads_andThen (reads_readUvarint src) fun u r _ => reads_chkLen _ r
    · exact reads_andThen ((reads_readInt 4 m32 src).weaken (by decide)) fun l r _ => reads_chkLen l r

theorem decArrLen_bounded (flex : Bool) (k : AKind) (src : Bytes) (l : Int) (r : Bytes)
    (h : decArrLen flex k src = .ok l r) : l ≤ r.length := by
  have key : ∀ l0 r0, chkLen l0 r0 = .ok l r → l ≤ r.length := by
    intro l0 r0
    fun_cases chkLen l0 r0 <;> intro h <;> cases h
    omega
  cases k <;> cases flex <;> obtain ⟨a, r0, _, h2⟩ := andThen_ok_inv h <;> exact key _ _ h2

theorem reads_structPre (nullable : Bool) (src : Bytes) :
    Reads cap (structPre nullable src) src.length (if nullable then 1 else 0) := by
  cases nullable
  · exact reads_ok _ _
  · exact reads_map (reads_readInt 1 m8 src) _

theorem tagEntry_no_panic (src : Bytes) (m : String) : tagEntry src ≠ .panic m := by
  have h : Reads src.length (tagEntry src) src.length (1 + (1 + 0)) :=
    reads_andThen (reads_readUvarint src) fun _ r1 _ =>
      reads_andThen (reads_readUvarint r1) fun _ r2 _ => reads_map ((reads_span _ r2).weaken (Nat.zero_le _)) _
  exact h.1 (Nat.le_refl _) m

theorem tagEntry_consumes {src : Bytes} {e : Nat × Bytes} {r : Bytes} (h : tagEntry src = .ok e r) :
    r.length + e.2.length + 2 ≤ src.length := by
  obtain ⟨r1, size, r2, h1, h2, h3⟩ := tagEntry_ok_inv h
  have c1 := (reads_readUvarint src).cons _ _ h1
  have c2 := (reads_readUvarint r1).cons _ _ h2
  have c3 := congrArg List.length (span_ok_inv h3).1
  rw [List.length_append] at c3
  omega

theorem readRawTags_ok (n : Nat) (src : Bytes) :
    (∀ m, readRawTags n src ≠ .panic m) ∧
    ∀ l r, readRawTags n src = .ok l r →
      l.length = n ∧ r.length + 2 * n ≤ src.length ∧ ∀ e ∈ l, r.length + e.2.length + 2 ≤ src.length := by
  -- case1: no entry left; case2 / case3 / case4: the next entry is read, fails, panics. The scrutinee of `readRawTags` is
  -- `tagEntry src` unfolded, so `he` is a hypothesis about `tagEntry`.
  fun_induction readRawTags n src
  case case1 => exact ⟨nofun, fun l r h => by cases h; exact ⟨rfl, Nat.le_refl _, nofun⟩⟩
  case case2 n src e r3 he ih =>
    have c3 := tagEntry_consumes he
    refine ⟨fun m h => ?_, fun l r h => ?_⟩
    · cases hr : readRawTags n r3 <;> rw [hr] at h <;> cases h
      exact ih.1 _ hr
    · obtain ⟨l', h4, rfl⟩ := map_ok_inv h
      obtain ⟨i1, i2, i3⟩ := ih.2 l' r h4
      refine ⟨by rw [List.length_cons, i1], by omega, fun e' he' => ?_⟩
      cases he' with
      | head => omega
      | tail _ he' => have := i3 e' he'; omega
  case case3 => exact ⟨nofun, nofun⟩
  case case4 m he => exact absurd he (tagEntry_no_panic _ m)

theorem reads_readTagsOf (known : List Nat) (n : Nat) (src : Bytes) :
    Reads cap (readTagsOf known n src) src.length (2 * n) := by
  have h := readRawTags_ok n src
  rw [readTagsOf]
  split
  · exact reads_err _ _ _
  · exact ⟨fun _ => h.1, fun l r e => by have := (h.2 l r e).2.1; omega⟩

end Proof.C16
