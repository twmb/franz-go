import FranzVerif.Model.C06
import FranzVerif.Spec.C06
/-! C06 — the reading of decoded items as a Kafka log (`Rep`), well-formedness of a log (`WfLog`, `AbortedConsistent`), and the
record loops of `processRecordBatch` and of the wrappers as equations: each is `maybeKeepRecord` iterated (`keepAll`), the former
with at most one pop of the aborter (`procRecords_eq`, `processInner_valid`).

`Rep it lb` says that the decoded frame `it` (a v2 record batch, a v0/v1 message, a compressed v0/v1 wrapper) is the
encoding of the log batch `lb` of the reference decoder (`Spec.C06.LBatch`). It is written from the Kafka log format:

* v2: record offset = base offset + offset delta; timestamp = first timestamp + delta (CreateTime) or the batch's
  max timestamp (LogAppendTime); last offset = base + last offset delta; a complete batch holds as many records as it
  claims, a batch cut short inside holds a proper prefix of them;
* v0/v1 message: a batch of one record; v0 has no timestamp (attribute bit 7 is how `kgo.RecordAttrs` says so);
* compressed wrapper: the inner messages; v0 inner offsets are absolute, v1 inner offsets are relative and the
  wrapper carries the absolute offset of the last inner message (rebasing by `wrapper − last inner`); a v1 wrapper
  stamped LogAppendTime gives its timestamp and timestamp type to every inner message. -/
namespace Proof.C06
open Model.C06
open Spec.C06 (LRec LBatch ORec Req)

def hdrsOf (hs : List Header) : List (Bytes × Option Bytes) := hs.map fun h => (h.key, h.value)

/-- the returned record as the Spec sees it (every observable field) -/
def obs (r : Rec) : ORec := ⟨r.offset, r.tsMs, r.key, r.value, hdrsOf r.headers, r.attrs, r.pid, r.pepoch, r.lepoch⟩

def reqOf (o : Opts) (A : List (Int × Int)) : Req := ⟨o.offset, o.keepControl, o.readCommitted, A⟩

/-- the log record a v2 wire record denotes -/
def v2Rec (b : Batch) (k : KRec) : LRec :=
  ⟨b.first + k.offDelta, some (if b.attrs / 8 % 2 = 0 then b.firstTs + k.tsDelta else b.maxTs), k.key, k.value, hdrsOf k.headers⟩

structure RepBatch (b : Batch) (lb : LBatch) : Prop where
  magic : b.magic = 2
  attrsLt : b.attrs < 128                       -- the unused attribute bits are zero
  attrs : lb.attrs = b.attrs
  decomp : b.decompOk = true
  tail : b.tail = .stop
  first : lb.first = b.first
  last : lb.last = b.first + b.lastDelta
  pid : lb.pid = b.pid
  pepoch : lb.pepoch = b.pepoch
  lepoch : lb.lepoch = b.lepoch
  count : b.numRecords = lb.records.length      -- the claimed count is the number of records the log holds
  present : lb.present = b.recs.length          -- the decodable ones are those that made it into the bytes
  recs : lb.records.take lb.present = b.recs.map (v2Rec b)
  raw : 2 * b.recs.length ≤ b.rawLen            -- a record takes at least two bytes (`mkBatch_spec` at the byte level)

/-- `processV0Message` / `processV1Message` accept the message -/
def validMsg (m : Msg) : Prop :=
  if m.isV1 then m.magic = 1 ∧ m.attrs / 16 = 0 else m.magic = 0 ∧ m.attrs / 8 = 0

/-- attribute byte a v0 / v1 message exposes (`messageAttrsToRecordAttrs`: bit 7 marks v0 = "no timestamp") -/
def msgAttrs (m : Msg) : Nat := if m.isV1 then m.attrs else m.attrs + 128

def msgRec (m : Msg) (base : Int) : LRec :=
  ⟨m.offset + base, if m.isV1 then some m.ts else none, m.key, m.value, []⟩

structure RepSingle (m : Msg) (lb : LBatch) : Prop where
  valid : validMsg m
  first : lb.first = m.offset
  last : lb.last = m.offset
  pid : lb.pid = -1
  pepoch : lb.pepoch = -1
  lepoch : lb.lepoch = -1
  attrs : lb.attrs = msgAttrs m
  records : lb.records = [msgRec m 0]
  present : lb.present = 1

/-- the wrapper is a v1 message set stamped LogAppendTime (attribute bit 3; v0 has no timestamps) -/
def wrapLat (m : Msg) : Bool := m.isV1 && decide (m.attrs / 8 % 2 = 1)

/-- the inner message as the log format reads it inside its wrapper `m`: the wrapper's codec in the attributes, and — when the
wrapper is stamped LogAppendTime — the wrapper's timestamp and timestamp type (the broker stamps the wrapper only) -/
def innerView (m i : Msg) : Msg :=
  if wrapLat m then { i with attrs := i.attrs ||| m.attrs % 4 ||| 8, ts := m.ts } else { i with attrs := i.attrs ||| m.attrs % 4 }

/-- absolute offset of relative offset 0 of a wrapper: v0 inner offsets are absolute; v1: wrapper − last inner -/
def wrapBase (m : Msg) (inner : Inner) : Int :=
  if m.isV1 then m.offset - (inner.msgs.getLast?.map (·.offset)).getD 0 else 0

structure RepWrapper (m : Msg) (inner : Inner) (lb : LBatch) : Prop where
  plain : m.attrs < 16 ∧ m.attrs / 4 % 2 = 0   -- codec in bits 0-1 (none/gzip/snappy/lz4), bit 3 = timestamp type, nothing else
  decomp : inner.decompOk = true
  err : inner.err = none
  panic : inner.panic = false
  valid : ∀ i ∈ inner.msgs, validMsg (innerView m i) ∧ msgAttrs (innerView m i) = lb.attrs
  latV1 : wrapLat m = true → ∀ i ∈ inner.msgs, i.isV1 = true   -- inner magic = wrapper magic (the wrapper's timestamp needs a v1 inner message)
  relNonneg : m.isV1 → ∀ i ∈ inner.msgs, 0 ≤ i.offset          -- relative offsets are not negative
  baseNonneg : 0 ≤ wrapBase m inner                             -- nor is the absolute offset of relative offset 0
  last : lb.last = m.offset
  lastV0 : ¬ m.isV1 → ∀ i ∈ inner.msgs, i.offset ≤ m.offset    -- (v0: the wrapper carries the last inner offset)
  pid : lb.pid = -1
  pepoch : lb.pepoch = -1
  lepoch : lb.lepoch = -1
  records : lb.records = inner.msgs.map (fun i => msgRec (innerView m i) (wrapBase m inner))
  present : lb.present = inner.msgs.length

/-- the decoded frame `it` is the encoding of the log batch `lb` -/
def Rep : Item → LBatch → Prop
  | .batch b, lb => RepBatch b lb
  | .msg m inner, lb => if m.attrs % 4 = 0 then RepSingle m lb else RepWrapper m inner lb
  | _, _ => False

inductive RepList : List Item → List LBatch → Prop
  | nil : RepList [] []
  | cons {it lb its lbs} : Rep it lb → RepList its lbs → RepList (it :: its) (lb :: lbs)

structure WfBatch (lb : LBatch) : Prop where
  firstNonneg : 0 ≤ lb.first
  firstLast : lb.first ≤ lb.last
  inRange : ∀ r ∈ lb.records, lb.first ≤ r.offset ∧ r.offset ≤ lb.last
  incr : lb.records.Pairwise (fun a b => a.offset < b.offset)

/-- offsets increase along the log: inside a batch and from one batch to the next -/
structure WfLog (L : List LBatch) : Prop where
  batch : ∀ b ∈ L, WfBatch b
  ord : L.Pairwise (fun a b => a.last < b.first)

/-- is the listed aborted transaction `a = (pid, first offset)` open at batch `b`: the test inside `Spec.C06.inAborted` -/
def openAt (L : List LBatch) (b : LBatch) (a : Int × Int) : Bool :=
  a.1 == b.pid && decide (a.2 ≤ b.first) &&
    !(L.any fun m => m.abortMarker && m.pid == a.1 && decide (a.2 ≤ m.first) && decide (m.first < b.first))

/-- the aborted list the parser consults: only under read_committed -/
def effA (o : Opts) (A : List (Int × Int)) : List (Int × Int) := if o.readCommitted then A else []

/-- The aborted list is one a broker can send for this log and this fetch offset:
* `sequential`: at an ABORT marker at most one listed transaction of that producer is open (a producer's transactions
  are sequential; in particular the list has no duplicates);
* `overlaps`: no listed transaction was ended by an ABORT marker that lies entirely below the requested offset (the
  broker lists the aborted transactions that overlap the fetch range). -/
structure AbortedConsistent (o : Opts) (A : List (Int × Int)) (L : List LBatch) : Prop where
  sequential : ∀ m ∈ L, m.abortMarker = true → ((effA o A).filter (openAt L m)).length ≤ 1
  overlaps : ∀ m ∈ L, m.abortMarker = true → m.last < o.offset → ∀ a ∈ effA o A, a.1 = m.pid → m.first < a.2

theorem inAborted_eq (o : Opts) (A : List (Int × Int)) (L : List LBatch) (b : LBatch) :
    Spec.C06.inAborted (reqOf o A) L b = (b.txn && (effA o A).any (openAt L b)) := by
  unfold Spec.C06.inAborted reqOf effA
  cases hrc : o.readCommitted
  · simp
  · simp only [Bool.true_and, if_true]
    congr 1

/-- `maybeKeepRecord` over a list of records -/
def keepAll (o : Opts) (ab : Bool) : St → List Rec → St
  | s, [] => s
  | s, r :: rs => keepAll o ab (maybeKeepRecord o s r ab) rs

theorem maybeKeepRecord_eq (o : Opts) (s : St) (r : Rec) (ab : Bool) :
    maybeKeepRecord o s r ab = if r.offset < s.off then s else
      { s with out := s.out ++ (if (if isControl r.attrs then o.keepControl else !ab) then [r] else []), off := r.offset + 1 } := by
  unfold maybeKeepRecord
  split
  · rfl
  · cases isControl r.attrs <;> cases o.keepControl <;> cases ab <;> simp

/-- Of the records only their offsets matter beyond `hk`: they are stated of the list of offsets, which is what a caller knows
from the log batch. -/
theorem keepAll_out_off (o : Opts) (ab keep : Bool) :
    ∀ (rs : List Rec) (s : St) (lb : Int),
      (∀ r ∈ rs, (if isControl r.attrs then o.keepControl else !ab) = keep) →
      (rs.map (·.offset)).Pairwise (· < ·) →
      (∀ x ∈ rs.map (·.offset), lb ≤ x) →
      o.offset ≤ s.off → s.off ≤ max o.offset lb →
      (keepAll o ab s rs).out = s.out ++ (if keep then rs.filter (fun r => decide (o.offset ≤ r.offset)) else []) ∧
      o.offset ≤ (keepAll o ab s rs).off ∧
      (∀ ub, lb ≤ ub → (∀ x ∈ rs.map (·.offset), x < ub) → (keepAll o ab s rs).off ≤ max o.offset ub) := by
  intro rs
  induction rs with
  | nil =>
    intro s lb _ _ _ h1 h2
    exact ⟨by cases keep <;> simp [keepAll], h1, fun ub hub _ => by simp only [keepAll]; omega⟩
  | cons r rs ih =>
    intro s lb hk hp hlb h1 h2
    rw [List.map_cons, List.pairwise_cons] at hp
    rw [List.map_cons, List.forall_mem_cons] at hlb
    have hk' : ∀ x ∈ rs, (if isControl x.attrs then o.keepControl else !ab) = keep := fun x hx => hk x (List.mem_cons_of_mem _ hx)
    simp only [keepAll, maybeKeepRecord_eq, hk r List.mem_cons_self, List.map_cons, List.forall_mem_cons]
    by_cases hlt : r.offset < s.off
    · rw [if_pos hlt]
      have hreq : ¬ o.offset ≤ r.offset := by omega
      obtain ⟨i1, i2, i3⟩ := ih s lb hk' hp.2 hlb.2 h1 h2
      exact ⟨by rw [i1]; simp [hreq], i2, fun ub hub hall => i3 ub hub hall.2⟩
    · rw [if_neg hlt]
      have hreq : o.offset ≤ r.offset := by omega
      obtain ⟨i1, i2, i3⟩ := ih { s with out := s.out ++ (if keep then [r] else []), off := r.offset + 1 } (r.offset + 1) hk' hp.2
        (fun x hx => Int.add_one_le_of_lt (hp.1 x hx)) (by simp only; omega) (by simp only; omega)
      exact ⟨by rw [i1]; cases keep <;> simp [hreq], i2, fun ub hub hall => i3 ub (by omega) hall.2⟩

theorem keepAll_congr (o : Opts) (ab : Bool) : ∀ (rs : List Rec) (s t : St), s.out = t.out → s.off = t.off →
    (keepAll o ab s rs).out = (keepAll o ab t rs).out ∧ (keepAll o ab s rs).off = (keepAll o ab t rs).off := by
  intro rs
  induction rs with
  | nil => intro s t h1 h2; exact ⟨h1, h2⟩
  | cons r rs ih =>
    intro s t h1 h2
    simp only [keepAll, maybeKeepRecord_eq, h1, h2]
    by_cases h : r.offset < t.off
    · simp only [h, if_true]; exact ih _ _ h1 h2
    · simp only [h, if_false]; exact ih _ _ rfl rfl

theorem keepAll_fields (o : Opts) (ab : Bool) : ∀ (rs : List Rec) (s : St),
    (keepAll o ab s rs).err = s.err ∧ (keepAll o ab s rs).stopped = s.stopped ∧ (keepAll o ab s rs).ab = s.ab := by
  intro rs
  induction rs with
  | nil => exact fun s => ⟨rfl, rfl, rfl⟩
  | cons r rs ih =>
    intro s
    simp only [keepAll, maybeKeepRecord_eq]
    split
    · exact ih s
    · exact ih _

theorem keepAll_spec (o : Opts) (ab keep : Bool) :
    ∀ (rs : List Rec) (s : St) (lb : Int),
      (∀ r ∈ rs, (if isControl r.attrs then o.keepControl else !ab) = keep) →
      rs.Pairwise (fun a b => a.offset < b.offset) →
      (∀ r ∈ rs, lb ≤ r.offset) →
      o.offset ≤ s.off → s.off ≤ max o.offset lb →
      (keepAll o ab s rs).out = s.out ++ (if keep then rs.filter (fun r => decide (o.offset ≤ r.offset)) else []) ∧
      o.offset ≤ (keepAll o ab s rs).off ∧
      (∀ ub, lb ≤ ub → (∀ r ∈ rs, r.offset < ub) → (keepAll o ab s rs).off ≤ max o.offset ub) ∧
      (keepAll o ab s rs).err = s.err ∧ (keepAll o ab s rs).stopped = s.stopped ∧ (keepAll o ab s rs).ab = s.ab := by
  intro rs s lb hk hp hlb h1 h2
  obtain ⟨i1, i2, i3⟩ := keepAll_out_off o ab keep rs s lb hk (List.pairwise_map.2 hp) (List.forall_mem_map.2 hlb) h1 h2
  exact ⟨i1, i2, fun ub hub h => i3 ub hub (List.forall_mem_map.2 h), keepAll_fields o ab rs s⟩

theorem keepAll_ab (o : Opts) (ab : Bool) (a : Aborter) : ∀ (rs : List Rec) (s : St),
    keepAll o ab { s with ab := a } rs = { keepAll o ab s rs with ab := a } := by
  intro rs
  induction rs with
  | nil => intro s; rfl
  | cons r rs ih =>
    intro s
    have : maybeKeepRecord o { s with ab := a } r ab = { maybeKeepRecord o s r ab with ab := a } := by
      rw [maybeKeepRecord_eq, maybeKeepRecord_eq]; split <;> rfl
    simp only [keepAll, this]
    exact ih _

/-- `pidAborts[1:]` for one producer -/
def popPid (a : Aborter) (pid : Int) : Aborter := fun q => if q = pid then (a pid).drop 1 else a q

theorem trackAbortedPID_eq (a : Aborter) (pid : Int) : trackAbortedPID a pid = some (popPid a pid) := by
  unfold trackAbortedPID popPid
  split
  · rename_i h
    congr 1; funext q
    split
    · subst q; rw [h]; rfl
    · rfl
  · rename_i h
    rw [if_pos (by cases hp : a pid with | nil => exact absurd hp h | cons _ _ => simp)]

theorem abortKey_iff (key : Option Bytes) : abortKey key = some (Spec.C06.isAbortKey key) := by
  unfold abortKey Spec.C06.isAbortKey idx?
  match key with
  | none => simp
  | some [] => simp
  | some [_] => simp
  | some [_, _] => simp
  | some [_, _, _] => simp
  | some (_ :: _ :: a :: b :: _) => simp

/-- the aborter after the record loop of `processRecordBatch` over the records `ks`: popped once iff the batch is an aborted
control batch holding an ABORT marker (`handled`: an earlier marker of the batch has popped it already) -/
def popIfMarker (b : Batch) (ab handled : Bool) (ks : List KRec) (a : Aborter) : Aborter :=
  if ab = true ∧ handled = false ∧ isControl (b.attrs % 256) = true ∧ (ks.any fun k => Spec.C06.isAbortKey k.key) = true
  then popPid a b.pid else a

/-- The hypothesis says that the header slab is large enough, so the loop never panics; `processRecordBatch` allocates the slab
as that very sum, so its users discharge it by `Nat.le_refl`. -/
theorem procRecords_eq (o : Opts) (b : Batch) (ab : Bool) :
    ∀ (ks : List KRec) (slab : Nat) (handled : Bool) (s : St), (ks.map (·.headers.length)).sum ≤ slab →
      procRecords o b ab ks slab handled s =
        some { keepAll o ab s (ks.map (recordToRecord b)) with ab := popIfMarker b ab handled ks s.ab } := by
  unfold popIfMarker
  intro ks
  induction ks with
  | nil => intro slab handled s _; simp [procRecords, keepAll]
  | cons k ks ih =>
    intro slab handled s hsum
    simp only [List.map_cons, List.sum_cons] at hsum
    have hs1 : (maybeKeepRecord o s (recordToRecord b k) ab).ab = s.ab := by rw [maybeKeepRecord_eq]; split <;> rfl
    unfold procRecords
    simp only [List.map_cons, keepAll, List.any_cons, show (recordToRecord b k).attrs = b.attrs % 256 from rfl,
      show (recordToRecord b k).key = k.key from rfl, abortKey_iff, trackAbortedPID_eq]
    rw [if_neg (by omega)]
    by_cases hc : ab = true ∧ (!handled) = true ∧ isControl (b.attrs % 256) = true
    · rw [if_pos hc]
      rcases Bool.eq_false_or_eq_true (Spec.C06.isAbortKey k.key) with hik | hik
      · have hh : handled = false := by simpa using hc.2.1
        simp only [hik, ih _ _ _ (Nat.le_sub_of_add_le' hsum), keepAll_ab, hs1]
        simp [hc.1, hc.2.2, hh]
      · simp only [hik, ih _ _ _ (Nat.le_sub_of_add_le' hsum), hs1, Bool.false_or]
    · have : ∀ p : Prop, ¬ (ab = true ∧ handled = false ∧ isControl (b.attrs % 256) = true ∧ p) :=
        fun p ⟨x1, x2, x3, _⟩ => hc ⟨x1, by simp [x2], x3⟩
      simp only [if_neg hc, ih _ _ _ (Nat.le_sub_of_add_le' hsum), hs1, this, if_false]

theorem procRecords_fields (o : Opts) (b : Batch) (ab : Bool) :
    ∀ (ks : List KRec) (slab : Nat) (handled : Bool) (s t : St),
      (ks.map (·.headers.length)).sum ≤ slab → s.out = t.out → s.off = t.off →
      ∃ s', procRecords o b ab ks slab handled s = some s' ∧
        s'.out = (keepAll o ab t (ks.map (recordToRecord b))).out ∧
        s'.off = (keepAll o ab t (ks.map (recordToRecord b))).off ∧
        s'.err = s.err ∧ s'.stopped = s.stopped ∧
        (∀ q, s'.ab q =
          (if ab = true ∧ handled = false ∧ isControl (b.attrs % 256) = true ∧ (ks.any fun k => Spec.C06.isAbortKey k.key) = true
           then popPid s.ab b.pid else s.ab) q) := by
  intro ks slab handled s t hsum h1 h2
  have hc := keepAll_congr o ab (ks.map (recordToRecord b)) s t h1 h2
  have hf := keepAll_fields o ab (ks.map (recordToRecord b)) s
  exact ⟨_, procRecords_eq o b ab ks slab handled s hsum, hc.1, hc.2, hf.1, hf.2.1, fun _ => rfl⟩

theorem processMessage_valid (o : Opts) (s : St) (m : Msg) (h : validMsg m) :
    processMessage o s m = (maybeKeepRecord o s (msgToRecord m) false, true) := by
  unfold validMsg at h
  unfold processMessage
  cases hv : m.isV1 <;> simp [hv] at h ⊢ <;> simp [h.1, h.2]

theorem processInner_valid (o : Opts) (base : Int) (codec : Nat) (lat : Option Int) : ∀ (ms : List Msg) (s : St),
    (∀ i ∈ ms, validMsg (innerSeen base codec lat i)) →
    processInner o base codec lat s ms = keepAll o false s (ms.map fun i => msgToRecord (innerSeen base codec lat i)) := by
  intro ms
  induction ms with
  | nil => intro s _; simp [processInner, keepAll]
  | cons m ms ih =>
    intro s hv
    have hm := hv m (by simp)
    unfold processInner
    simp only [processMessage_valid o s _ hm, if_true, List.map_cons, keepAll]
    exact ih _ (fun i hi => hv i (by simp [hi]))

theorem innerSeen_view (m i : Msg) (base : Int) (h : wrapLat m = true → i.isV1 = true) :
    innerSeen base (m.attrs % 4) (if m.isV1 then (if m.attrs / 8 % 2 = 1 then some m.ts else none) else none) i
      = { innerView m i with offset := i.offset + base } := by
  unfold innerSeen innerView wrapLat at *
  cases hv : m.isV1
  · simp
  · by_cases hb : m.attrs / 8 % 2 = 1
    · have := h (by simp [hv, hb])
      simp [hb, this]
    · simp [hb]

end Proof.C06
