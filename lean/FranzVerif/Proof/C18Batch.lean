import FranzVerif.Model.C18
import FranzVerif.Proof.C17Spec
/-! C18 — the size accounting of `sink.go` against the bytes written, at the level of a batch. `BatchInv` (a batch's `wireLength`
is the overhead plus the sum of its records' `numsWireLength`, each record holding the length of its own body) gives every batch
serialiser a `…_length` lemma in closed form, so "written ≤ accounted" against `bwl`, the batch length `tryAddBatch` uses at a
produce version, is linear arithmetic. The primitive lengths come from `Proof.C17` (`lenU`, `be`). -/
namespace Proof.C18
open Model.C18
open Spec.C17 (byte encU lenU be zz)

@[simp] theorem beI_length (k : Nat) (i : Int) : (beI k i).length = k := Proof.C17.be_length k _
@[simp] theorem uvarint_length (n : Nat) : (uvarint n).length = uvarintLen n := Proof.C17.encU_length n
@[simp] theorem varint_length (i : Int) : (varint i).length = varintLen i := Proof.C17.encU_length _

theorem lenU_zero : lenU 0 = 1 := Proof.C17.lenU_lt (by omega)
theorem lenU_62 : lenU 62 = 1 := Proof.C17.lenU_lt (by omega)
theorem l2 : lenU 2 = 1 := Proof.C17.lenU_lt (by omega)
theorem l3 : lenU 3 = 1 := Proof.C17.lenU_lt (by omega)
theorem lenU_826 : lenU 826 = 2 := by rw [Proof.C17.lenU_ge (by omega), Proof.C17.lenU_lt (by omega)]
theorem lenU_840 : lenU 840 = 2 := by rw [Proof.C17.lenU_ge (by omega), Proof.C17.lenU_lt (by omega)]
theorem l484 : lenU 484 = 2 := by rw [Proof.C17.lenU_ge (by omega), Proof.C17.lenU_lt (by omega)]

theorem varintLen_pos (i : Int) : 1 ≤ varintLen i := Proof.C17.lenU_pos _
theorem uvarintLen_pos (n : Nat) : 1 ≤ uvarintLen n := Proof.C17.lenU_pos _

theorem uvarintLen_lt {n : Nat} (h : n < 128) : uvarintLen n = 1 := Proof.C17.lenU_lt h
theorem uvarintLen_mono {a b : Nat} (h : a ≤ b) : uvarintLen a ≤ uvarintLen b := Proof.C17.lenU_mono h
/-- `k` bytes hold `7 * k` bits -/
theorem uvarintLen_le (k : Nat) {n : Nat} (h : n < 128 ^ k) (hk : 1 ≤ k) : uvarintLen n ≤ k := Proof.C17.lenU_le k n h hk

theorem varintLen_neg1 : varintLen (-1) = 1 := Proof.C17.lenU_lt (show zz (-1) < 128 by decide)
theorem varintLen_zero : varintLen 0 = 1 := Proof.C17.lenU_lt (show zz 0 < 128 by decide)

/-- `AppendVarintBytes`: nil is written as -1, counted as 0 -/
@[simp] theorem varintBytes_length (b : Option Bytes) :
    (varintBytes b).length = varintLen (blen b) + blen b := by
  cases b with
  | none => simp [varintBytes, blen, varintLen_neg1, varintLen_zero]
  | some b => simp [varintBytes, blen]

@[simp] theorem varintString_length (s : Bytes) : (varintString s).length = varintLen s.length + s.length := by
  simp [varintString]

@[simp] theorem headersTo_length (hs : List Header) : (headersTo hs).length = headersLen hs := by
  induction hs with
  | nil => simp [headersTo, headersLen]
  | cons h hs ih => simp [headersTo, headersLen, headerLen, ih]; omega

@[simp] theorem nullableBytes_length (b : Option Bytes) : (nullableBytes b).length = 4 + blen b := by
  cases b <;> simp [nullableBytes, blen]
@[simp] theorem string16_length (s : Bytes) : (string16 s).length = 2 + s.length := by simp [string16]
@[simp] theorem nullableString_length (s : Option Bytes) : (nullableString s).length = 2 + blen s := by
  cases s <;> simp [nullableString, blen]
@[simp] theorem compactString_length (s : Bytes) : (compactString s).length = uvarintLen (1 + s.length) + s.length := by
  simp [compactString]

theorem compactNullableString_length_le (s : Option Bytes) (h : blen s ≤ 16382) :
    (compactNullableString s).length ≤ 2 + blen s := by
  cases s with
  | none => simp [compactNullableString, blen, uvarintLen_lt]
  | some b =>
    simp only [blen] at h
    have := uvarintLen_le 2 (n := 1 + b.length) (by omega) (by omega)
    simp only [compactNullableString, compactString_length, blen]; omega

theorem uvar32_natCast (n : Nat) : uvar32 n = 1 + n := by unfold uvar32; omega

theorem uvarlen_eq (n : Nat) : uvarlen n = uvarintLen (1 + n) := by rw [uvarlen, uvar32_natCast]

theorem uvarlen_lt (n : Nat) (h : n < 127) : uvarlen n = 1 := by
  rw [uvarlen_eq, uvarintLen_lt (by omega)]; rfl

theorem uvarlen_le_succ (n : Nat) : uvarlen n ≤ (n : Int) + 1 := by
  rw [uvarlen_eq]
  have : uvarintLen (1 + n) ≤ 1 + n := Proof.C17.lenU_le_self (by omega)
  omega

theorem uvarlen_pos (n : Nat) : 1 ≤ uvarlen n := by
  rw [uvarlen_eq]; have := uvarintLen_pos (1 + n); omega

/-- the `lengthField` formula of `calculateRecordNumbers` for a record at offset delta `i` with delta `d` -/
def recBody (r : Rec) (d : Int) (i : Nat) : Nat :=
  1 + varintLen d + varintLen i + varintLen (blen r.key) + blen r.key
    + varintLen (blen r.value) + blen r.value + varintLen r.headers.length + headersLen r.headers

def RecOK (pr : PRec) (i : Nat) : Prop := pr.length = recBody pr.r pr.tsDelta i

theorem recordAppendTo_length (pr : PRec) (i : Nat) (h : RecOK pr i) :
    (recordAppendTo pr i).length = numsWireLength pr.length := by
  unfold RecOK recBody at h
  simp [recordAppendTo, numsWireLength]
  omega

def AllOK : Nat → List PRec → Prop
  | _, [] => True
  | i, pr :: rest => RecOK pr i ∧ AllOK (i + 1) rest

def wireSum : List PRec → Nat
  | [] => 0
  | pr :: rest => numsWireLength pr.length + wireSum rest

theorem AllOK_snoc (i : Nat) (l : List PRec) (x : PRec) :
    AllOK i (l ++ [x]) ↔ AllOK i l ∧ RecOK x (i + l.length) := by
  induction l generalizing i with
  | nil => simp [AllOK]
  | cons a l ih =>
    simp only [List.cons_append, AllOK, ih, List.length_cons]
    have : i + 1 + l.length = i + (l.length + 1) := by omega
    rw [this]; exact and_assoc.symm

theorem wireSum_snoc (l : List PRec) (x : PRec) : wireSum (l ++ [x]) = wireSum l + numsWireLength x.length := by
  induction l with
  | nil => simp [wireSum]
  | cons a l ih => simp [wireSum, ih]; omega

theorem recordsFrom_length (i : Nat) (l : List PRec) (h : AllOK i l) :
    (recordsFrom i l).length = wireSum l := by
  induction l generalizing i with
  | nil => simp [recordsFrom, wireSum]
  | cons a l ih =>
    simp only [recordsFrom, List.length_append, wireSum]
    rw [recordAppendTo_length a i h.1, ih (i + 1) h.2]

/-- the batch length `tryAddBatch` uses at produce version `pv` -/
def bwl (pv : Int) (b : Batch) : Int := (wireLengthForProduceVersion b pv).1

theorem bwl_batch (b : Batch) {pv : Int} (h : 3 ≤ pv) :
    bwl pv b = if pv ≥ 9 then flexibleWireLength b else b.wireLength := by
  unfold bwl wireLengthForProduceVersion
  rw [if_neg (by omega), if_neg (by omega), if_neg (by omega)]
  by_cases h8 : pv ≤ 8
  · rw [if_pos h8, if_neg (by omega)]
  · rw [if_neg h8, if_pos (by omega)]

theorem bwl_ms (b : Batch) {pv : Int} (h0 : 0 ≤ pv) (h3 : pv < 3) :
    bwl pv b = b.v1wireLength - (if pv ≤ 1 then 8 else 0) := by
  unfold bwl wireLengthForProduceVersion v0wireLength
  rw [if_neg (by omega)]
  by_cases h1 : pv ≤ 1
  · rw [if_pos (by omega), if_pos h1]
  · rw [if_neg (by omega), if_pos (by omega), if_neg h1]; simp

theorem bwl_neg (b : Batch) {pv : Int} (h : pv < 0) :
    b.wireLength ≤ bwl pv b ∧ b.v1wireLength ≤ bwl pv b ∧ flexibleWireLength b ≤ bwl pv b := by
  unfold bwl wireLengthForProduceVersion
  rw [if_pos h]
  simp only
  omega

theorem bwl_le_unknown (v : Int) (h0 : 0 ≤ v) (b : Batch) : bwl v b ≤ bwl (-1) b := by
  have hu := bwl_neg b (show (-1 : Int) < 0 by omega)
  by_cases h3 : v < 3
  · rw [bwl_ms b h0 h3]; omega
  · rw [bwl_batch b (by omega)]; omega

/-- record-batch accounting is in force: the version is unknown or at least 3 -/
def V2Acct (pv : Int) : Prop := pv < 0 ∨ 3 ≤ pv

theorem bwl_ge (pv : Int) (b : Batch) (hpv : V2Acct pv) : batchLength b + 1 ≤ bwl pv b := by
  have hu := uvarintLen_pos (uvar32 (batchLength b))
  rcases hpv with h | h
  · have := bwl_neg b h; unfold batchLength; omega
  · rw [bwl_batch b h]; unfold flexibleWireLength batchLength at *; omega

def v1Sum : List PRec → Int
  | [] => 0
  | pr :: rest => messageSet1Length pr.r + v1Sum rest

theorem v1Sum_snoc (l : List PRec) (x : PRec) : v1Sum (l ++ [x]) = v1Sum l + messageSet1Length x.r := by
  induction l with
  | nil => simp [v1Sum]
  | cons a l ih => simp [v1Sum, ih]; omega

/-- what `tryBuffer`/`appendRecord` maintain -/
structure BatchInv (b : Batch) : Prop where
  wire : b.wireLength = recordBatchOverhead + wireSum b.records
  v1 : b.v1wireLength = v1Sum b.records
  ok : AllOK 0 b.records

/-- behind its 4-byte length a batch is 61 bytes of header and its records -/
theorem BatchInv.batchLength {b : Batch} (h : BatchInv b) : batchLength b = 61 + wireSum b.records := by
  have := h.wire; simp only [recordBatchOverhead] at this; unfold Model.C18.batchLength; omega

theorem inv_new : BatchInv newRecordBatch := by
  constructor <;> simp [newRecordBatch, wireSum, v1Sum, AllOK]

theorem compressStep_length (comp : Option Compressor) (v : Int) (tc : Bytes) :
    (compressStep comp v tc).1.length + (compressStep comp v tc).2.1 = tc.length := by
  unfold compressStep
  cases comp with
  | none => simp
  | some c =>
    simp only
    rcases hc : c (decide (v < 7)) tc with ⟨out, codec⟩
    cases out with
    | none => simp
    | some o =>
      simp only
      split
      · simp; omega
      · simp

theorem compressStep_none (v : Int) (tc : Bytes) : compressStep none v tc = (tc, 0, 0) := rfl

theorem savingsOf_none (b : PartBatch) (v : Int) : savingsOf none b v = 0 := rfl

theorem batchBody_length (crc : Bytes → Nat) (comp : Option Compressor) (b : PartBatch) (v pid ep : Int) (tx : Bool)
    (hinv : BatchInv b.batch) :
    ((batchBody crc comp b v pid ep tx).length : Int) = batchLength b.batch - savingsOf comp b v := by
  have hlen := compressStep_length comp v (recordsFrom 0 b.batch.records)
  have hrf := recordsFrom_length 0 b.batch.records hinv.ok
  have hw := hinv.batchLength
  unfold batchBody savingsOf
  simp only
  rcases hcs : compressStep comp v (recordsFrom 0 b.batch.records) with ⟨payload, savings, codec⟩
  rw [hcs] at hlen
  simp only at hlen ⊢
  simp only [List.length_append, beI_length, List.length_cons, List.length_nil]
  omega

/-- both arms of the deferred rewrite in `seqRecBatch.appendTo` give the compact length of what was written -/
theorem batchAppendTo_eq (crc : Bytes → Nat) (comp : Option Compressor) (b : PartBatch) (v pid ep : Int) (tx : Bool) :
    batchAppendTo crc comp b v pid ep tx =
      if v ≥ 9 then uvarint (uvar32 (batchBody crc comp b v pid ep tx).length) ++ batchBody crc comp b v pid ep tx
      else beI 4 (b.batch.wireLength - 4 - savingsOf comp b v) ++ batchBody crc comp b v pid ep tx := by
  unfold batchAppendTo
  simp only
  split
  · split
    · rename_i heq; rw [heq]
    · rfl
  · rfl

theorem batchAppendTo_length (crc : Bytes → Nat) (comp : Option Compressor) (b : PartBatch) (v pid ep : Int) (tx : Bool)
    (hinv : BatchInv b.batch) :
    ((batchAppendTo crc comp b v pid ep tx).length : Int) =
      if v ≥ 9 then (uvarintLen (uvar32 (batchLength b.batch - savingsOf comp b v)) : Int) + (batchLength b.batch - savingsOf comp b v)
      else b.batch.wireLength - savingsOf comp b v := by
  have hb := batchBody_length crc comp b v pid ep tx hinv
  rw [batchAppendTo_eq]
  split
  · rw [List.length_append, Int.natCast_add, uvarint_length, hb]
  · rw [List.length_append, Int.natCast_add, beI_length, hb]; unfold batchLength; omega

/-- `written` bytes against the `accounted` number: never more, and the same when `exact` holds (nothing is
compressed, at a record-batch version) -/
def Fits (exact : Prop) (written accounted : Int) : Prop := written ≤ accounted ∧ (exact → written = accounted)

theorem Fits.of_eq {P : Prop} {a b : Int} (h : a = b) : Fits P a b := ⟨Int.le_of_eq h, fun _ => h⟩

theorem Fits.add {P : Prop} {a b c d : Int} (h : Fits P a b) (h' : Fits P c d) : Fits P (a + c) (b + d) :=
  ⟨Int.add_le_add h.1 h'.1, fun p => by rw [h.2 p, h'.2 p]⟩

theorem Fits.mono {P Q : Prop} {a b : Int} (hq : Q → P) (h : Fits P a b) : Fits Q a b := ⟨h.1, fun q => h.2 (hq q)⟩

/-- a frame around something that fits: `c` is to `d` as `a` is to `b` -/
theorem Fits.frame {P : Prop} {a b c d : Int} (h : Fits P a b) (hf : c + b = d + a) : Fits P c d :=
  ⟨by have := h.1; omega, fun p => by have := h.2 p; omega⟩

theorem batchAppendTo_bwl (crc : Bytes → Nat) (comp : Option Compressor) (b : PartBatch) (v pid ep : Int) (tx : Bool)
    (hv : 3 ≤ v) (h : BatchInv b.batch) :
    Fits (comp = none) (batchAppendTo crc comp b v pid ep tx).length (bwl v b.batch) := by
  have hm : uvarintLen (uvar32 (batchLength b.batch - savingsOf comp b v)) ≤ uvarintLen (uvar32 (batchLength b.batch)) :=
    uvarintLen_mono (by simp only [uvar32]; omega)
  rw [batchAppendTo_length crc comp b v pid ep tx h, bwl_batch _ hv]
  unfold flexibleWireLength
  refine ⟨by omega, fun hc => ?_⟩
  subst hc
  simp only [savingsOf_none, Int.natCast_zero, Int.sub_zero]

theorem appendMessageTo_length (crc : Bytes → Nat) (v : Int) (attrs : Nat) (off ts : Int) (k val : Option Bytes) :
    (appendMessageTo crc v attrs off ts k val).length = 26 + (if v ≥ 2 then 8 else 0) + blen k + blen val := by
  unfold appendMessageTo
  by_cases h : v ≥ 2
  · simp [h]; omega
  · simp [h]; omega

/-- `messageSet0Length` counts the set's 4-byte array length with every record: a written message is that much
shorter than its `messageSet1Length`, and 8 more (the timestamp) at magic 0 -/
theorem messagesFrom_length (crc : Bytes → Nat) (v ft : Int) (i : Nat) (l : List PRec) :
    ((messagesFrom crc v ft i l).length : Int) = v1Sum l - 4 * l.length - (if v ≥ 2 then 0 else 8 * (l.length : Int)) := by
  induction l generalizing i with
  | nil => simp [messagesFrom, v1Sum]
  | cons a l ih =>
    simp only [messagesFrom, v1Sum, messageSet1Length, messageSet0Length, List.length_append, appendMessageTo_length,
      List.length_cons, Int.natCast_add, ih]
    split <;> omega

theorem appendToAsMessageSet_le (crc : Bytes → Nat) (comp : Option Compressor) (b : PartBatch) (v : Int)
    (h0 : 0 ≤ v) (h3 : v < 3) (h : BatchInv b.batch) (hne : b.batch.records ≠ []) :
    ((appendToAsMessageSet crc comp b v).length : Int) ≤ bwl v b.batch := by
  have hm := messagesFrom_length crc v b.batch.firstTimestamp 0 b.batch.records
  have hv1 := h.v1
  have hn : 1 ≤ b.batch.records.length := List.length_pos_iff.2 hne
  -- whatever the compressor does, the payload is at most the uncompressed message set
  have hout : ∀ out : Bytes, (out.length : Int) ≤ (messagesFrom crc v b.batch.firstTimestamp 0 b.batch.records).length →
      ((beI 4 out.length ++ out).length : Int) ≤ bwl v b.batch := by
    intro out ho
    rw [bwl_ms _ h0 h3, List.length_append, beI_length]
    omega
  unfold appendToAsMessageSet
  simp only
  cases comp with
  | none => exact hout _ (Int.le_refl _)
  | some c =>
    rcases c (decide (v < 7)) (messagesFrom crc v b.batch.firstTimestamp 0 b.batch.records) with ⟨compressed, codec⟩
    refine hout _ ?_
    generalize hw : (if v = 2 then (8 : Int) else 0) = w
    dsimp only
    split
    · rename_i hcond
      simp only [Bool.and_eq_true, decide_eq_true_eq] at hcond
      rw [appendMessageTo_length]
      simp only [Int.natCast_add, show blen (none : Option Bytes) = 0 from rfl]
      split <;> omega
    · exact Int.le_refl _

end Proof.C18
