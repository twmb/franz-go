import FranzVerif.Model.C17
import FranzVerif.Proof.C17Spec
import FranzVerif.Proof.C17Bits
/-! C17 — the unrolled decoders `uvarint` (5 bytes, 32 bits) and `uvarlong` (10 bytes, 64 bits), both
proved through one lemma about the generic unrolled loop.

`ulGo top inp fuel i acc` is the tail of an unrolled decoder of any width from byte index `i` on
(`fuel` more continuation levels may follow, the shift is `7 * i`, `acc` holds the bits accumulated so
far, the last level accepts a byte up to `top`). The transcriptions are *definitionally* `ulGo` at
fuel 4 / fuel 9 (`uvarint_eq_ulGo`, `uvarlong_eq_ulGo`, by unfolding), and `ulGo_spec` is an induction
on the fuel. -/
namespace Proof.C17
open Model.C17
open Spec.C17 hiding Bytes

theorem fin_iff (b : Byte) : fin b = decide (b.toNat < 128) := by
  have hb := b.isLt
  rw [fin, show 0x80#8 = BitVec.twoPow 8 7 from rfl, BitVec.and_twoPow, BitVec.getLsbD,
    Nat.testBit_eq_decide_div_mod_eq]
  by_cases h : b.toNat < 128
  · rw [decide_eq_true h, decide_eq_false (by omega)]; rfl
  · rw [decide_eq_false h, decide_eq_true (by omega)]; rfl

/-- one continuation level: `x = uintW(b&0x7f)` at the first byte, `x |= uintW(b&0x7f) << k` later -/
def accum {w : Nat} (i : Nat) (acc : BitVec w) (b : Byte) : BitVec w :=
  match i with
  | 0 => (b &&& 0x7f#8).setWidth w
  | _ => acc ||| ((b &&& 0x7f#8).setWidth w) <<< (7 * i)

theorem accum_toNat {w : Nat} (i : Nat) (acc : BitVec w) (b : Byte) (hk : 7 * i + 7 ≤ w) (h : acc.toNat < 2 ^ (7 * i)) :
    (accum i acc b).toNat = acc.toNat + b.toNat % 128 * 2 ^ (7 * i) := by
  rcases i with _ | i
  · rw [accum, mask7_toNat (by omega)]
    simp only [Nat.mul_zero, Nat.pow_zero] at h ⊢
    omega
  · exact or_lo acc b _ hk h

/-- the unrolled decoder from level `i` on -/
def ulGo {w : Nat} (top : Byte) (inp : Bytes) : (fuel i : Nat) → (acc : BitVec w) → Option (BitVec w × Int)
  | 0, i, acc =>
    if inp.length < i + 1 then some (0, 0) else
    (idx? inp i).bind fun b =>
    let x := acc ||| (b.setWidth w) <<< (7 * i)
    if b ≤ top then some (x, ((i + 1 : Nat) : Int)) else some (0, -((i + 1 : Nat) : Int))
  | f + 1, i, acc =>
    if inp.length < i + 1 then some (0, 0) else
    (idx? inp i).bind fun b =>
    let x := accum i acc b
    if fin b then some (x, ((i + 1 : Nat) : Int)) else ulGo top inp f (i + 1) x

theorem uvarint_eq_ulGo (inp : Bytes) : uvarint inp = ulGo 0x0f#8 inp 4 0 0#32 := rfl

theorem uvarlong_eq_ulGo (inp : Bytes) : uvarlong inp = ulGo 0x01#8 inp 9 0 0#64 := rfl

/-- `decU` seen from byte `i` on: `a` is the value of the `i` continuation bytes already read, at most
`maxRest` more bytes may be looked at -/
def restSpec (bits a i maxRest : Nat) (rest : Bytes) : Nat × Int :=
  match leb (rest.take maxRest) with
  | some (v, n) =>
    if a + v * 2 ^ (7 * i) < 2 ^ bits then (a + v * 2 ^ (7 * i), ((i + n : Nat) : Int)) else (0, -((i + maxRest : Nat) : Int))
  | none => if rest.length < maxRest then (0, 0) else (0, -((i + maxRest : Nat) : Int))

theorem restSpec_zero (bits maxB : Nat) (inp : Bytes) : restSpec bits 0 0 maxB inp = decU bits maxB inp := by
  unfold restSpec decU
  rcases leb (inp.take maxB) with _ | ⟨v, n⟩ <;> simp

theorem restSpec_cons (bits a i m : Nat) (b : Byte) (rest : Bytes) (hb : ¬ b.toNat < 128) :
    restSpec bits a i (m + 1) (b :: rest) = restSpec bits (a + (b.toNat - 128) * 2 ^ (7 * i)) (i + 1) m rest := by
  unfold restSpec
  rw [List.take_succ_cons, leb_cons_ge b _ hb, List.length_cons, Nat.add_right_comm i 1 m]
  rcases leb (rest.take m) with _ | ⟨v, n⟩
  · simp only [Option.map_none, Nat.add_lt_add_iff_right]
    rfl
  · have e : a + (b.toNat - 128 + 128 * v) * 2 ^ (7 * i) = a + (b.toNat - 128) * 2 ^ (7 * i) + v * 2 ^ (7 * (i + 1)) := by
      rw [Nat.mul_succ, Nat.pow_add, Nat.add_mul, Nat.add_assoc, Nat.mul_comm 128 v, Nat.mul_assoc, Nat.mul_comm 128]
    simp only [Option.map_some, e, Nat.add_right_comm i 1 n]
    rfl

/-- a final byte (no continuation bit) within the allowed length -/
theorem restSpec_final (bits a i m : Nat) (b : Byte) (rest : Bytes) (hb : b.toNat < 128) :
    restSpec bits a i (m + 1) (b :: rest) =
      if a + b.toNat * 2 ^ (7 * i) < 2 ^ bits then (a + b.toNat * 2 ^ (7 * i), ((i + 1 : Nat) : Int))
      else (0, -((i + (m + 1) : Nat) : Int)) := by
  rw [restSpec, List.take_succ_cons, leb_cons_lt b _ hb]

/-- the last allowed byte, when it reaches the top bit: a continuation byte is at least `2 ^ 7`, which
overflows, so the answer is the same whether or not it is final -/
theorem restSpec_last (bits a i : Nat) (b : Byte) (rest : Bytes) (hw : bits ≤ 7 * i + 7) :
    restSpec bits a i 1 (b :: rest) =
      if a + b.toNat * 2 ^ (7 * i) < 2 ^ bits then (a + b.toNat * 2 ^ (7 * i), ((i + 1 : Nat) : Int))
      else (0, -((i + 1 : Nat) : Int)) := by
  by_cases hb : b.toNat < 128
  · exact restSpec_final bits a i 0 b rest hb
  · have h1 : 2 ^ bits ≤ 128 * 2 ^ (7 * i) := by
      rw [Nat.mul_comm, ← Nat.pow_add 2 (7 * i) 7]
      exact Nat.pow_le_pow_right (by decide) hw
    have h2 := Nat.mul_le_mul_right (2 ^ (7 * i)) (Nat.le_of_not_lt hb)
    rw [restSpec_cons bits a i 0 b rest hb, if_neg (by omega)]
    rfl

/-- the last level holds the top `w - 7 * n` bits: the byte fits iff it is at most
`top = 2 ^ (w - 7 * n) - 1` -/
theorem le_top_iff {w n a : Nat} (top b : Byte) (hw : 7 * n < w) (htop : top.toNat + 1 = 2 ^ (w - 7 * n))
    (ha : a < 2 ^ (7 * n)) : b ≤ top ↔ a + b.toNat * 2 ^ (7 * n) < 2 ^ w := by
  have hP : 2 ^ w = (top.toNat + 1) * 2 ^ (7 * n) := by
    rw [htop, ← Nat.pow_add]
    exact congrArg _ (by omega)
  rw [hP, ← Nat.div_lt_iff_lt_mul (Nat.two_pow_pos _), Nat.add_mul_div_right _ _ (Nat.two_pow_pos _),
    Nat.div_eq_of_lt ha, Nat.zero_add, Nat.lt_succ_iff, BitVec.le_def]

theorem idx_append (pre rest : Bytes) (b : Byte) : idx? (pre ++ b :: rest) pre.length = some b := by
  simp [idx?]

/-- `n` is the index of the last byte. -/
theorem ulGo_spec {w : Nat} (top : Byte) (n : Nat) (hw : 7 * n < w) (hw' : w ≤ 7 * n + 7)
    (htop : top.toNat + 1 = 2 ^ (w - 7 * n)) (fuel : Nat) :
    ∀ (i : Nat) (acc : BitVec w) (pre rest : Bytes), pre.length = i → i + fuel = n → acc.toNat < 2 ^ (7 * i) →
      ulGo top (pre ++ rest) fuel i acc =
        some (BitVec.ofNat w (restSpec w acc.toNat i (fuel + 1) rest).1, (restSpec w acc.toNat i (fuel + 1) rest).2) := by
  induction fuel with
  | zero =>
    intro i acc pre rest hp hi hacc
    obtain rfl : i = n := by omega
    rcases rest with _ | ⟨b, rest⟩
    · rw [ulGo, if_pos (by simp [hp])]; rfl
    rw [ulGo, if_neg (by simp [hp]), ← hp, idx_append, hp, restSpec_last w _ i b rest hw']
    simp only [Option.bind_some, ← le_top_iff top b hw htop hacc]
    by_cases hle : b ≤ top
    · have := BitVec.le_def.mp hle
      rw [if_pos hle, if_pos hle, ← or_up acc b (7 * i) (w - 7 * i) (by omega) (by omega) hacc, BitVec.ofNat_toNat,
        BitVec.setWidth_eq]
    · rw [if_neg hle, if_neg hle]
      rfl
  | succ f ih =>
    intro i acc pre rest hp hi hacc
    rcases rest with _ | ⟨b, rest⟩
    · rw [ulGo, if_pos (by simp [hp])]; rfl
    have hb := b.isLt
    have e := accum_toNat i acc b (by omega) hacc
    rw [ulGo, if_neg (by simp [hp]), ← hp, idx_append, hp]
    simp only [Option.bind_some, fin_iff]
    by_cases hlt : b.toNat < 128
    · rw [Nat.mod_eq_of_lt hlt] at e
      rw [if_pos (decide_eq_true hlt), restSpec_final w _ i (f + 1) b rest hlt, ← e, if_pos (accum i acc b).isLt,
        BitVec.ofNat_toNat, BitVec.setWidth_eq]
    · have hm := Nat.mul_le_mul_right (2 ^ (7 * i)) (show b.toNat % 128 ≤ 127 by omega)
      have hx : (accum i acc b).toNat < 2 ^ (7 * (i + 1)) := by
        rw [e, Nat.mul_succ, Nat.pow_add]; omega
      rw [if_neg (by simp [hlt]), List.append_cons,
        ih (i + 1) _ (pre ++ [b]) rest (by simp [hp]) (by omega) hx, e, restSpec_cons w _ i (f + 1) b rest hlt,
        show b.toNat % 128 = b.toNat - 128 by omega]

theorem ulGo_decU {w : Nat} (top : Byte) (n : Nat) (hw : 7 * n < w) (hw' : w ≤ 7 * n + 7)
    (htop : top.toNat + 1 = 2 ^ (w - 7 * n)) (inp : Bytes) :
    ulGo top inp n 0 0#w = some (BitVec.ofNat w (decU w (n + 1) inp).1, (decU w (n + 1) inp).2) := by
  have := ulGo_spec top n hw hw' htop n 0 0#w [] inp rfl (Nat.zero_add n) (Nat.two_pow_pos _)
  rwa [show (0#w).toNat = 0 from Nat.zero_mod _, restSpec_zero] at this

theorem uvarint_exact (inp : Bytes) :
    uvarint inp = some (BitVec.ofNat 32 (Spec.C17.decU 32 5 inp).1, (Spec.C17.decU 32 5 inp).2) :=
  (uvarint_eq_ulGo inp).trans (ulGo_decU 0x0f#8 4 (by decide) (by decide) (by decide) inp)

theorem uvarlong_exact (inp : Bytes) :
    uvarlong inp = some (BitVec.ofNat 64 (decU 64 10 inp).1, (decU 64 10 inp).2) :=
  (uvarlong_eq_ulGo inp).trans (ulGo_decU 0x01#8 9 (by decide) (by decide) (by decide) inp)

end Proof.C17
