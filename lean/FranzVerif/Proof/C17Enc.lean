import FranzVerif.Model.C17
import FranzVerif.Proof.C17Spec
import FranzVerif.Proof.C17Bits
/-! C17 — the varint encoders: the length function through the table is the LEB128 length, and every arm of
`switch UvarintLen(u)` is the same unrolled loop `encGo`, which writes `encU`. -/
namespace Proof.C17
open Model.C17
open Spec.C17 hiding Bytes

theorem bitsLen_div128 (n : Nat) (h : 128 ≤ n) : bitsLen (n / 128) + 7 = bitsLen n := by
  have hn : n ≠ 0 := by omega
  have hm : n / 128 ≠ 0 := by omega
  simp only [bitsLen, hn, hm, if_false]
  have ⟨h1, h2⟩ := (Nat.log2_eq_iff hm).1 rfl
  have e7 : 2 ^ ((n / 128).log2 + 7) = 2 ^ (n / 128).log2 * 128 := by rw [Nat.pow_add]
  have e8 : 2 ^ ((n / 128).log2 + 7 + 1) = 2 ^ (n / 128).log2 * 256 := by rw [Nat.add_assoc, Nat.pow_add]
  have e1 : 2 ^ ((n / 128).log2 + 1) = 2 ^ (n / 128).log2 * 2 := by rw [Nat.pow_add]
  have := (Nat.log2_eq_iff hn (k := (n / 128).log2 + 7)).2 ⟨by omega, by omega⟩
  omega

theorem bitsLen_le (n k : Nat) (h : n < 2 ^ k) : bitsLen n ≤ k := by
  unfold bitsLen
  split
  · omega
  · rename_i hn
    have := (Nat.log2_lt hn (k := k)).2 h
    omega

/-- `tbl` is `Props.C17.lens_table_correct`, which evaluates the regenerated table; what remains is that
`max 1 ⌈bits n / 7⌉` is the LEB128 length. -/
theorem lens_bitsLen (tbl : ∀ L : Fin 65, lensAt L.val = max 1 ((L.val + 6) / 7)) (n : Nat) (h : n < 2 ^ 64) :
    lensAt (bitsLen n) = lenU n := by
  have hb := bitsLen_le n 64 h
  rw [tbl ⟨bitsLen n, by omega⟩]
  show max 1 ((bitsLen n + 6) / 7) = lenU n
  clear hb h
  induction n using Nat.strongRecOn with
  | _ n ih =>
    by_cases c : n < 128
    · have := bitsLen_le n 7 c
      rw [lenU_lt c]; omega
    · have := bitsLen_div128 n (by omega)
      have : 1 ≤ bitsLen (n / 128) := by
        unfold bitsLen; split <;> omega
      have := ih (n / 128) (by omega)
      rw [lenU_ge c]; omega

/-- `byte((u>>k)&0x7f|0x80)` is the continuation byte of the 7-bit group at bit `k` -/
theorem cont_eq {w : Nat} (hw : 8 ≤ w) (u : BitVec w) (k : Nat) :
    ((((u >>> k) &&& 0x7f#w) ||| 0x80#w).setWidth 8) = byte (u.toNat / 2 ^ k % 128 + 128) := by
  have h256 : (2:Nat) ^ 8 ≤ 2 ^ w := Nat.pow_le_pow_right (by decide) hw
  simp only [Nat.reducePow] at h256
  apply BitVec.eq_of_toNat_eq
  simp only [byte, BitVec.toNat_setWidth, BitVec.toNat_or, BitVec.toNat_and, BitVec.toNat_ushiftRight,
    BitVec.toNat_ofNat, Nat.shiftRight_eq_div_pow]
  rw [Nat.mod_eq_of_lt (by omega : 127 < 2 ^ w), Nat.mod_eq_of_lt (by omega : 128 < 2 ^ w), Nat.and_two_pow_sub_one_eq_mod _ 7,
    show _ ||| 128 = _ from Wire.or_shl _ 1 7 (Nat.mod_lt _ (by decide))]

/-- The arms of `switch UvarintLen(u)` are all this list: `c` continuation bytes for the 7-bit groups
from bit `k` on, then `byte(u >> …)`. -/
def encGo {w : Nat} (u : BitVec w) : (c k : Nat) → Bytes
  | 0, k => [(u >>> k).setWidth 8]
  | c + 1, k => (((u >>> k) &&& 0x7f#w) ||| 0x80#w).setWidth 8 :: encGo u c (k + 7)

theorem encGo_eq {w : Nat} (hw : 8 ≤ w) (u : BitVec w) : ∀ (c k m : Nat), u.toNat / 2 ^ k = m → lenU m = c + 1 →
    encGo u c k = encU m
  | 0, k, m, hm, hl => by
    have h : m < 128 := Decidable.by_contra fun h => by rw [lenU_ge h] at hl; have := lenU_pos (m / 128); omega
    rw [encGo, encU_lt h, shr_setw8, hm]
  | c + 1, k, m, hm, hl => by
    have h : ¬ m < 128 := fun h => by rw [lenU_lt h] at hl; omega
    rw [lenU_ge h] at hl
    have hd : u.toNat / 2 ^ (k + 7) = m / 128 := by rw [Nat.pow_add, ← Nat.div_div_eq_div_mul, hm]
    rw [encGo, encU_ge h, cont_eq hw, hm, encGo_eq hw u c (k + 7) (m / 128) hd (by omega)]

/-- an arm of the `switch`, as it stands in `appendUvarint`/`appendUvarlong` -/
theorem encGo_arm {w : Nat} (hw : 8 ≤ w) (dst : Bytes) (u : BitVec w) (c : Nat) (hl : lenU u.toNat = c + 1) :
    dst ++ encGo u c 0 = dst ++ encU u.toNat :=
  congrArg (dst ++ ·) (encGo_eq hw u c 0 _ (Nat.div_one _) hl)

end Proof.C17
