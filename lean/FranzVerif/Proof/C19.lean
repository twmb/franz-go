import FranzVerif.Model.C19
import FranzVerif.Proof.WireFacts
/-! C19 — codec selection: the selection loop `choose` is the Spec's `firstUsable` of the options list (`choose_eq`), and the first
usable entry is the same in the list as written, after deduplication (`find_dedup`: the first hit of a codec predicate is the same
before and after) and after the cut behind `NoCompression` (`firstUsable_cutNone`); hence `choose_built`.
`Decompress`: one turn of the xerial framing loop is stated once, in the words of `Spec.frames` (`xerialLoop_eq`: no slice is out
of range; what the Spec rejects is malformed; the block the Spec cuts off goes through `afterBlock`); that it never panics and
succeeds only on a well-framed source (`xerialLoop_safe`), stays within the limit (`Props.C19.xerial_bounded_partial`) and returns the
concatenation of the blocks on a well-framed source (`xerialLoop_frames`) go along the induction of `Spec.frames`; `frame` is a
section of `Spec.frames` (`frames_flatMap_frame`);
the third-party codecs are the parameter `Lib`, and what is assumed of them are the three `Prop`s
`DecodeHonoursLen` (K1), `ZstdHonoursLimit` (K2), `RoundTrips` (K3), hypotheses of the `_partial` theorems of `Props/C19.lean`.
The reference decoders (snappy, LZ4 frame; reads on `Arr` answer `.panic` out of range): `okSize sz P r` says that `r` is an
error or a value whose size satisfies `P`, never a panic; the loops that build output (`snapLoop`, `lz4Seqs`, `lz4Blocks`) and
`lz4Frame` have a `…_safe` lemma in that form, proved along the function's own induction principle from what the reads and the
length loops promise (`…_ne_panic` in range, `…_size` of what they return). -/
namespace Proof.C19
open Model.C19

theorem choose_eq (opts : List Int) (dis : Bool) : choose opts dis = Spec.firstUsable opts dis := by
  induction opts with
  | nil => rfl
  | cons o rest ih =>
    rw [choose, Spec.firstUsable, List.find?_cons, Spec.usable]
    cases o == 4 && dis
    · rfl
    · exact ih

theorem choose_true_ne_zstd (opts : List Int) : choose opts true ≠ 4 := by
  rw [choose_eq, Spec.firstUsable]
  cases h : opts.find? (Spec.usable true) with
  | none => decide
  | some c => simpa [Spec.usable] using List.find?_some h

theorem choose_mem (opts : List Int) (dis : Bool) : choose opts dis = 0 ∨ choose opts dis ∈ opts := by
  rw [choose_eq, Spec.firstUsable]
  cases h : opts.find? (Spec.usable dis) with
  | none => exact .inl rfl
  | some c => exact .inr (List.mem_of_find?_eq_some h)

theorem mem_dedup {p : Pref} : ∀ (l : List Pref) (seen : List Int), p ∈ dedup l seen → p ∈ l := by
  intro l
  induction l with
  | nil => intro seen h; simp [dedup] at h
  | cons q qs ih =>
    intro seen h
    unfold dedup at h
    split at h
    · exact List.mem_cons_of_mem _ (ih _ h)
    · rcases List.mem_cons.mp h with h | h
      · simp [h]
      · exact List.mem_cons_of_mem _ (ih _ h)

theorem dedup_ne_nil (l : List Pref) (h : l ≠ []) : dedup l [] ≠ [] := by
  cases l with
  | nil => exact absurd rfl h
  | cons p ps => simp [dedup]

theorem cutNone_ne_nil (l : List Pref) (h : l ≠ []) : cutNone l ≠ [] := by
  cases l with
  | nil => exact absurd rfl h
  | cons p ps => unfold cutNone; split <;> simp

/-- On a non-empty list over the codecs 0..4 `DefaultCompressor` gets as far as looking at `c.options[0]`,
which exists. -/
theorem build_of_valid {prefs : List Pref} (hne : prefs ≠ []) (hv : ∀ p ∈ prefs, 0 ≤ p.codec ∧ p.codec ≤ 4) :
    ∃ o rest, cutNone (dedup prefs []) = o :: rest ∧
      build prefs = if o == 0 then .noCompressor else .comp (o :: rest) := by
  have hvalid : (dedup prefs []).any (fun p => p.codec < 0 || p.codec > 4) = false := by
    rw [List.any_eq_false]
    intro p hp
    have := hv p (mem_dedup _ _ hp)
    simp
    omega
  have hemp : prefs.isEmpty = false := by simpa using hne
  cases hc : cutNone (dedup prefs []) with
  | nil => exact absurd hc (cutNone_ne_nil _ (dedup_ne_nil _ hne))
  | cons o rest => exact ⟨o, rest, rfl, by simp [build, hemp, hvalid, hc]⟩

theorem find_dedup (q : Int → Bool) (l : List Pref) (seen : List Int) :
    (dedup l seen).find? (fun p => q p.codec) = l.find? (fun p => q p.codec && !seen.contains p.codec) := by
  induction l generalizing seen with
  | nil => rfl
  | cons p ps ih =>
    rw [dedup, List.find?_cons (as := ps)]
    by_cases hc : seen.contains p.codec = true
    · rw [if_pos hc, ih, hc]
      simp
    · rw [if_neg hc, List.find?_cons, ih]
      have hm : p.codec ∉ seen := by simpa using hc
      by_cases hq : q p.codec = true
      · simp [hq, hm]
      · simp only [hq, Bool.false_and]
        -- a later `p.codec` fails `q` like this one, so having seen it changes nothing
        congr 1
        funext x
        by_cases hx : x.codec = p.codec
        · simp [hx, hq]
        · simp [hx]

/-- `NoCompression` is usable, so the search never looks behind it. -/
theorem firstUsable_cutNone (ps : List Pref) (dis : Bool) :
    Spec.firstUsable (cutNone ps) dis = Spec.firstUsable (ps.map Pref.codec) dis := by
  induction ps with
  | nil => rfl
  | cons p ps ih =>
    rw [cutNone]
    split
    · next h => simp [Spec.firstUsable, Spec.usable, eq_of_beq h]
    · simp only [Spec.firstUsable, List.map_cons, List.find?_cons] at ih ⊢
      cases Spec.usable dis p.codec
      · exact ih
      · rfl

theorem choose_built (prefs : List Pref) (dis : Bool) :
    choose (cutNone (dedup prefs [])) dis = Spec.firstUsable (prefs.map Pref.codec) dis := by
  rw [choose_eq, firstUsable_cutNone]
  simp only [Spec.firstUsable, List.find?_map, Function.comp_def, find_dedup (Spec.usable dis)]
  simp
theorem u32be_beNat (s : Bytes) (h : 4 ≤ s.length) :
    u32be s = some (Spec.beNat (s.take 4)) ∧ Spec.beNat (s.take 4) < 4294967296 := by
  match s, h with
  | a :: b :: c :: d :: rest, _ =>
    have ha := a.toNat_lt
    have hb := b.toNat_lt
    have hc := c.toNat_lt
    have hd := d.toNat_lt
    simp [u32be, Spec.beNat, List.foldl]
    omega

theorem sliceFrom_eq {s : Bytes} {lo : Int} (h0 : 0 ≤ lo) (h1 : lo ≤ s.length) :
    sliceFrom s lo = some (s.drop lo.toNat) := by simp [sliceFrom, h0, h1]

theorem sliceTo_eq {s : Bytes} {hi : Int} (h0 : 0 ≤ hi) (h1 : hi ≤ s.length) :
    sliceTo s hi = some (s.take hi.toNat) := by simp [sliceTo, h0, h1]

theorem sliceTo_val {s t : Bytes} {hi : Int} (h : sliceTo s hi = some t) :
    0 ≤ hi ∧ hi ≤ s.length ∧ t = s.take hi.toNat := by
  unfold sliceTo at h
  split at h
  · rename_i hc; cases h; exact ⟨hc.1, hc.2, rfl⟩
  · cases h

/-- What the loop of `xerialDecode` does with one block once it is cut out: the claimed length is tested against what is
left of the limit, the block is decoded and appended, and the loop goes on (`k`) with the longer `dst`. -/
def afterBlock (lib : Lib) (max : Nat) (dst blk : Bytes) (k : Bytes → Out Bytes) : Out Bytes :=
  match lib.snapLen blk with
  | none => .err .other
  | some l =>
    if (l : Int) > (max : Int) - (dst.length : Int) then .err .tooLarge
    else match lib.snapDec blk with
      | none => .err .other
      | some chunk => k (dst ++ chunk)

theorem afterBlock_eq (lib : Lib) (max : Nat) (dst blk : Bytes) (k : Bytes → Out Bytes) :
    (∃ e, afterBlock lib max dst blk k = .err e) ∨
    ∃ l chunk, lib.snapLen blk = some l ∧ (l : Int) ≤ (max : Int) - (dst.length : Int) ∧ lib.snapDec blk = some chunk ∧
      afterBlock lib max dst blk k = k (dst ++ chunk) := by
  fun_cases afterBlock lib max dst blk k
  case case4 l hl hlim chunk hd => exact .inr ⟨l, chunk, hl, by omega, hd, rfl⟩
  all_goals exact .inl ⟨_, rfl⟩

theorem afterBlock_ok {lib : Lib} {max : Nat} {dst blk chunk : Bytes} (k : Bytes → Out Bytes)
    (hl : lib.snapLen blk = some chunk.length) (hd : lib.snapDec blk = some chunk) (hmax : dst.length + chunk.length ≤ max) :
    afterBlock lib max dst blk k = k (dst ++ chunk) := by
  simp only [afterBlock, hl, hd]
  rw [if_neg (by omega)]

/-- One turn of the loop, in the words of `Spec.frames`: an empty source ends it, a source that `Spec.frames` rejects is malformed,
and otherwise the block `Spec.frames` cuts off is handled by `afterBlock` and the loop goes on behind it. None of the loop's slices
is out of range. -/
theorem xerialLoop_eq (lib : Lib) (max : Nat) (dst src : Bytes) :
    xerialLoop lib max dst src =
      if src.length = 0 then .ok dst
      else if src.length < 4 then .err .xerial
      else if Spec.beNat (src.take 4) ≥ 2147483648 ∨ (src.drop 4).length < Spec.beNat (src.take 4) then .err .xerial
      else afterBlock lib max dst ((src.drop 4).take (Spec.beNat (src.take 4)))
        fun dst' => xerialLoop lib max dst' ((src.drop 4).drop (Spec.beNat (src.take 4))) := by
  unfold afterBlock
  rw [xerialLoop]
  by_cases h0 : src.length = 0
  · rw [dif_pos h0, if_pos h0]
  by_cases h4 : src.length < 4
  · rw [dif_neg h0, dif_pos h4, if_neg h0, if_pos h4]
  rw [dif_neg h0, dif_neg h4, if_neg h0, if_neg h4]
  obtain ⟨hu, hlt⟩ := u32be_beNat src (by omega)
  generalize Spec.beNat (src.take 4) = u at hu hlt ⊢
  rw [hu]
  simp only []
  have hsz : (toInt32 u < 0 ∨ ((src.drop 4).length : Int) < toInt32 u) ↔ (u ≥ 2147483648 ∨ (src.drop 4).length < u) := by
    unfold toInt32; split <;> omega
  split
  next h => rw [sliceFrom_eq (by omega) (by omega)] at h; cases h
  next src1 h1 =>
    rw [sliceFrom_eq (by omega) (by omega)] at h1
    cases h1
    rw [show Int.toNat 4 = 4 from rfl]
    by_cases hbad : u ≥ 2147483648 ∨ (src.drop 4).length < u
    · rw [if_pos hbad, if_pos (hsz.mpr hbad)]
    · have hu32 : toInt32 u = (u : Int) := by unfold toInt32; rw [if_neg (by omega)]
      rw [if_neg hbad, if_neg (mt hsz.mp hbad), hu32, sliceTo_eq (by omega) (by omega), Int.toNat_natCast]
      simp only []
      cases lib.snapLen ((src.drop 4).take u) with
      | none => rfl
      | some l =>
        simp only []
        split
        · rfl
        · cases lib.snapDec ((src.drop 4).take u) with
          | none => rfl
          | some chunk =>
            simp only []
            split
            next h => rw [sliceFrom_eq (by omega) (by omega)] at h; cases h
            next src2 h2 =>
              rw [sliceFrom_eq (by omega) (by omega), Int.toNat_natCast] at h2
              cases h2
              rfl


theorem xerialLoop_safe (lib : Lib) (max : Nat) (dst src : Bytes) :
    xerialLoop lib max dst src ≠ .panic ∧
    (∀ out, xerialLoop lib max dst src = .ok out → (Spec.frames src).isSome = true) := by
  fun_induction Spec.frames src generalizing dst
  all_goals rw [xerialLoop_eq]; simp only [*, if_true, if_false]
  case case1 => exact ⟨nofun, fun _ _ => rfl⟩
  -- a block was cut off: an error behind it, or the loop on the rest, of which `Spec.frames` says the same as of the whole
  case case4 ih | case5 ih =>
    rcases afterBlock_eq lib max dst _ _ with ⟨e, he⟩ | ⟨_, _, -, -, -, he⟩ <;> rw [he]
    · exact ⟨nofun, nofun⟩
    · refine ⟨(ih _).1, fun out ho => ?_⟩
      have := (ih _).2 out ho
      rwa [‹Spec.frames _ = _›] at this
  all_goals exact ⟨nofun, nofun⟩

/-- (K1) `s2.Decode` returns exactly `s2.DecodedLen` bytes. -/
def DecodeHonoursLen (lib : Lib) : Prop := ∀ b c, lib.snapDec b = some c → lib.snapLen b = some c.length

/-- the length field the Java xerial writer puts in front of a block -/
def be32 (n : Nat) : Bytes :=
  [UInt8.ofNat (n / 16777216 % 256), UInt8.ofNat (n / 65536 % 256), UInt8.ofNat (n / 256 % 256), UInt8.ofNat (n % 256)]

def frame (b : Bytes) : Bytes := be32 b.length ++ b

theorem u32be_be32 (n : Nat) (h : n < 4294967296) (rest : Bytes) : u32be (be32 n ++ rest) = some n := by
  simp [be32, u32be, Proof.Wire.be32_sum n h]

/-- `frame` is a section of `Spec.frames`: a block behind its length field is the first block `Spec.frames` cuts off. -/
theorem frames_frame (b rest : Bytes) (hb : b.length < 2147483648) :
    Spec.frames (frame b ++ rest) = (Spec.frames rest).map (b :: ·) := by
  have l4 : (be32 b.length).length = 4 := rfl
  have hu : Spec.beNat (be32 b.length) = b.length := by
    have := u32be_beNat (be32 b.length) (Nat.le_of_eq l4.symm)
    rw [← List.append_nil (be32 _), u32be_be32 _ (by omega), List.append_nil, List.take_of_length_le (Nat.le_of_eq l4)] at this
    exact (Option.some.inj this.1).symm
  rw [frame, List.append_assoc, Spec.frames, List.take_left' l4, List.drop_left' l4, hu,
    dif_neg (by rw [List.length_append, l4]; omega), dif_neg (by rw [List.length_append, l4]; omega),
    if_neg (by rw [List.length_append]; omega), List.take_left' rfl, List.drop_left' rfl]
  cases Spec.frames rest <;> rfl

theorem frames_flatMap_frame (bs : List Bytes) (h : ∀ b ∈ bs, b.length < 2147483648) :
    Spec.frames (bs.flatMap frame) = some bs := by
  induction bs with
  | nil => rw [List.flatMap_nil, Spec.frames]; rfl
  | cons b bs ih =>
    rw [List.flatMap_cons, frames_frame b _ (h b List.mem_cons_self), ih fun b' hb' => h b' (List.mem_cons_of_mem _ hb')]
    rfl

/-- On a well-framed source whose blocks the library decodes (`dec`) to a total within the limit the loop returns the
concatenation of the blocks' decodings, appended to `dst`. -/
theorem xerialLoop_frames (lib : Lib) (max : Nat) (dec : Bytes → Bytes) (src : Bytes) (bs : List Bytes) (dst : Bytes)
    (hf : Spec.frames src = some bs)
    (hb : ∀ b ∈ bs, lib.snapLen b = some (dec b).length ∧ lib.snapDec b = some (dec b))
    (hmax : dst.length + ((bs.map dec).flatten).length ≤ max) :
    xerialLoop lib max dst src = .ok (dst ++ (bs.map dec).flatten) := by
  fun_induction Spec.frames src generalizing dst bs
  case case1 h0 => cases hf; rw [xerialLoop_eq, if_pos h0]; simp
  case case4 h0 h4 h bs' hfr ih =>
    cases hf
    have hb0 := hb _ List.mem_cons_self
    simp only [List.map_cons, List.flatten_cons, List.length_append] at hmax
    rw [xerialLoop_eq, if_neg h0, if_neg h4, if_neg h, afterBlock_ok _ hb0.1 hb0.2 (by omega),
      ih bs' _ hfr (fun b hb' => hb b (List.mem_cons_of_mem _ hb')) (by rw [List.length_append]; omega)]
    simp
  all_goals cases hf

theorem limitedCopy_ne_panic (max : Nat) (s : Stream) : limitedCopy max s ≠ .panic := by
  fun_cases limitedCopy max s <;> nofun

theorem limitedCopy_ok {max : Nat} {s : Stream} {src : Bytes} (hs : s.bytes = src ∧ s.clean = true)
    (hlen : src.length ≤ max) : limitedCopy max s = .ok src := by
  obtain ⟨rfl, hc⟩ := hs
  unfold limitedCopy
  rw [if_neg (by omega), if_neg (by omega), hc]
  rfl

theorem xerialDecode_ne_panic (lib : Lib) (max : Nat) (dst src : Bytes) (h : 16 ≤ src.length) :
    xerialDecode lib max dst src ≠ .panic := by
  unfold xerialDecode
  rw [sliceFrom_eq (by omega) (by omega)]
  exact (xerialLoop_safe lib max dst _).1

/-- (K2) `zstd.DecodeAll` under `WithDecoderMaxMemory(max)` returns at most `max` bytes. -/
def ZstdHonoursLimit (lib : Lib) : Prop := ∀ max src d, lib.zstd max src = some d → d.length ≤ max

/-- (K3) the decoders invert the encoders on what the encoders emit (and raw snappy never starts with the xerial magic). -/
structure RoundTrips (enc : Enc) (lib : Lib) (max : Nat) : Prop where
  gzip : ∀ lvl src out, enc 1 lvl src = some out → (lib.stream 1 out).bytes = src ∧ (lib.stream 1 out).clean = true
  lz4 : ∀ lvl src out, enc 3 lvl src = some out → (lib.stream 3 out).bytes = src ∧ (lib.stream 3 out).clean = true
  snappy : ∀ lvl src out, enc 2 lvl src = some out →
    lib.snapLen out = some src.length ∧ lib.snapDec out = some src ∧ (out.length > 16 && hasPrefix out xerialPfx) = false
  zstd : ∀ lvl src out, enc 4 lvl src = some out → src.length ≤ max → lib.zstd max out = some src

theorem roundtrip (enc : Enc) (lib : Lib) (max : Nat) (hrt : RoundTrips enc lib max)
    (prefs : List Pref) (opts flags : List Int) (hopts : ∀ o ∈ opts, 0 ≤ o ∧ o ≤ 4)
    (src : Bytes) (hlen : src.length ≤ max) (bytes : Bytes)
    (h : (compress enc prefs opts flags src).1 = some bytes) :
    decompress lib max (compress enc prefs opts flags src).2 bytes = .ok src := by
  unfold compress at *
  by_cases h0 : choose opts (disableZstd flags) = 0
  · simp [h0] at h ⊢
    simp [decompress, h]
  · have hr := hopts _ ((choose_mem opts (disableZstd flags)).resolve_left h0)
    generalize choose opts (disableZstd flags) = use at *
    have h0' : (use == 0) = false := by simpa using h0
    simp only [h0', Bool.false_eq_true, if_false] at h ⊢
    cases he : enc use (levelOf prefs use) src with
    | none => rw [he] at h; simp at h
    | some out =>
      rw [he] at h
      simp only at h ⊢
      cases h
      obtain rfl | rfl | rfl | rfl : use = 1 ∨ use = 2 ∨ use = 3 ∨ use = 4 := by omega
      · exact limitedCopy_ok (hrt.gzip _ _ _ he) hlen
      · have := hrt.snappy _ _ _ he
        unfold decompress
        simp [this.1, this.2.1, this.2.2]
        omega
      · exact limitedCopy_ok (hrt.lz4 _ _ _ he) hlen
      · have := hrt.zstd _ _ _ he hlen
        unfold decompress
        simp [this]

/-- result is an error, or a value whose size (`sz`: of the array, or of the array in a pair) satisfies `P`; never a panic -/
def okSize {α : Type} (sz : α → Nat) (P : Nat → Prop) : R α → Prop
  | .ok o => P (sz o)
  | .err => True
  | .panic => False

section okSize
variable {α : Type} {sz : α → Nat} {P : Nat → Prop}

theorem okSize_err : okSize sz P .err := trivial

theorem okSize_iff {r : R α} : okSize sz P r ↔ r ≠ .panic ∧ ∀ o, r = .ok o → P (sz o) := by
  cases r with
  | ok o => exact ⟨fun h => ⟨nofun, fun o' ho => by cases ho; exact h⟩, fun h => h.2 o rfl⟩
  | err => exact ⟨fun _ => ⟨nofun, nofun⟩, fun _ => trivial⟩
  | panic => exact ⟨False.elim, fun h => h.1 rfl⟩

end okSize

theorem rd_ne_panic {a : Arr} {i : Nat} (h : i < a.size) : rd a i ≠ .panic := by
  simp [rd, h]

theorem rdLE_ne_panic {a : Arr} {n i : Nat} (h : i + n ≤ a.size) : rdLE a i n ≠ .panic := by
  fun_induction rdLE a i n
  case case4 x ih => exact absurd x (ih (by omega))
  case case6 x => exact absurd x (rd_ne_panic (by omega))
  all_goals nofun

/-- A field that is there only when a flag says so (block checksum, content size). -/
theorem rdLE_opt_ne_panic {c : Prop} [Decidable c] {a : Arr} {n i : Nat} (h : c → i + n ≤ a.size) :
    (if c then rdLE a i n else .ok 0) ≠ .panic := by
  split
  · next hc => exact rdLE_ne_panic (h hc)
  · nofun

theorem slice_ne_panic {a : Arr} {lo hi : Nat} (h1 : lo ≤ hi) (h2 : hi ≤ a.size) : slice a lo hi ≠ .panic := by
  simp [slice, h1, h2]

theorem slice_size {a b : Arr} {lo hi : Nat} (h : slice a lo hi = .ok b) : b.size + lo = hi := by
  unfold slice at h
  split at h
  · cases h; rw [Array.size_extract]; omega
  · cases h

theorem copyBack_ne_panic {n off : Nat} {out : Arr} (h0 : 0 < off) (h1 : off ≤ out.size) : copyBack n off out ≠ .panic := by
  fun_induction copyBack n off out
  case case1 => nofun
  case case2 ih => exact ih h0 (by rw [Array.size_push]; omega)
  case case3 h => exact absurd ⟨h0, h1⟩ h

theorem copyBack_size {n off : Nat} {out o : Arr} (h : copyBack n off out = .ok o) : o.size = out.size + n := by
  fun_induction copyBack n off out
  case case1 => cases h; rfl
  case case2 ih => rw [ih h, Array.size_push]; omega
  case case3 => cases h

/-! The decoders, each by its own induction principle. Every path ends in an error (nothing to show), in a result or a
recursive call (the guards passed on the way bound the size), or in a read that answered `.panic` (the guards passed on the way
say it was in range). The cases named are those of the last two kinds. -/

theorem lenExt_ne_panic (a : Arr) (fuel i acc : Nat) : lenExt a fuel i acc ≠ .panic := by
  fun_induction lenExt a fuel i acc
  case case4 ih => exact ih
  case case6 x => exact absurd x (rd_ne_panic (by omega))
  all_goals nofun

/-- The length of an LZ4 sequence part: the token's nibble, continued by `lenExt` when it is 15. -/
theorem lenExt_opt_ne_panic {c : Prop} [Decidable c] {a : Arr} {fuel i acc : Nat} {r : Nat × Nat} :
    (if c then lenExt a fuel i acc else .ok r) ≠ .panic := by
  split
  · exact lenExt_ne_panic _ _ _ _
  · nofun

theorem uvarintGo_ne_panic (a : Arr) (fuel i sh acc : Nat) : uvarintGo a fuel i sh acc ≠ .panic := by
  fun_induction uvarintGo a fuel i sh acc
  case case4 ih => exact ih
  case case6 x => exact absurd x (rd_ne_panic (by omega))
  all_goals nofun

theorem snappyLen_ne_panic (src : Arr) : snappyLen src ≠ .panic := by
  fun_cases snappyLen src
  case case4 x => exact absurd x (uvarintGo_ne_panic _ _ _ _ _)
  all_goals nofun

theorem snapLoop_safe (src : Arr) (dLen : Nat) (fuel s : Nat) (out : Arr) (hle : out.size ≤ dLen) :
    okSize Array.size (· = dLen) (snapLoop src dLen fuel s out) := by
  fun_induction snapLoop src dLen fuel s out
  -- case 2: the input is used up and the output has the declared length; 12 and 19: the loop goes on after a literal / a copy
  case case2 => exact ‹Array.size _ = dLen›
  case case5 x => exact absurd x (rd_ne_panic (by omega))
  case case8 x | case15 x => exact absurd x (rdLE_ne_panic (by omega))
  case case11 x => exact absurd x (slice_ne_panic (by omega) (by omega))
  case case12 ih =>
    have := slice_size ‹slice src _ _ = .ok _›
    exact ih (by rw [Array.size_append]; omega)
  case case18 x => exact absurd x (copyBack_ne_panic (by omega) (by omega))
  case case19 ih =>
    have := copyBack_size ‹copyBack _ _ _ = .ok _›
    exact ih (by omega)
  all_goals exact okSize_err

theorem lz4Seqs_safe (blk : Arr) (cap base : Nat) (fuel s : Nat) (out : Arr) (hle : out.size ≤ cap) :
    okSize Array.size (· ≤ cap) (lz4Seqs blk cap base fuel s out) := by
  fun_induction lz4Seqs blk cap base fuel s out
  case case4 x => exact absurd x (rd_ne_panic (by omega))
  case case6 x | case15 x => exact absurd x lenExt_opt_ne_panic
  case case9 x => exact absurd x (slice_ne_panic (by omega) (by omega))
  case case13 x => exact absurd x (rdLE_ne_panic (by omega))
  -- the last sequence: literals only
  case case10 lit hlit _ =>
    have := slice_size hlit
    show Array.size (_ ++ lit) ≤ cap
    rw [Array.size_append]; omega
  case case18 hg x =>
    have := slice_size ‹slice blk _ _ = .ok _›
    rw [Array.size_append] at hg
    exact absurd x (copyBack_ne_panic (by omega) (by rw [Array.size_append]; omega))
  case case19 hg _ hcopy ih =>
    have := slice_size ‹slice blk _ _ = .ok _›
    have := copyBack_size hcopy
    rw [Array.size_append] at hg this
    exact ih (by omega)
  all_goals exact okSize_err

theorem lz4Blocks_safe (xxh : Arr → Nat) (src : Arr) (limit blockMax : Nat) (indep bchk : Bool) (fuel p : Nat) (out : Arr)
    (hle : out.size ≤ limit) :
    okSize (fun r : Arr × Nat => r.1.size) (· ≤ limit) (lz4Blocks xxh src limit blockMax indep bchk fuel p out) := by
  fun_induction lz4Blocks xxh src limit blockMax indep bchk fuel p out
  case case4 x => exact absurd x (rdLE_ne_panic (by omega))
  -- the EndMark
  case case5 => exact hle
  case case8 x => exact absurd x (slice_ne_panic (by omega) (by omega))
  case case11 hc x =>
    refine absurd x (rdLE_opt_ne_panic fun hb => ?_)
    rw [hb, Bool.true_and, decide_eq_true_eq] at hc
    omega
  -- a stored block
  case case14 ih =>
    have := slice_size ‹slice src _ _ = .ok _›
    exact ih (by rw [Array.size_append]; omega)
  case case16 x => exact (okSize_iff.mp (lz4Seqs_safe _ _ _ _ _ _ (by omega))).1 x
  case case17 o ho ih =>
    have := (okSize_iff.mp (lz4Seqs_safe _ _ _ _ _ _ (by omega))).2 o ho
    exact ih (by omega)
  all_goals exact okSize_err

theorem lz4Frame_safe (xxh : Arr → Nat) (limit : Nat) (src : Arr) :
    okSize Array.size (· ≤ limit) (lz4Frame xxh limit src) := by
  fun_cases lz4Frame xxh limit src
  case case8 x => exact (okSize_iff.mp (lz4Blocks_safe _ _ _ _ _ _ _ _ _ (Nat.zero_le _))).1 x
  case case11 hb _ _ _ _ | case15 hb => exact (okSize_iff.mp (lz4Blocks_safe _ _ _ _ _ _ _ _ _ (Nat.zero_le _))).2 _ hb
  case case14 x | case21 x => exact absurd x (rdLE_ne_panic (by omega))
  case case17 x => exact absurd x (slice_ne_panic (by omega) (by omega))
  case case18 x _ | case22 x _ | case23 x _ _ => exact absurd x (rd_ne_panic (by omega))
  case case19 hlen _ x _ _ =>
    -- with a content size in the descriptor the header is long enough to hold it
    refine absurd x (rdLE_opt_ne_panic fun hcs => ?_)
    have : 10 ≤ hlen := by simp only [hlen, if_pos hcs]; omega
    omega
  all_goals exact okSize_err

end Proof.C19
