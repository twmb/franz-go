import FranzVerif.Proof.C17Dec
import FranzVerif.Proof.C17Zig
import FranzVerif.Proof.C17Fixed
/-! C17 — `kbin.Reader`: each primitive read against the Spec's reading of the same bytes (`Hdr`: no panic,
value = Spec value, the source advances by exactly the encoding or the reader is invalidated), and what
that gives on a source that starts with the Spec encoding of a value (`be`, `encU`): exactly that value,
and exactly the bytes that followed are left. -/
namespace Proof.C17
open Model.C17
open Spec.C17 hiding Bytes

/-- the reader a successful read of `n` bytes leaves, as the model computes it (`Src[n:]`) -/
def adv (r : Reader) (n : Nat) : Reader := { r with src := r.src.drop n }

theorem advance_eq (r : Reader) (n : Nat) (h : n ≤ r.src.length) : r.advance n = some (adv r n) := by
  simp [Reader.advance, from?, h, adv]

theorem adv_src (r : Reader) (n : Nat) : (adv r n).src = r.src.drop n := rfl
theorem adv_srcNil (r : Reader) (n : Nat) : (adv r n).srcNil = r.srcNil := rfl
theorem adv_adv (r : Reader) (n k : Nat) : adv (adv r n) k = adv r (n + k) := by
  simp [adv, List.drop_drop]
theorem adv_zero (r : Reader) : adv r 0 = r := rfl

/-- The read `m` does what the Spec's `sp` says: either both fail (the reader is invalidated), or `sp`
finds the value of a word `x` in the first `n` bytes and `m` returns `f x` and advances by `n`. -/
def Hdr {w : Nat} (r : Reader) (f : BitVec w → BitVec w) (sp : Option (Nat × Nat)) (m : Option (BitVec w × Reader)) : Prop :=
  (sp = none ∧ m = some (0#w, Reader.invalid)) ∨
  ∃ (x : BitVec w) (n : Nat), n ≤ r.src.length ∧ sp = some (x.toNat, n) ∧ m = some (f x, adv r n)

/-- every fixed-width read: length check, `binary.BigEndian.UintN`, advance -/
theorem hdr_fixed {w : Nat} (k : Nat) (hk : 256 ^ k = 2 ^ w) (be? : Bytes → Option (BitVec w))
    (hbe : ∀ s, k ≤ s.length → be? s = some (BitVec.ofNat w (unbe (s.take k)))) (r : Reader) :
    Hdr r (fun x => x) (fixed k r.src)
      (if r.src.length < k then some (0#w, Reader.invalid) else
        (be? r.src).bind fun v => (r.advance k).map fun r' => (v, r')) := by
  by_cases h : r.src.length < k
  · exact Or.inl ⟨if_pos h, if_pos h⟩
  · refine Or.inr ⟨BitVec.ofNat w (unbe (r.src.take k)), k, by omega, ?_, ?_⟩
    · rw [fixed, if_neg h, BitVec.toNat_ofNat, Nat.mod_eq_of_lt (hk ▸ unbe_take_lt k _)]
    · rw [if_neg h, hbe _ (by omega), advance_eq r k (by omega)]; rfl

theorem hdr_int8 (r : Reader) : Hdr r (fun x => x) (fixed 1 r.src) r.int8 :=
  hdr_fixed 1 (by decide) (idx? · 0) be1_eq r
theorem hdr_int16 (r : Reader) : Hdr r (fun x => x) (fixed 2 r.src) r.int16 :=
  hdr_fixed 2 (by decide) beU16? beU16_eq r
theorem hdr_int32 (r : Reader) : Hdr r (fun x => x) (fixed 4 r.src) r.int32 :=
  hdr_fixed 4 (by decide) beU32? beU32_eq r
theorem hdr_int64 (r : Reader) : Hdr r (fun x => x) (fixed 8 r.src) r.int64 :=
  hdr_fixed 8 (by decide) beU64? beU64_eq r

theorem bool_eq (r : Reader) : r.bool = r.int8.map fun (v, r') => (v != 0#8, r') := by
  unfold Reader.bool Reader.int8
  split
  · rfl
  · rcases idx? r.src 0 with _ | b
    · rfl
    · rcases r.advance 1 with _ | r' <;> rfl

theorem afterVar_eq {w : Nat} (r : Reader) (x : BitVec w) (n : Int) (hn : 0 < n → n.toNat ≤ r.src.length) :
    Reader.afterVar r (x, n) = some (if n ≤ 0 then (0#w, Reader.invalid) else (x, adv r n.toNat)) := by
  unfold Reader.afterVar
  by_cases h : n ≤ 0
  · rw [if_pos h, if_pos h]; rfl
  · rw [if_neg h, if_neg h, advance_eq r _ (hn (by omega))]; rfl

/-- the Spec's reading of a varint of `w` bits in at most `maxB` bytes: a positive count of `decU` is
success (`uvar` is this at 32 bits, 5 bytes) -/
def uvarOf (w maxB : Nat) (src : Bytes) : Option (Nat × Nat) :=
  match decU w maxB src with
  | (v, n) => if n > 0 then some (v, n.toNat) else none

/-- `Varint`/`Varlong`/`Uvarint`: an exact decoder `dec` (with post-processing `f` of the value), then
`afterVar` -/
theorem hdr_var {w : Nat} (maxB : Nat) (f : BitVec w → BitVec w) (dec : Bytes → Option (BitVec w × Int))
    (hdec : ∀ inp, dec inp = some (f (BitVec.ofNat w (decU w maxB inp).1), (decU w maxB inp).2)) (r : Reader) :
    Hdr r f (uvarOf w maxB r.src) ((dec r.src).bind (Reader.afterVar r)) := by
  have h1 := decU_fst_lt w maxB r.src
  have h2 := decU_snd_le w maxB r.src
  rw [hdec, Option.bind_some, afterVar_eq r _ _ h2, uvarOf]
  generalize decU w maxB r.src = p at h1 h2 ⊢
  rcases p with ⟨v, n⟩
  by_cases hn : n > 0
  · exact Or.inr ⟨BitVec.ofNat w v, n.toNat, h2 hn, by rw [BitVec.toNat_ofNat, Nat.mod_eq_of_lt h1]; exact if_pos hn,
      by rw [if_neg (by omega)]⟩
  · exact Or.inl ⟨if_neg hn, by rw [if_pos (by omega)]⟩

theorem hdr_uvarint (r : Reader) : Hdr r (fun x => x) (uvar r.src) r.uvarint :=
  hdr_var 5 (fun x => x) Model.C17.uvarint uvarint_exact r
theorem hdr_varint (r : Reader) : Hdr r unzigzag32 (uvar r.src) r.varint :=
  hdr_var 5 unzigzag32 Model.C17.varint (fun inp => by rw [Model.C17.varint, uvarint_exact]; rfl) r
theorem hdr_varlong (r : Reader) : Hdr r unzigzag64 (uvarOf 64 10 r.src) r.varlong :=
  hdr_var 10 unzigzag64 Model.C17.varlong (fun inp => by rw [Model.C17.varlong, uvarlong_exact]; rfl) r

theorem span_eq (r : Reader) (l : Int) : r.span l = some (
    if (r.src.length : Int) < l ∨ l < 0 then (none, Reader.invalid)
    else (if r.srcNil then none else some (r.src.take l.toNat), adv r l.toNat)) := by
  unfold Reader.span
  by_cases h : (r.src.length : Int) < l ∨ l < 0
  · rw [if_pos h, if_pos h]
  · have hl : l.toNat ≤ r.src.length := by omega
    rw [if_neg h, if_neg h, advance_eq r _ hl, upto?, if_pos hl]; rfl

theorem span_invalid (L : Int) : Reader.invalid.span L = some (none, Reader.invalid) := by
  rw [span_eq]
  by_cases h : ((Reader.invalid.src.length : Nat) : Int) < L ∨ L < 0
  · rw [if_pos h]
  · rw [if_neg h]
    have h0 : L = 0 := by simp [Reader.invalid] at h; omega
    subst h0; rfl

/-- the same reader named by what is left to read, as the read-back statements name it (`adv_of_append`
identifies the two) -/
def withSrc (r : Reader) (tail : Bytes) : Reader := { r with src := tail }

theorem withSrc_srcNil (r : Reader) (t : Bytes) : (withSrc r t).srcNil = r.srcNil := rfl
theorem withSrc_src (r : Reader) (t : Bytes) : (withSrc r t).src = t := rfl
theorem withSrc_withSrc (r : Reader) (t u : Bytes) : withSrc (withSrc r t) u = withSrc r u := rfl

theorem adv_of_append (r : Reader) (hd tail : Bytes) (n : Nat) (h : r.src = hd ++ tail) (hn : hd.length = n) :
    adv r n = withSrc r tail := by
  simp [adv, withSrc, h, ← hn]

theorem hdr_rt {w : Nat} {r : Reader} {f : BitVec w → BitVec w} {sp : Option (Nat × Nat)} {m : Option (BitVec w × Reader)}
    (h : Hdr r f sp m) (u : BitVec w) (hd tail : Bytes) (hs : sp = some (u.toNat, hd.length)) (hsrc : r.src = hd ++ tail) :
    m = some (f u, withSrc r tail) := by
  rcases h with ⟨rfl, _⟩ | ⟨x, n', _, rfl, rfl⟩
  · cases hs
  · obtain ⟨hx, rfl⟩ := Prod.mk.inj (Option.some.inj hs)
    rw [adv_of_append r hd tail _ hsrc rfl, BitVec.eq_of_toNat_eq hx]

theorem fixed_rt {w k : Nat} {r : Reader} {m : Option (BitVec w × Reader)} (h : Hdr r (fun x => x) (fixed k r.src) m)
    (hk : 256 ^ k = 2 ^ w) (v : BitVec w) (tail : Bytes) (hsrc : r.src = be k v.toNat ++ tail) :
    m = some (v, withSrc r tail) := by
  have hl := be_length k v.toNat
  have hs : fixed k r.src = some (v.toNat, (be k v.toNat).length) := by
    rw [fixed, if_neg (by rw [hsrc, List.length_append, hl]; omega), hsrc, unbe_be_append, hk, BitVec.toNat_mod_cancel, hl]
  exact hdr_rt h v _ tail hs hsrc

theorem var_rt {w maxB : Nat} {f : BitVec w → BitVec w} {r : Reader} {m : Option (BitVec w × Reader)}
    (h : Hdr r f (uvarOf w maxB r.src) m)
    (u : BitVec w) (tail : Bytes) (hl : lenU u.toNat ≤ maxB) (hsrc : r.src = encU u.toNat ++ tail) :
    m = some (f u, withSrc r tail) := by
  have hp := lenU_pos u.toNat
  have hs : uvarOf w maxB r.src = some (u.toNat, (encU u.toNat).length) := by
    rw [uvarOf, hsrc, decU_encU w maxB u.toNat tail u.isLt hl, encU_length]
    dsimp only
    rw [if_pos (by omega), Int.toNat_natCast]
  exact hdr_rt h u _ tail hs hsrc

theorem uvarint_rt (r : Reader) (u : BitVec 32) (tail : Bytes) (h : r.src = encU u.toNat ++ tail) :
    r.uvarint = some (u, withSrc r tail) :=
  var_rt (maxB := 5) (hdr_uvarint r) u tail (lenU_le5 u.isLt) h

theorem varint_rt (r : Reader) (i : BitVec 32) (tail : Bytes) (h : r.src = encU (zigzag32 i).toNat ++ tail) :
    r.varint = some (i, withSrc r tail) := by
  rw [var_rt (maxB := 5) (hdr_varint r) _ tail (lenU_le5 (BitVec.isLt _)) h, unzigzag32_zigzag32]

theorem varlong_rt (r : Reader) (i : BitVec 64) (tail : Bytes) (h : r.src = encU (zigzag64 i).toNat ++ tail) :
    r.varlong = some (i, withSrc r tail) := by
  rw [var_rt (hdr_varlong r) _ tail (lenU_le10 (BitVec.isLt _)) h, unzigzag64_zigzag64]

theorem dec_encU {w : Nat} (maxB : Nat) (dec : Bytes → Option (BitVec w × Int))
    (hdec : ∀ inp, dec inp = some (BitVec.ofNat w (decU w maxB inp).1, (decU w maxB inp).2))
    (u : BitVec w) (hl : lenU u.toNat ≤ maxB) (tail : Bytes) :
    dec (encU u.toNat ++ tail) = some (u, (lenU u.toNat : Int)) := by
  rw [hdec, decU_encU w maxB u.toNat tail u.isLt hl, BitVec.ofNat_toNat, BitVec.setWidth_eq]

theorem span_rt (r : Reader) (hnil : r.srcNil = false) (s tail : Bytes) (h : r.src = s ++ tail) :
    r.span (s.length : Int) = some (some s, withSrc r tail) := by
  rw [span_eq, if_neg (by rw [h, List.length_append]; omega), hnil, Int.toNat_natCast, adv_of_append r s tail _ h rfl, h,
    List.take_left' rfl]
  rfl

theorem toInt_len {w : Nat} (n : Nat) (h : 2 * n < 2 ^ w) : (BitVec.ofNat w n).toInt = n := by
  rw [BitVec.toInt_eq_toNat_cond, BitVec.toNat_ofNat, Nat.mod_eq_of_lt (by omega), if_pos h]
theorem uvm1_len (n : Nat) (h : n < 4294967295) : Reader.uvm1 (1#32 + BitVec.ofNat 32 n) = n := by
  rw [Reader.uvm1, BitVec.toNat_add, BitVec.toNat_ofNat]; simp only [BitVec.toNat_ofNat, Nat.reducePow]; omega

end Proof.C17
