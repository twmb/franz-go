import FranzVerif.Spec.C17
import FranzVerif.Proof.WireFacts
/-! C17 — the reference codecs of `Spec.C17` on their own: LEB128 (`encU`, `lenU`, `leb`, `decU`), zig-zag
(`zz`, `unzz`), big-endian (`be`, `unbe`) and two's complement (`signed`, `pattern`). Each reader reads back what its
writer wrote. Nothing about the model; `Proof.C18` builds on these too. -/
namespace Proof.C17
open Spec.C17

theorem byte_toNat {n : Nat} (h : n < 256) : (byte n).toNat = n := by
  rw [byte, BitVec.toNat_ofNat]; exact Nat.mod_eq_of_lt h

theorem byte_mod (a : Nat) : byte (a % 256) = byte a := by
  apply BitVec.eq_of_toNat_eq; simp [byte]

theorem encU_lt {n : Nat} (h : n < 128) : encU n = [byte n] := by rw [encU, if_pos h]
theorem encU_ge {n : Nat} (h : ¬ n < 128) : encU n = byte (n % 128 + 128) :: encU (n / 128) := by
  rw [encU, if_neg h]
theorem lenU_lt {n : Nat} (h : n < 128) : lenU n = 1 := by rw [lenU, if_pos h]
theorem lenU_ge {n : Nat} (h : ¬ n < 128) : lenU n = 1 + lenU (n / 128) := by rw [lenU, if_neg h]

theorem lenU_pos (n : Nat) : 0 < lenU n := by
  rw [lenU]; split <;> omega

theorem encU_length (n : Nat) : (encU n).length = lenU n := by
  induction n using Nat.strongRecOn with
  | _ n ih =>
    by_cases h : n < 128
    · rw [encU_lt h, lenU_lt h]; rfl
    · rw [encU_ge h, lenU_ge h, List.length_cons, ih (n / 128) (by omega)]; omega

theorem lenU_le (k : Nat) : ∀ n, n < 128 ^ k → 1 ≤ k → lenU n ≤ k := by
  induction k with
  | zero => intro n _ h; omega
  | succ k ih =>
    intro n hn _
    by_cases h : n < 128
    · rw [lenU_lt h]; omega
    · rw [lenU_ge h]
      have hd : n / 128 < 128 ^ k := Nat.div_lt_of_lt_mul (by rw [Nat.mul_comm, ← Nat.pow_succ]; exact hn)
      have hk : 1 ≤ k := by cases k <;> omega
      have := ih (n / 128) hd hk
      omega

theorem lt_pow_lenU (n : Nat) : n < 128 ^ lenU n := by
  induction n using Nat.strongRecOn with
  | _ n ih =>
    by_cases h : n < 128
    · rw [lenU_lt h]; exact h
    · rw [lenU_ge h, Nat.add_comm, Nat.pow_succ]
      exact (Nat.div_lt_iff_lt_mul (by decide)).1 (ih (n / 128) (by omega))

theorem lenU_mono {a b : Nat} (h : a ≤ b) : lenU a ≤ lenU b :=
  lenU_le (lenU b) a (Nat.lt_of_le_of_lt h (lt_pow_lenU b)) (lenU_pos b)

theorem lenU_le_self {k : Nat} (hk : 1 ≤ k) : lenU k ≤ k := lenU_le k k (Nat.lt_pow_self (by decide)) hk

theorem lenU_le5 {n : Nat} (h : n < 2 ^ 32) : lenU n ≤ 5 := lenU_le 5 n (by omega) (by decide)
theorem lenU_le10 {n : Nat} (h : n < 2 ^ 64) : lenU n ≤ 10 := lenU_le 10 n (by omega) (by decide)

theorem leb_cons_lt (b : BitVec 8) (r : Bytes) (h : b.toNat < 128) : leb (b :: r) = some (b.toNat, 1) := by
  rw [leb, if_pos h]
theorem leb_cons_ge (b : BitVec 8) (r : Bytes) (h : ¬ b.toNat < 128) :
    leb (b :: r) = (leb r).map fun (v, n) => (b.toNat - 128 + 128 * v, n + 1) := by
  rw [leb, if_neg h]
  rcases leb r with _ | ⟨v, n⟩ <;> rfl

theorem leb_encU (n : Nat) (r : Bytes) : leb (encU n ++ r) = some (n, lenU n) := by
  induction n using Nat.strongRecOn with
  | _ n ih =>
    by_cases h : n < 128
    · rw [encU_lt h, lenU_lt h, List.singleton_append, leb_cons_lt _ _ (by rw [byte_toNat (by omega)]; exact h),
        byte_toNat (by omega)]
    · have hb : (byte (n % 128 + 128)).toNat = n % 128 + 128 := byte_toNat (by omega)
      rw [encU_ge h, lenU_ge h, List.cons_append, leb_cons_ge _ _ (by omega), ih (n / 128) (by omega), hb]
      exact congrArg some (Prod.ext (by simp only; omega) (Nat.add_comm _ _))

theorem leb_bounds : ∀ (s : Bytes) (v n : Nat), leb s = some (v, n) → 1 ≤ n ∧ n ≤ s.length
  | [], v, n, h => by cases h
  | b :: rest, v, n, h => by
    by_cases hb : b.toNat < 128
    · rw [leb_cons_lt b rest hb] at h
      cases h
      exact ⟨Nat.le_refl 1, Nat.succ_le_succ (Nat.zero_le _)⟩
    · rw [leb_cons_ge b rest hb] at h
      rcases hl : leb rest with _ | ⟨v', n'⟩
      · rw [hl] at h; cases h
      · rw [hl] at h
        cases h
        have := leb_bounds rest v' n' hl
        rw [List.length_cons]; omega

theorem decU_encU (bits maxB n : Nat) (r : Bytes) (hn : n < 2 ^ bits) (hl : lenU n ≤ maxB) :
    decU bits maxB (encU n ++ r) = (n, (lenU n : Int)) := by
  have : (encU n ++ r).take maxB = encU n ++ r.take (maxB - lenU n) := by
    rw [List.take_append, encU_length, List.take_of_length_le (by rw [encU_length]; exact hl)]
  rw [decU, this, leb_encU]
  simp only [hn, if_true]

theorem decU_pos {bits maxB : Nat} {inp : Bytes} (h : 0 < (decU bits maxB inp).2) :
    ∃ v n, leb (inp.take maxB) = some (v, n) ∧ v < 2 ^ bits ∧ decU bits maxB inp = (v, (n : Int)) := by
  unfold decU at h ⊢
  rcases hl : leb (inp.take maxB) with _ | ⟨v, n⟩ <;> rw [hl] at h <;> simp only at h ⊢
  · by_cases c : inp.length < maxB
    · rw [if_pos c] at h; exact absurd h (Int.lt_irrefl 0)
    · rw [if_neg c] at h; simp only at h; omega
  · by_cases c : v < 2 ^ bits
    · exact ⟨v, n, rfl, c, if_pos c⟩
    · rw [if_neg c] at h; simp only at h; omega

theorem decU_snd_le (bits maxB : Nat) (inp : Bytes) (h : 0 < (decU bits maxB inp).2) :
    (decU bits maxB inp).2.toNat ≤ inp.length := by
  obtain ⟨v, n, hl, _, e⟩ := decU_pos h
  have hb := (leb_bounds _ v n hl).2
  rw [List.length_take] at hb
  rw [e, Int.toNat_natCast]; omega

theorem decU_fst_lt (bits maxB : Nat) (inp : Bytes) : (decU bits maxB inp).1 < 2 ^ bits := by
  unfold decU
  rcases leb (inp.take maxB) with _ | ⟨v, n⟩
  · simp only; split <;> exact Nat.two_pow_pos _
  · simp only; split
    · assumption
    · exact Nat.two_pow_pos _

theorem unzz_zz (i : Int) : unzz (zz i) = i := by
  unfold zz unzz
  by_cases h : 0 ≤ i
  · simp only [h, if_true]
    have : (2 * i).toNat % 2 = 0 := by omega
    rw [if_pos this]; omega
  · simp only [h, if_false]
    have : ¬ (-2 * i - 1).toNat % 2 = 0 := by omega
    rw [if_neg this]; omega

theorem zz_unzz (n : Nat) : zz (unzz n) = n := by
  unfold zz unzz
  by_cases h : n % 2 = 0
  · simp only [h, if_true]
    rw [if_pos (by omega)]; omega
  · simp only [h, if_false]
    rw [if_neg (by omega)]; omega

theorem zz_natCast (n : Nat) : zz (n : Int) = 2 * n := by
  rw [zz, if_pos (by omega)]; omega

theorem pattern_toInt {w : Nat} (i : BitVec w) : pattern w i.toInt = i.toNat := by
  unfold pattern
  rw [BitVec.toInt_eq_toNat_bmod, Int.bmod_emod]
  have := i.isLt
  rw [Int.emod_eq_of_lt (by omega) (by exact_mod_cast this)]
  simp

theorem signed_toNat {w : Nat} (hw : 0 < w) (i : BitVec w) : signed w i.toNat = i.toInt := by
  unfold signed
  rw [BitVec.toInt_eq_toNat_cond]
  have h2 : 2 ^ w = 2 * 2 ^ (w - 1) := by
    rw [show w = (w - 1) + 1 by omega, Nat.pow_succ]; simp; omega
  by_cases h : i.toNat < 2 ^ (w - 1)
  · rw [if_pos h, if_pos (by omega)]
  · rw [if_neg h, if_neg (by omega)]

theorem be_length (k n : Nat) : (be k n).length = k := by
  induction k with
  | zero => rfl
  | succ k ih => simp [be, ih]

theorem foldl_be (k : Nat) : ∀ (a n : Nat),
    (be k n).foldl (fun acc b => acc * 256 + b.toNat) a = a * 256 ^ k + n % 256 ^ k := by
  induction k with
  | zero => intro a n; simp [be, Nat.mod_one]
  | succ k ih =>
    intro a n
    rw [be, List.foldl_cons, ih]
    have hb : (byte (n / 256 ^ k)).toNat = n / 256 ^ k % 256 := by simp [byte]
    rw [hb, Nat.pow_succ, Wire.digit_add_mod]

theorem unbe_be (k n : Nat) : unbe (be k n) = n % 256 ^ k := by
  rw [unbe, foldl_be]; simp

theorem unbe_be_append (k n : Nat) (rest : Bytes) : unbe ((be k n ++ rest).take k) = n % 256 ^ k := by
  rw [List.take_left' (be_length k n), unbe_be]

theorem foldl_unbe_lt : ∀ (s : Bytes) (a : Nat),
    s.foldl (fun acc b => acc * 256 + b.toNat) a < (a + 1) * 256 ^ s.length
  | [], a => by simp
  | b :: s, a => by
    have := foldl_unbe_lt s (a * 256 + b.toNat)
    have hb := b.isLt
    rw [List.foldl_cons, List.length_cons, Nat.pow_succ]
    refine Nat.lt_of_lt_of_le this ?_
    rw [Nat.mul_comm (256 ^ s.length) 256, ← Nat.mul_assoc]
    exact Nat.mul_le_mul_right _ (by omega)

theorem unbe_lt (s : Bytes) : unbe s < 256 ^ s.length := by
  have := foldl_unbe_lt s 0
  rwa [Nat.zero_add, Nat.one_mul] at this

theorem unbe_take_lt (k : Nat) (s : Bytes) : unbe (s.take k) < 256 ^ k :=
  Nat.lt_of_lt_of_le (unbe_lt _) (Nat.pow_le_pow_right (by decide) (by rw [List.length_take]; omega))

theorem unbe_concat (s : Bytes) (b : BitVec 8) : unbe (s ++ [b]) = unbe s * 256 + b.toNat := by
  rw [unbe, List.foldl_append]; rfl

end Proof.C17
