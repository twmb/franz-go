import FranzVerif.Proof.C15Step
/-! Decoded values are in normal form (`canon v = v`): the ingredient of re-encode stability. -/
namespace Proof.C16
open Model.C15 Proof.C15

mutual
theorem Val.beq_eq : ∀ a b : Val, Val.beq a b = true → a = b
  | .int x, b, h => by
    cases b <;> simp [Val.beq] at h
    rw [h]
  | .blob x, b, h => by
    cases b <;> simp [Val.beq] at h
    rw [h]
  | .null, b, h => by
    cases b <;> simp [Val.beq] at h
    rfl
  | .list x, b, h => by
    cases b <;> simp only [Val.beq, Bool.false_eq_true] at h
    rw [Vals.beq_eq x _ h]
  | .stru x u, b, h => by
    cases b <;> simp only [Val.beq, Bool.false_eq_true, Bool.and_eq_true, beq_iff_eq] at h
    rw [Vals.beq_eq x _ h.1, h.2]
theorem Vals.beq_eq : ∀ a b : Vals, Vals.beq a b = true → a = b
  | .nil, b, h => by
    cases b <;> simp [Vals.beq] at h
    rfl
  | .cons a r, b, h => by
    cases b <;> simp only [Vals.beq, Bool.false_eq_true, Bool.and_eq_true] at h
    rw [Val.beq_eq a _ h.1, Vals.beq_eq r _ h.2]
end

mutual
theorem Val.beq_refl : ∀ a : Val, Val.beq a a = true
  | .int x => by simp [Val.beq]
  | .blob x => by simp [Val.beq]
  | .null => rfl
  | .list x => by simp only [Val.beq]; exact Vals.beq_refl x
  | .stru x u => by simp only [Val.beq, Bool.and_eq_true, beq_self_eq_true, and_true]; exact Vals.beq_refl x
theorem Vals.beq_refl : ∀ a : Vals, Vals.beq a a = true
  | .nil => rfl
  | .cons a r => by simp only [Vals.beq, Bool.and_eq_true]; exact ⟨Val.beq_refl a, Vals.beq_refl r⟩
end

def isNullableArr : Ty → Bool
  | .arr (.nullable _) _ => true
  | _ => false

mutual
/-- No tagged field is a versioned-nullable array. For such a field `tagIsDefault` (the generated `if` that decides whether a tagged
field is written) counts an empty non-nil slice below the nullable version as the default, yet that is what the decoder leaves
there (`emptyArr`) and it is not `dfltVal` (`null`): `tagIsDefault_decoded` would fail. Holds of the regenerated schema
(Props/C16 `schema_tags_ok`). -/
def tagsOK : Ty → Bool
  | .prim _ => true
  | .str _ => true
  | .arr _ t => tagsOK t
  | .struct _ _ fs => tagsOKF fs
def tagsOKF : Fields → Bool
  | .nil => true
  | .cons _ _ _ tag _ t rest => (tag.isNone || !isNullableArr t) && tagsOK t && tagsOKF rest
end

theorem decStr_canon (ver : Int) (flex : Bool) (k : SKind) (src : Bytes) (v : Val) (r : Bytes)
    (h : decStr ver flex k src = .ok v r) : canonStr ver k v = v := by
  rw [decStr_eq] at h
  obtain ⟨l, r0, _, h⟩ := andThen_ok_inv h
  split at h
  · cases h
    simp only [canonStr]
    cases k.eff ver <;> rfl
  · obtain ⟨b, _, rfl⟩ := map_ok_inv h
    rfl

theorem decList_len {c : Cfg} {flex : Bool} {t : Ty} : ∀ {n : Nat} {src : Bytes} {vs : Vals} {r : Bytes},
    decList c flex t n src = .ok vs r → vs.length = n
  | 0, src, vs, r, h => by rw [decList] at h; cases h; rfl
  | n+1, src, vs, r, h => by
    obtain ⟨v, r0, vs', _, h2, rfl⟩ := decList_succ_ok_inv h
    rw [Vals.length, decList_len h2]

theorem canon_emptyArr (ver : Int) (k : AKind) (t : Ty) (l : Int) :
    canon ver (.arr k t) (emptyArr ver k l) = emptyArr ver k l := by
  cases k with
  | normal => simp [emptyArr, canon, AKind.nullableAt]
  | varint => simp [emptyArr, canon, AKind.nullableAt]
  | nullable n =>
    by_cases hc : ver < n ∨ ver < 0 ∨ l = 0
    · simp [emptyArr, hc, canon, Vals.length]
    · have h1 : ver ≥ n := by omega
      simp [emptyArr, hc, canon, AKind.nullableAt, h1]

theorem tagIsDefault_decoded (c : Cfg) (flex : Bool) (t : Ty) (d : Dflt) (p : Bytes) (v : Val) (r : Bytes)
    (hna : isNullableArr t = false) (h : dec c flex t p = .ok v r) (hd : tagIsDefault c.ver t d v = true) :
    v = dfltVal t d := by
  cases t with
  | arr k t' =>
    obtain ⟨l, r0, _, ⟨_, rfl, _⟩ | ⟨hl, vs, rfl, hdl⟩⟩ := dec_arr_ok_inv h
    · cases k <;> first | rfl | cases hna
    · have := decList_len hdl
      cases k
      case nullable => cases hna
      all_goals
        simp [tagIsDefault] at hd
        omega
  | _ => exact Val.beq_eq _ _ hd

theorem tagIsDefault_dflt (ver : Int) (t : Ty) (d : Dflt) : tagIsDefault ver t d (dfltVal t d) = true := by
  cases t with
  | arr k t' => cases k <;> rfl
  | _ => exact Val.beq_refl _

def CanonFix (t : Ty) : Prop :=
  ∀ (c : Cfg) (flex : Bool) (src : Bytes) (v : Val) (r : Bytes),
    tagsOK t = true → dec c flex t src = .ok v r → canon c.ver t v = v

/-- The two passes of a struct decode: `decFields` leaves every tagged field at its default, which is the normal form with the
flexible flag off; `applyTags` on such a list gives the normal form with the flag on. -/
def CanonFixF (fs : Fields) : Prop :=
  ∀ (c : Cfg) (flex : Bool), tagsOKF fs = true →
    (∀ (src : Bytes) (vals : Vals) (r : Bytes), decFields c flex fs src = .ok vals r → canonFields c.ver false fs vals = vals) ∧
    (∀ (raw : List (Nat × Bytes)) (vals vals' : Vals) (x : Bytes), canonFields c.ver false fs vals = vals →
      applyTags c flex fs raw vals = .ok vals' x → canonFields c.ver true fs vals' = vals')

theorem decList_canon {c : Cfg} {flex : Bool} {t : Ty} (ht : CanonFix t) (hok : tagsOK t = true) :
    ∀ {n : Nat} {src : Bytes} {vs : Vals} {r : Bytes}, decList c flex t n src = .ok vs r → canonList c.ver t vs = vs
  | 0, src, vs, r, h => by rw [decList] at h; cases h; rfl
  | n+1, src, vs, r, h => by
    obtain ⟨v, r0, vs', h1, h2, rfl⟩ := decList_succ_ok_inv h
    rw [canonList, ht c flex src v r0 hok h1, decList_canon ht hok h2]

mutual
theorem canonFix : ∀ t : Ty, CanonFix t
  | .prim p => fun c flex src v r _ _ => by rw [canon]
  | .str k => fun c flex src v r _ h => by
    rw [dec] at h
    rw [canon]
    exact decStr_canon c.ver flex k src v r h
  | .arr k t => fun c flex src v r hok h => by
    simp only [tagsOK] at hok
    obtain ⟨l, r0, _, ⟨_, rfl, _⟩ | ⟨hl, vs, rfl, hdl⟩⟩ := dec_arr_ok_inv h
    · exact canon_emptyArr c.ver k t l
    · have hne : (vs.length == 0) = false := by rw [decList_len hdl]; simp; omega
      simp only [canon, hne, Bool.false_eq_true, if_false, decList_canon (canonFix t) hok hdl]
  | .struct nullable ff fs => fun c flex src v r hok h => by
    simp only [tagsOK] at hok
    obtain ⟨F1, F2⟩ := canonFixF fs c (flexAt ff c.ver) hok
    cases dec_struct_ok_inv h with
    | null => rw [canon]
    | plain _ hfl h1 => simp only [canon, hfl, F1 _ _ _ h1, Bool.false_eq_true, if_false]
    | tagged _ _ hfl h1 _ _ h4 =>
      rw [hfl] at h4 F2
      simp only [canon, hfl, F2 _ _ _ _ (F1 _ _ _ h1) h4, if_true]
theorem canonFixF : ∀ fs : Fields, CanonFixF fs
  | .nil => fun c flex _ =>
    ⟨fun src vals r h => by rw [decFields] at h; cases h; rfl,
     fun raw vals vals' x _ h => by rw [applyTags_nil] at h; cases h; cases vals <;> rfl⟩
  | .cons name minV maxV tag d t rest => fun c flex hok => by
    simp only [tagsOKF, Bool.and_eq_true, Bool.or_eq_true] at hok
    obtain ⟨⟨hna, hokt⟩, hokr⟩ := hok
    obtain ⟨R1, R2⟩ := canonFixF rest c flex hokr
    refine ⟨fun src vals r h => ?_, fun raw vals vals' x hb h => ?_⟩
    · obtain ⟨v, vs, rfl, ⟨hc, rfl, h1⟩ | ⟨⟨rfl, hp⟩, r0, h1, h2⟩⟩ := decFields_cons_ok_inv h
      · have := R1 src vs r h1
        cases tag with
        | some k => simp [canonFields, this]
        | none =>
          have hp : present minV maxV c.ver = false := by simpa using hc
          simp [canonFields, hp, this]
      · simp [canonFields, hp, R1 r0 vs r h2, canonFix t c flex src v r0 hokt h1]
    · cases vals with
      | nil => rw [applyTags_of_nil] at h; cases h; rfl
      | cons v vs =>
        obtain ⟨v', vs', y, rfl, hr, hv'⟩ := applyTags_cons_ok_inv h
        simp only [canonFields, Vals.cons.injEq] at hb
        have htail := R2 raw vs vs' y hb.2 hr
        simp only [canonFields, Vals.cons.injEq, Bool.true_and]
        refine ⟨?_, htail⟩
        cases tag with
        | none =>
          rcases hv' with rfl | ⟨k, hk, _⟩
          · exact hb.1
          · cases hk
        | some k =>
          -- the field is still at the default the body pass left, or holds a decoded payload
          have hdflt : ∀ w, w = dfltVal t d →
              (if (!tagIsDefault c.ver t d w) = true then canon c.ver t w else dfltVal t d) = w := by
            intro w e
            simp [e, tagIsDefault_dflt]
          rcases hv' with rfl | ⟨_, _, e, _, r', hd⟩
          · exact hdflt _ hb.1.symm
          · by_cases hdef : tagIsDefault c.ver t d v' = true
            · exact hdflt _ (tagIsDefault_decoded c flex t d e.2 v' r' (by simpa using hna) hd hdef)
            · simp [hdef, canonFix t c flex e.2 v' r' hokt hd]
end

end Proof.C16
