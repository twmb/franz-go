import FranzVerif.Proof.C31
/-! C31 — the poll/rebalance gate: its transitions as a relation (`Step`, what every gate proof splits on) and
the inductive invariants in counting form (any programs, any schedule). -/
namespace Model.C31.Gate

/-- holds `pollWaitMu` -/
def hold (t : Th) : Nat := match t.pc with
  | .pPark _ | .pUnlock _ | .uUnlock _ | .aUnlock | .rPark _ | .rUnlock | .xUnlock => 1 | _ => 0
/-- counted in the rebalance half of `pollWaitState` (after its `+= 1<<32`, before its `-= 1<<32`) -/
def rcount (t : Th) : Nat := match t.pc with
  | .rPark _ | .rWait _ | .rWake _ | .rUnlock | .xLock => 1 | _ => 0
/-- has decided to enter / is inside / is leaving the rebalance section -/
def ins (t : Th) : Nat := match t.pc with
  | .rUnlock | .xLock | .xUnlock => 1 | _ => 0
/-- poller that decided to wait and has not been notified since -/
def pwp (t : Th) : Nat := match t.pc with | .pPark _ | .pWait _ => 1 | _ => 0
/-- rebalancer that decided to wait and has not been notified since -/
def rwp (t : Th) : Nat := match t.pc with | .rPark _ | .rWait _ => 1 | _ => 0

def muN (sh : Sh) : Nat := if sh.mu then 1 else 0

theorem muN_le (sh : Sh) : muN sh ≤ 1 := by unfold muN; split <;> omega

/-- The invariant as a relation between the shared state and the numbers of threads that hold the mutex (`h`),
are counted as rebalancers (`r`), are in the rebalance section (`i`), wait un-notified as pollers (`p`) or
as rebalancers (`w`). -/
structure GNum (sh : Sh) (h r i p w : Nat) : Prop where
  mu : muN sh = h
  reb : sh.rebal = r
  cor : sh.corrupt = false
  excl : i > 0 → sh.pollers = 0
  pw : p > 0 → sh.rebal > 0
  rw : w > 0 → sh.pollers > 0

def GInv (s : St Sh Th) : Prop :=
  GNum s.sh (cnt hold s.ths) (cnt rcount s.ths) (cnt ins s.ths) (cnt pwp s.ths) (cnt rwp s.ths)

theorem start_zero (p : List Op) :
    hold (start p) = 0 ∧ rcount (start p) = 0 ∧ ins (start p) = 0 ∧ pwp (start p) = 0 ∧ rwp (start p) = 0 := by
  rcases p with _ | ⟨_ | _ | _ | _, _⟩ <;> exact ⟨rfl, rfl, rfl, rfl, rfl⟩

theorem init_inv (progs : List (List Op)) : GInv (init progs) := by
  constructor <;> simp [init, muN, cnt_map_eq_zero, start_zero]

theorem cnt_wakeAll (f : Th → Nat) (b : Bool) (l : List Th)
    (hp : ∀ q p, f ⟨.pWake q, p⟩ = f ⟨.pWait q, p⟩ := by intros; rfl)
    (hr : ∀ c p, f ⟨.rWake c, p⟩ = f ⟨.rWait c, p⟩ := by intros; rfl) :
    cnt f (sys.wakeAll b l) = cnt f l :=
  sys.cnt_wakeAll_eq (fun ⟨pc, p⟩ => by cases pc <;> first | rfl | exact hp _ p | exact hr _ p) b l

theorem parked_wakeAll (l : List Th) :
    cnt pwp (sys.wakeAll true l) + cnt rwp (sys.wakeAll true l) ≤ cnt hold l := by
  simp only [Sys.wakeAll, if_true, cnt_map, ← cnt_add]
  apply cnt_le; intro t; obtain ⟨pc, p⟩ := t; cases pc <;> simp [sys, wake, pwp, rwp, hold]

theorem ins_le (l : List Th) : cnt ins l ≤ cnt rcount l + cnt hold l := by
  rw [← cnt_add]; apply cnt_le; intro t; obtain ⟨pc, p⟩ := t; cases pc <;> simp [ins, rcount, hold]

/-- The transitions of the gate automaton, one constructor per branch of `stepT`: a thread moves the shared
state from `sh` to `sh'`, becomes `t'`, and broadcasts iff `b`. `muN sh = 0`: the mutex is free.
The guarded decrement of `unaddPoller` is written as truncated subtraction. -/
inductive Step (sh : Sh) : Th → Sh → Th → Bool → Prop
  | lockPark (q : Bool) : muN sh = 0 → sh.pollers = 0 ∧ sh.rebal ≠ 0 →
      Step sh ⟨.pLock q, p⟩ { sh with mu := true } ⟨.pPark q, p⟩ false
  | lockEnter (q : Bool) : muN sh = 0 → ¬(sh.pollers = 0 ∧ sh.rebal ≠ 0) →
      Step sh ⟨.pLock q, p⟩ { sh with mu := true, pollers := sh.pollers + 1 } ⟨.pUnlock q, p⟩ false
  | park (q : Bool) : Step sh ⟨.pPark q, p⟩ { sh with mu := false } ⟨.pWait q, p⟩ false
  | wakePark (q : Bool) : muN sh = 0 → sh.rebal ≠ 0 →
      Step sh ⟨.pWake q, p⟩ { sh with mu := true } ⟨.pPark q, p⟩ false
  | wakeEnter (q : Bool) : muN sh = 0 → sh.rebal = 0 →
      Step sh ⟨.pWake q, p⟩ { sh with mu := true, pollers := sh.pollers + 1 } ⟨.pUnlock q, p⟩ false
  | fill : Step sh ⟨.pUnlock true, p⟩ { sh with mu := false, out := sh.out + 1, fill := sh.fill + 1 } ⟨.uLock sh.ep, p⟩ false
  | keep : Step sh ⟨.pUnlock false, p⟩ { sh with mu := false, out := sh.out + 1 } (start p) false
  | unaddLock (e : Nat) : muN sh = 0 →
      Step sh ⟨.uLock e, p⟩ { sh with mu := true, pollers := sh.pollers - 1 } ⟨.uUnlock e, p⟩ true
  | unadd (e : Nat) : Step sh ⟨.uUnlock e, p⟩
      { sh with mu := false, out := if e = sh.ep then sh.out - 1 else sh.out, fill := sh.fill - 1 } (start p) false
  | allowLock : muN sh = 0 → Step sh ⟨.aLock, p⟩ { sh with mu := true, pollers := 0 } ⟨.aUnlock, p⟩ true
  | allow : Step sh ⟨.aUnlock, p⟩
      { sh with mu := false, out := 0, ep := sh.ep + 1, viol := sh.viol || decide (sh.fill > 0) } (start p) false
  | rebalPark : muN sh = 0 → sh.pollers ≠ 0 →
      Step sh ⟨.rLock, p⟩ { sh with mu := true, rebal := sh.rebal + 1 } ⟨.rPark true, p⟩ false
  | rebalPass : muN sh = 0 → sh.pollers = 0 →
      Step sh ⟨.rLock, p⟩ { sh with mu := true, rebal := sh.rebal + 1 } ⟨.rUnlock, p⟩ false
  | rpark (c : Bool) : Step sh ⟨.rPark c, p⟩ { sh with mu := false } ⟨.rWait c, p⟩ false
  | rwakePark (c : Bool) : muN sh = 0 → sh.pollers ≠ 0 →
      Step sh ⟨.rWake c, p⟩ { sh with mu := true } ⟨.rPark true, p⟩ false
  | rwakePass (c : Bool) : muN sh = 0 → sh.pollers = 0 →
      Step sh ⟨.rWake c, p⟩ { sh with mu := true } ⟨.rUnlock, p⟩ false
  | enter : Step sh ⟨.rUnlock, p⟩ { sh with mu := false } ⟨.xLock, p⟩ false
  | exitLock : muN sh = 0 → Step sh ⟨.xLock, p⟩
      { sh with mu := true, rebal := sh.rebal - 1, corrupt := sh.corrupt || decide (sh.rebal = 0) } ⟨.xUnlock, p⟩ true
  | exit : Step sh ⟨.xUnlock, p⟩ { sh with mu := false } (start p) false

theorem Step.of_stepT {sh : Sh} {t : Th} {sh' : Sh} {t' : Th} {b : Bool} {ev : String}
    (hs : stepT sh t = some (sh', t', b, ev)) : Step sh t sh' t' b := by
  have hmu : ¬sh.mu = true → muN sh = 0 := fun h => by simp [muN, h]
  have hdec : (if sh.pollers > 0 then sh.pollers - 1 else sh.pollers) = sh.pollers - 1 := by split <;> omega
  suffices ∀ r, stepT sh t = some r → Step sh ⟨t.pc, t.prog⟩ r.1 r.2.1 r.2.2.1 from this _ hs
  intro r
  fun_cases stepT sh t <;> simp only [‹t.pc = _›, pollerEnter, pollerRewake, rebalLoop, hdec, ne_eq, ite_not]
  -- `pUnlock q` with `q` false
  case case8 q _ hq =>
    obtain rfl := Bool.eq_false_iff.2 hq
    rintro ⟨⟩; exact .keep
  all_goals rintro ⟨⟩
  -- an action has one outcome, or one of two selected by an `if`
  all_goals first | constructor | (split <;> constructor)
  all_goals first | exact hmu ‹_› | assumption

/-- `n`: the holders among the other threads. -/
theorem Step.rest_free {sh : Sh} {t : Th} {sh' : Sh} {t' : Th} {b : Bool} (h : Step sh t sh' t' b) {n : Nat}
    (hmu : muN sh = hold t + n) : n = 0 := by
  have := muN_le sh
  cases h <;> simp only [hold] at hmu <;> omega

theorem inv_step (sh : Sh) (t : Th) (r : List Th) (sh' : Sh) (t' : Th) (b : Bool) (ev : String)
    (hI : GInv ⟨sh, t :: r⟩) (hs : stepT sh t = some (sh', t', b, ev)) : GInv ⟨sh', t' :: sys.wakeAll b r⟩ := by
  simp only [GInv, cnt_cons, cnt_wakeAll hold, cnt_wakeAll rcount, cnt_wakeAll ins] at hI ⊢
  obtain ⟨mu, reb, cor, excl, pw, rw⟩ := hI
  have hs := Step.of_stepT hs
  have hle := ins_le r
  -- no other thread holds the mutex: after a broadcast no other thread is a waiter that has not been notified
  have hwk := parked_wakeAll r
  have h0 := hs.rest_free mu
  simp only [h0, Nat.add_zero, Nat.le_zero, Nat.add_eq_zero_iff] at mu hle hwk ⊢
  obtain ⟨z1, z2, z3, z4, z5⟩ := start_zero t.prog
  -- per transition: evaluate the indicators at the two locations, the rest is linear arithmetic
  -- (`↓`: the values at `start p` go in before `hold` … are unfolded there)
  cases hs <;> simp only [hold, rcount, ins, pwp, rwp] at mu reb excl pw rw <;>
    constructor <;>
    simp only [↓z1, ↓z2, ↓z3, ↓z4, ↓z5, hold, rcount, ins, pwp, rwp, muN, cor, Sys.wakeAll_false, hwk.1, hwk.2, if_true,
      if_false, Bool.false_eq_true, Bool.false_or, decide_eq_false_iff_not, implies_true] <;>
    omega

theorem reach_inv {progs : List (List Op)} {s : St Sh Th} (hr : sys.Reach (init progs) s) : GInv s :=
  Sys.inv_of_local sys (init_inv progs) (by simp [GInv, cnt_mid]) inv_step hr

end Model.C31.Gate
