import FranzVerif.Model.C22Frame
/-! The frame parser model (C22). Each partial operation (`mkBuf?`, `u32?`, `from4?`) stands behind a guard that makes its
`panic` arm unreachable; a tag-loop iteration that leaves the reader valid consumes at least two bytes; and
`parseFrameWith_cases` is the one case analysis of `parseFrameWith` (refused, or the header `Accepted` and the tag loop left to
decide) from which the parser theorems of `Props.C22` are read off. -/
namespace Proof.C22Frame
open Model.C22Frame

theorem u32?_some_length {s : Bytes} {v : Nat} (h : u32? s = some v) : 4 ≤ s.length := by
  match s, h with
  | _ :: _ :: _ :: _ :: _, _ => simp only [List.length_cons]; omega

theorem u32?_isSome {s : Bytes} (h : 4 ≤ s.length) : ∃ v, u32? s = some v := by
  match s, h with
  | a :: b :: c :: d :: _, _ => exact ⟨_, rfl⟩

theorem u32?_take {l : Bytes} {n : Nat} (h : 4 ≤ (l.take n).length) : u32? (l.take n) = u32? l := by
  rw [List.length_take] at h
  have hl : 4 ≤ l.length := by omega
  obtain ⟨m, rfl⟩ : ∃ m, n = m + 4 := ⟨n - 4, by omega⟩
  match l, hl with
  | a :: b :: c :: d :: t, _ => simp only [List.take_succ_cons, u32?]

theorem from4?_of_le {b : Bytes} (h : ¬ b.length < 4) : from4? b = some (b.drop 4) := if_neg h

theorem mkBuf?_of_nonneg {n : Int} (h : ¬ n < 0) : mkBuf? n = some n.toNat := if_neg h

theorem uvarint_some {b : Bytes} {v n : Nat} : uvarint b = some (v, n) → v < 4294967296 ∧ 1 ≤ n ∧ n ≤ b.length := by
  fun_cases uvarint b
  all_goals intro h
  all_goals simp only [Option.some.injEq, Prod.mk.injEq, reduceCtorEq] at h
  all_goals simp only [List.length_cons]
  all_goals omega

theorem rdUvarint_lt (r : Rd) : (rdUvarint r).1 < 4294967296 := by
  unfold rdUvarint
  split
  · simp
  · rename_i v n h; exact (uvarint_some h).1

theorem rdUvarint_length_le (r : Rd) : (rdUvarint r).2.src.length ≤ r.src.length := by
  unfold rdUvarint
  split
  · simp
  · simp only [List.length_drop]; omega

theorem rdUvarint_good {r : Rd} (h : (rdUvarint r).2.bad = false) :
    (rdUvarint r).2.src.length + 1 ≤ r.src.length ∧ r.bad = false := by
  unfold rdUvarint at h ⊢
  split
  · rename_i hu; rw [hu] at h; simp at h
  · rename_i v n hu
    rw [hu] at h
    obtain ⟨_, h1, h2⟩ := uvarint_some hu
    simp only [List.length_drop] at h ⊢
    exact ⟨by omega, h⟩

theorem rdSpan_good {r : Rd} {l : Nat} (h : (rdSpan r l).bad = false) :
    (rdSpan r l).src.length ≤ r.src.length ∧ r.bad = false := by
  unfold rdSpan at h ⊢
  split
  · rename_i hl; rw [if_pos hl] at h; simp at h
  · rename_i hl; rw [if_neg hl] at h
    simp only [List.length_drop] at h ⊢
    exact ⟨by omega, h⟩

theorem skipIter_good {r : Rd} (h : (skipIter r).bad = false) : (skipIter r).src.length + 2 ≤ r.src.length := by
  unfold skipIter at h ⊢
  dsimp only at h ⊢
  obtain ⟨h3, hb2⟩ := rdSpan_good h
  obtain ⟨h2, hb1⟩ := rdUvarint_good hb2
  obtain ⟨h1, _⟩ := rdUvarint_good hb1
  omega

/-- An iteration that leaves the reader valid consumes at least two bytes, and the first failing one is the last. -/
theorem skipLoop_iters (n : Nat) (r : Rd) : (skipLoop n r).2 ≤ r.src.length + 1 := by
  induction n generalizing r with
  | zero => simp [skipLoop]
  | succ n ih =>
    simp only [skipLoop]
    split
    · simp
    · dsimp only
      cases hb : (skipIter r).bad with
      | true =>
        have : (skipLoop n (skipIter r)).2 = 0 := by
          cases n with
          | zero => simp [skipLoop]
          | succ m => simp [skipLoop, hb]
        omega
      | false =>
        have := skipIter_good hb
        have := ih (skipIter r)
        omega

theorem skipLoopUnbounded_iters (n : Nat) (r : Rd) : (skipLoopUnbounded n r).2 = n := by
  induction n generalizing r with
  | zero => rfl
  | succ n ih => simp only [skipLoopUnbounded, ih]

/-- The frame at the front of `s` passes every header check for `corr`: its size prefix announces `n` bytes, no more than
`mr`, all of them are there, they begin with `corr`, and `body` is what follows the correlation id. -/
structure Accepted (mr corr : Nat) (s : Bytes) (n : Nat) (body : Bytes) : Prop where
  size : ∃ sz, u32? s = some sz ∧ toInt32 sz = n
  within : n ≤ mr
  complete : 4 + n ≤ s.length
  corr : u32? (s.drop 4) = some corr
  body_eq : ((s.drop 4).take n).drop 4 = body
  long : body.length + 4 = n

/-- Either the frame is refused or incomplete (no delivery, no panic, no more steps than bytes), or its header is accepted and
only the tag loop over its body is left to decide. The walk follows the parser guard by guard; behind its guard each partial
operation is rewritten to its value, so the three `panic` arms never come up. -/
theorem parseFrameWith_cases (loop : Nat → Rd → Rd × Nat) (mr corr : Nat) (flex cl : Bool) (s : Bytes) :
    ((parseFrameWith loop mr corr flex cl s).steps ≤ s.length ∧
      (parseFrameWith loop mr corr flex cl s).res ≠ .panic ∧
      ∀ b, (parseFrameWith loop mr corr flex cl s).res ≠ .deliver b) ∨
    ∃ n body, Accepted mr corr s n body ∧
      parseFrameWith loop mr corr flex cl s =
        if flex then
          let p := loop (rdUvarint ⟨body, false⟩).1 (rdUvarint ⟨body, false⟩).2
          ⟨if p.1.bad then .short else .deliver p.1.src, (s.drop 4).drop n, 4 + n + p.2⟩
        else ⟨.deliver body, (s.drop 4).drop n, 4 + n⟩ := by
  have cut : (if cl then Res.eof else .needMore) ≠ .panic ∧ ∀ b, (if cl then Res.eof else .needMore) ≠ .deliver b := by
    cases cl <;> exact ⟨nofun, nofun⟩
  generalize hp : parseFrameWith loop mr corr flex cl s = out
  unfold parseFrameWith at hp
  rcases hs : u32? s with _ | sz <;> rw [hs] at hp
  -- fewer than four bytes of size prefix
  · subst hp
    exact .inl ⟨Nat.le_refl _, cut⟩
  have h4 := u32?_some_length hs
  dsimp only at hp
  -- negative size; size above `maxRead`
  by_cases hneg : toInt32 sz < 0
  · rw [if_pos hneg] at hp
    subst hp
    exact .inl ⟨h4, nofun, nofun⟩
  by_cases hover : toInt32 sz > mr
  · rw [if_neg hneg, if_pos hover] at hp
    subst hp
    exact .inl ⟨h4, nofun, nofun⟩
  -- `make` does not panic behind the negative-size guard
  rw [if_neg hneg, if_neg hover, mkBuf?_of_nonneg hneg] at hp
  dsimp only at hp
  have hsz : toInt32 sz = (toInt32 sz).toNat := (Int.toNat_of_nonneg (Int.not_lt.1 hneg)).symm
  generalize (toInt32 sz).toNat = n at hp hsz
  have hd : 4 + (s.drop 4).length = s.length := by rw [List.length_drop]; omega
  -- the stream ends inside the frame
  by_cases hav : (s.drop 4).length < n
  · rw [if_pos hav] at hp
    subst hp
    exact .inl ⟨Nat.le_of_eq hd, cut⟩
  have hfit : 4 + n ≤ s.length := by omega
  -- frame shorter than a correlation id
  by_cases hlen : ((s.drop 4).take n).length < 4
  · rw [if_neg hav, if_pos hlen] at hp
    subst hp
    exact .inl ⟨hfit, nofun, nofun⟩
  -- `Uint32(buf)` and `buf[4:]` do not panic behind the length guard
  have hbuf := Nat.le_of_not_lt hlen
  obtain ⟨g, hg⟩ := u32?_isSome hbuf
  rw [if_neg hav, if_neg hlen, hg, from4?_of_le hlen] at hp
  dsimp only at hp
  -- correlation id differs
  by_cases hne : (g != corr) = true
  · rw [if_pos hne] at hp
    subst hp
    exact .inl ⟨hfit, nofun, nofun⟩
  -- header accepted
  rw [if_neg hne] at hp
  rw [u32?_take hbuf, show g = corr by simpa using hne] at hg
  refine .inr ⟨n, _, ⟨⟨sz, hs, hsz⟩, Int.ofNat_le.1 (hsz ▸ Int.not_lt.1 hover), hfit, hg, rfl, ?_⟩, hp.symm⟩
  rw [List.length_take] at hbuf
  rw [List.length_drop, List.length_take, Nat.sub_add_cancel hbuf, Nat.min_eq_left (Nat.le_of_not_lt hav)]

theorem deliver_carries_corr {loop : Nat → Rd → Rd × Nat} {mr corr : Nat} {flex cl : Bool} {s body : Bytes}
    (h : (parseFrameWith loop mr corr flex cl s).res = .deliver body) : u32? (s.drop 4) = some corr := by
  rcases parseFrameWith_cases loop mr corr flex cl s with ⟨_, _, hno⟩ | ⟨_, _, ha, _⟩
  · exact absurd h (hno body)
  · exact ha.corr

end Proof.C22Frame
