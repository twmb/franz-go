import FranzVerif.Model.ProducerWake
import FranzVerif.Proof.Monitor
/-! Which obligations of the producer wake-up monitor survive a stretch of history without a Broadcast. `need` counts the
tentative obligation too, and only that one can be withdrawn (by the record's admission): so `need - tent`, the obligations
that are definite, does not decrease as long as nothing is broadcast (`need_sub_tent_mono`, stated without subtraction). From
it a definite obligation stays until `quiesce` (`need_stays`); the flush obligation and the tentative one are followed
directly (`flushNeed_stays`, `tentative_stays`). -/
namespace Proof.ProducerWake
open Model.ProducerWake

theorem isMonitor : Proof.Monitor.IsMonitor check apply step run :=
  ⟨⟨fun _ => rfl, fun s e es => by rw [run]; cases step s e <;> rfl⟩, fun s e => by rw [step]; cases check s e <;> rfl⟩

theorem check_returned {s : St} {id : Id} : check s (.returned id) = none ↔ s.tentative ≠ some id := by
  simp [check]

theorem check_quiesce {s : St} : check s .quiesce = none ↔ s.need = 0 ∧ s.flushNeed = false := by
  simp [check, Proof.Monitor.ite_some_eq_none]

def tent (s : St) : Nat := if s.tentative.isSome then 1 else 0

theorem need_sub_tent_mono (s : St) (e : Ev) (h0 : s.need ≥ tent s) (hnb : ∀ site, e ≠ .bcast site) :
    (apply s e).need + tent s ≥ s.need + tent (apply s e) := by
  unfold tent at *
  fun_cases apply s e
  case case3 id ht =>
    -- `admitted id` with `id` the tentative record: `tent s = 1 ≤ s.need`, and the obligation withdrawn is that one
    rw [beq_iff_eq.1 ht] at h0 ⊢
    simp at h0 ⊢; omega
  -- `released`, with and without a flusher to wake: `s'` is `s` after the obligation for a blocked producer
  case case5 id n b f s' _ => simp only [s']; split <;> simp <;> omega
  case case6 id n b f s' _ => simp only [s']; split <;> simp <;> omega
  case case7 site => exact absurd rfl (hnb site)
  all_goals simp <;> omega

theorem need_ge_tent {s : St} {h : List Ev} (hr : run {} h = some s) : s.need ≥ tent s := by
  refine isMonitor.inv_state (I := fun s => s.need ≥ tent s) (fun s e h0 _ => ?_) (s₀ := {}) (Nat.le_refl 0) hr
  by_cases hb : ∃ site, e = .bcast site
  · obtain ⟨site, rfl⟩ := hb
    exact Nat.le_refl 0
  · have := need_sub_tent_mono s e h0 fun site he => hb ⟨site, he⟩
    omega

theorem need_stays {s s' : St} {h : List Ev} (h0 : s.need ≥ tent s + 1) (hnb : ∀ site, Ev.bcast site ∉ h)
    (hr : run s h = some s') : s'.need ≥ tent s' + 1 :=
  isMonitor.stays (I := fun s => s.need ≥ tent s + 1)
    (fun s e he h0 _ => by have := need_sub_tent_mono s e (Nat.le_of_succ_le h0) fun site hs => hnb site (hs ▸ he); omega) h0 hr

theorem flushNeed_stays {s s' : St} {h : List Ev} (h0 : s.flushNeed = true) (hnb : ∀ site, Ev.bcast site ∉ h)
    (hnf : Ev.flushReturned ∉ h) (hr : run s h = some s') : s'.flushNeed = true := by
  refine isMonitor.stays (I := fun s => s.flushNeed = true) (fun s e he h0 _ => ?_) h0 hr
  cases e with
  | unblocked id b n f => simp only [apply]; split <;> exact h0
  | admitted id => simp only [apply]; split <;> exact h0
  | released id n b f => simp only [apply]; split <;> split <;> first | rfl | exact h0
  | bcast site => exact absurd he (hnb site)
  | returned id => simp only [apply]; split <;> exact h0
  | flushReturned => exact absurd he hnf
  | quiesce => exact h0

theorem tentative_stays {s s' : St} {h : List Ev} {id : Id} (h0 : s.tentative = some id)
    (hnb : ∀ site, Ev.bcast site ∉ h) (hna : Ev.admitted id ∉ h)
    (hnu : ∀ e ∈ h, match e with | .unblocked _ _ _ _ => False | _ => True) (hr : run s h = some s') :
    s'.tentative = some id := by
  refine isMonitor.stays (I := fun s => s.tentative = some id) (fun s e he ht hc => ?_) h0 hr
  cases e with
  | unblocked i b n f => exact (hnu _ he).elim
  | admitted i =>
    have hne : ¬ id = i := fun h => hna (h ▸ he)
    simp [apply, ht, hne]
  | released i n b f => simp only [apply]; split <;> split <;> exact ht
  | bcast site => exact absurd he (hnb site)
  | returned i =>
    have hne : ¬ id = i := fun h => check_returned.1 hc (h ▸ ht)
    simp [apply, ht, hne]
  | flushReturned => exact ht
  | quiesce => exact ht

end Proof.ProducerWake
