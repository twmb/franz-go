import FranzVerif.Model.Share
import FranzVerif.Proof.Monitor
/-! The share-group history monitor (C12, protocol half). `stateAt lock h` names the ledgers after an accepted prefix `h`, so
that the property statements can speak of them without an existential state; `check_wireAck`, `check_wireRes`, … say what an
accepted event of each kind tells about them. The wire-batch ledger is the reversed `wireBatches h`, and it is ascending per
request and partition (`AscInv`) although `check` compares a new batch only with the newest earlier one of its request and
partition: that one starts above all older ones. -/
namespace Proof.Share
open Model.Share Proof.Monitor

theorem isMonitor : IsMonitor check apply step run :=
  ⟨⟨fun _ => rfl, fun s e es => by rw [run]; cases step s e <;> rfl⟩, fun s e => by rw [step]; cases check s e <;> rfl⟩

theorem run_snoc {s₀ : St} {h : List Ev} {ev : Ev} {s : St} (hacc : run s₀ (h ++ [ev]) = some s) :
    ∃ s₁, run s₀ h = some s₁ ∧ check s₁ ev = none ∧ s = apply s₁ ev := by
  obtain ⟨s₁, h1, hc, h2⟩ := isMonitor.snoc hacc
  exact ⟨s₁, h1, hc, h2.symm⟩

/-- the ledgers after an accepted prefix (the empty state when the prefix is refused: every statement that speaks of
`stateAt lock h₁` has the acceptance of a history beginning with `h₁` as a hypothesis) -/
def stateAt (lock : Nat) (h : List Ev) : St := (run (init lock) h).getD {}

theorem stateAt_of_run {lock : Nat} {h : List Ev} {s : St} (hr : run (init lock) h = some s) : stateAt lock h = s := by
  rw [stateAt, hr, Option.getD_some]

theorem check_stateAt {lock : Nat} {h₁ h₂ : List Ev} {ev : Ev} {s : St}
    (hacc : run (init lock) (h₁ ++ ev :: h₂) = some s) : check (stateAt lock h₁) ev = none := by
  obtain ⟨s₁, h1, hc, _⟩ := isMonitor.split hacc
  rwa [stateAt_of_run h1]

theorem apply_lock (s : St) (e : Ev) : (apply s e).lock = s.lock := by
  fun_cases apply s e <;> rfl

theorem lock_stateAt {lock : Nat} {h₁ h₂ : List Ev} {ev : Ev} {s : St}
    (hacc : run (init lock) (h₁ ++ ev :: h₂) = some s) : (stateAt lock h₁).lock = lock := by
  obtain ⟨s₁, h1, -⟩ := isMonitor.split hacc
  rw [stateAt_of_run h1]
  exact isMonitor.inv_state (I := fun s => s.lock = lock) (fun s e hs _ => (apply_lock s e).trans hs) rfl h1

theorem check_wireAck {s : St} {m rid part first last ty t : Nat} (h : check s (.wireAck m rid part first last ty t) = none) :
    first ≤ last ∧
    (∀ b, s.batches.find? (fun b => b.rid == rid && b.part == part) = some b → b.last < first) ∧
    unbacked s m part first last ty = false ∧ typeDiffers s m part first last ty = false := by
  simp only [check, ite_some_eq_none, Nat.not_lt] at h
  obtain ⟨hle, h⟩ := h
  refine ⟨hle, ?_⟩
  cases hb : s.batches.find? (fun b => b.rid == rid && b.part == part) with
  | none =>
    simp only [hb, ite_some_eq_none, Bool.not_eq_true, and_true] at h
    exact ⟨nofun, h⟩
  | some b =>
    simp only [hb] at h
    by_cases hlt : first ≤ b.last
    · rw [if_pos hlt] at h
      split at h <;> cases h
    · simp only [if_neg hlt, ite_some_eq_none, Bool.not_eq_true, and_true] at h
      exact ⟨fun b' hb' => by cases hb'; omega, h⟩

theorem covers_iff {first last off : Nat} : covers first last off = true ↔ first ≤ off ∧ off ≤ last := by
  simp [covers]

theorem backed_of_unbacked {s : St} {m part first last ty : Nat} (h : unbacked s m part first last ty = false)
    (hty : ty = 1 ∨ ty = 3) {o : Nat} (h1 : first ≤ o) (h2 : o ≤ last) :
    ∃ p ∈ s.pend, p.m = m ∧ p.part = part ∧ p.off = o ∧ p.stage = 0 := by
  have hty' : (ty == 1 || ty == 3) = true := by rcases hty with rfl | rfl <;> rfl
  simp only [unbacked, hty', Bool.true_and, List.any_eq_false, List.mem_range, Bool.not_eq_true, Bool.not_eq_false',
    List.any_eq_true, Bool.and_eq_true, beq_iff_eq, and_assoc] at h
  obtain ⟨p, hp, a, b, c, d⟩ := h (o - first) (by omega)
  exact ⟨p, hp, a, b, by omega, d⟩

theorem typed_of_typeDiffers {s : St} {m part first last ty : Nat} (h : typeDiffers s m part first last ty = false)
    (hty : ty = 1 ∨ ty = 3) {p : Pend} (hp : p ∈ s.pend) (hm : p.m = m) (hpart : p.part = part) (h1 : first ≤ p.off)
    (h2 : p.off ≤ last) (hs : p.stage = 0) (hl : p.lost = false) :
    ∃ q ∈ s.pend, q.m = m ∧ q.part = part ∧ q.off = p.off ∧ q.stage = 0 ∧ q.st = ty := by
  have hty' : ((ty == 1 || ty == 2 || ty == 3) && !(ty == 2 && s.closing.contains m)) = true := by
    rcases hty with rfl | rfl <;> rfl
  simp only [typeDiffers, hty', Bool.true_and, List.any_eq_false] at h
  have := h p hp
  simp only [hm, hpart, hs, hl, covers_iff.2 ⟨h1, h2⟩, BEq.rfl, Bool.not_false, Bool.true_and, Bool.not_eq_true,
    Bool.not_eq_false', List.any_eq_true, Bool.and_eq_true, beq_iff_eq, and_assoc] at this
  exact this

theorem rule_any_eq_none {α : Type} {l : List α} {p : α → Bool} {msg : String}
    (h : (if l.any p then some msg else none) = none) : ∀ x ∈ l, p x = false := by
  simpa [ite_some_eq_none] using h

theorem mem_offsetsOf {b : Batch} {o : Nat} : o ∈ offsetsOf b ↔ b.first ≤ o ∧ o ≤ b.last := by
  simp only [offsetsOf, List.mem_map, List.mem_range]
  exact ⟨fun ⟨i, hi, h⟩ => by omega, fun h => ⟨o - b.first, by omega, by omega⟩⟩

/-- the wire batches seen since `n` batches had been seen -/
def batchesSince (s : St) (n : Nat) : List Batch := s.batches.take (s.batches.length - n)

theorem check_acquired {s : St} {m part first last dc t : Nat} (h : check s (.acquired m part first last dc t) = none) :
    ∀ c ∈ s.confirmed, ¬ (c.1 = part ∧ first ≤ c.2.1 ∧ c.2.1 ≤ last ∧ c.2.2 < t) :=
  fun c hc ⟨hp, h1, h2, ht⟩ => by simpa [hp, covers_iff.2 ⟨h1, h2⟩, ht] using rule_any_eq_none h c hc

theorem check_wireRes {s : St} {m rid part : Nat} (h : check s (.wireRes m rid part 0) = none) :
    ∀ b ∈ s.batches, b.rid = rid → b.part = part → b.m = m → (b.ty = 1 ∨ b.ty = 3) →
      ∀ o, b.first ≤ o → o ≤ b.last → ∀ a, holder s part o = some a → a.m ≠ m → a.t < b.t → b.t < a.t + s.lock →
        ∃ hb ∈ s.batches, hb.m = a.m ∧ hb.part = part ∧ hb.first ≤ o ∧ o ≤ hb.last ∧ isFinalTy hb.ty = true ∧ a.t ≤ hb.t := by
  intro b hb h1 h2 h3 hty o ho1 ho2 a ha ham hat hlk
  -- `b` is one of the batches the rule looks at, `o` one of its offsets, and `a` the holder the rule finds
  have := List.any_eq_false.1 (rule_any_eq_none h b (List.mem_filter.2 ⟨hb, by simpa [h1, h2, h3] using hty⟩)) o
    (mem_offsetsOf.2 ⟨ho1, ho2⟩)
  rw [ha] at this
  -- the holder is another member, inside its lock: so the last conjunct fails, that member has sent a final batch since
  simp only [bne_iff_ne.2 ham, hat, hlk, decide_true, Bool.true_and, Bool.not_eq_true, Bool.not_eq_false',
    List.any_eq_true] at this
  obtain ⟨hb', hm, hc⟩ := this
  simp only [Bool.and_eq_true, beq_iff_eq, covers_iff, decide_eq_true_eq, and_assoc] at hc
  exact ⟨hb', hm, hc⟩

theorem check_closed {s : St} {m : Nat} (h : check s (.closed m) = none) :
    ∀ r ∈ s.openRecs, r.1 = m →
      (∃ b ∈ batchesSince s r.2.2.2, b.m = m ∧ b.part = r.2.1 ∧ b.first ≤ r.2.2.1 ∧ r.2.2.1 ≤ b.last ∧
        (b.ty = 1 ∨ b.ty = 2 ∨ b.ty = 3)) ∨
      (m, r.2.1) ∈ s.closeErr := by
  intro r hr hm
  -- the record is the member's, so one of the two negated conjuncts of the rule fails
  have := rule_any_eq_none h r hr
  simp only [hm, BEq.rfl, Bool.true_and, Bool.and_eq_false_iff, Bool.not_eq_false', List.any_eq_true] at this
  refine this.imp (fun ⟨b, hb, hc⟩ => ⟨b, hb, ?_⟩) List.contains_iff_mem.1
  simpa only [Bool.and_eq_true, beq_iff_eq, covers_iff, Bool.or_eq_true, and_assoc, or_assoc] using hc

theorem check_flushEnd {s : St} {m : Nat} (h : check s (.flushEnd m true) = none) :
    ∀ u ∈ s.uncalled, ¬ (u.1 = m ∧ u.2.2 = true) :=
  fun u hu hcond => by simpa [hcond] using rule_any_eq_none h u hu

theorem check_quiesce {s : St} (h : check s .quiesce = none) :
    ∀ p ∈ s.pend, p.stage = 0 → p.lost = false → p.m ∉ s.isClosed :=
  fun p hp h0 hl hcl => by simpa [h0, hl, hcl] using rule_any_eq_none h p hp

/-- every acknowledgement batch on the wire, in order -/
def wireBatches (h : List Ev) : List Batch :=
  h.filterMap (fun e => match e with
    | .wireAck m rid part first last ty t => some ⟨m, rid, part, first, last, ty, t⟩
    | _ => none)

/-- the batches of one request for one partition, in wire order -/
def batchesOf (rid part : Nat) (h : List Ev) : List Batch :=
  (wireBatches h).filter (fun b => b.rid == rid && b.part == part)

theorem apply_batches (s : St) (e : Ev) : (apply s e).batches = wireBatches [e] ++ s.batches := by
  fun_cases apply s e <;> rfl

theorem batches_eq {lock : Nat} {h : List Ev} {s : St} (hr : run (init lock) h = some s) :
    s.batches = (wireBatches h).reverse :=
  isMonitor.field apply_batches rfl hr

/-- Ascending invariant of the wire-batch ledger (newest first), per request and partition. -/
def AscInv (l : List Batch) : Prop :=
  ∀ rid part, ((l.filter (fun b => b.rid == rid && b.part == part)).Pairwise (fun a b => b.last < a.first)) ∧
    ∀ x ∈ l.filter (fun b => b.rid == rid && b.part == part), x.first ≤ x.last

theorem AscInv.cons {l : List Batch} {b : Batch} (hi : AscInv l) (hwf : b.first ≤ b.last)
    (hprev : ∀ b', l.find? (fun x => x.rid == b.rid && x.part == b.part) = some b' → b'.last < b.first) :
    AscInv (b :: l) := by
  intro rid part
  obtain ⟨hp, hw⟩ := hi rid part
  rw [List.filter_cons]
  split
  · rename_i hk
    obtain ⟨rfl, rfl⟩ : b.rid = rid ∧ b.part = part := by simpa using hk
    refine ⟨List.pairwise_cons.2 ⟨fun x hx => ?_, hp⟩, List.forall_mem_cons.2 ⟨hwf, hw⟩⟩
    -- the newest earlier batch ends below `b`; the older ones end below where that one starts
    rw [← List.head?_filter] at hprev
    generalize l.filter _ = f at hp hw hx hprev
    cases f with
    | nil => cases hx
    | cons hd tl =>
      have h1 := hprev hd rfl
      have h2 := hw hd List.mem_cons_self
      rcases List.mem_cons.1 hx with rfl | hx
      · exact h1
      · have := (List.pairwise_cons.1 hp).1 x hx
        omega
  · exact ⟨hp, hw⟩

theorem ascInv_of_run {lock : Nat} {h : List Ev} {s : St} (hr : run (init lock) h = some s) : AscInv s.batches := by
  refine isMonitor.inv_state (I := fun s => AscInv s.batches) (fun s e hi hc => ?_)
    (fun _ _ => ⟨List.Pairwise.nil, fun _ hx => absurd hx List.not_mem_nil⟩) hr
  rw [apply_batches]
  cases e with
  | wireAck m rid part first last ty t =>
    obtain ⟨hwf, hprev, _⟩ := check_wireAck hc
    exact hi.cons (b := ⟨m, rid, part, first, last, ty, t⟩) hwf hprev
  | _ => exact hi

end Proof.Share
