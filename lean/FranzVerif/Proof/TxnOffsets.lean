import FranzVerif.Model.Txn
import FranzVerif.Proof.Monitor
import FranzVerif.Proof.Ledger
/-! `Model.TxnOffsets` (C11, offsets half; `tofs` scenarios). `Reached single h s` packs what is known of the state after an
accepted history `h`: every list field is the reversed observable of `h` (`Links`, read off `apply` branch by branch),
and the state invariant `Good` (a transaction has one result and one want per partition, results only for transactions
whose End was called, record ids unique). What only restates a rule of `check` is read at the event (`at_event`). The property
theorems are instances of two facts about an accepted observation, `observation_rule` and `Reached.justified_explained`; the
first rests on `wants_before_result`: the offsets a transaction sets out to commit are all logged before its End reports. -/
namespace Proof.TxnOffsets
open Model.TxnOffsets Proof.Monitor Proof.Ledger

def wantEv : Ev → Option (Nat × Nat × Int) | .want t p o => some (t, p, o) | _ => none
def resultEv : Ev → Option (Nat × Res) | .endDone _ t r => some (t, r) | _ => none
def startEv : Ev → Option (Nat × Bool) | .endStart _ t c => some (t, c) | _ => none
def obsEv : Ev → Option (Nat × Nat × Int) | .observe _ t p o => some (t, p, o) | _ => none
def finalEv : Ev → Option (Nat × Int) | .final p o => some (p, o) | _ => none
def coordEv : Ev → Option (Nat × Bool) | .coord _ t o => some (t, o) | _ => none
def produceEv : Ev → Option (Id × Nat) | .produce t id => some (id, t) | _ => none
def ackEv : Ev → Option Id | .promise id true => some id | _ => none
def visEv : Ev → Option Id | .output _ _ id => some id | _ => none

/-- `(t, part, off)`: transaction `t` polled from `part` and set out to commit `off` -/
def wantsOf (h : List Ev) : List (Nat × Nat × Int) := h.filterMap wantEv
/-- `(t, res)`: what End reported for `t` -/
def resultsOf (h : List Ev) : List (Nat × Res) := h.filterMap resultEv
/-- `(t, commit requested)`: End was called for `t` -/
def startsOf (h : List Ev) : List (Nat × Bool) := h.filterMap startEv
/-- `(t, part, off)`: the group's committed offset of `part` read right after the End of `t` returned -/
def observationsOf (h : List Ev) : List (Nat × Nat × Int) := h.filterMap obsEv
/-- `(part, off)`: the group's committed offsets at the end of the scenario -/
def finalsOf (h : List Ev) : List (Nat × Int) := h.filterMap finalEv
/-- `(t, open)`: the coordinator's state of the transactional id read right after the End of `t` returned -/
def coordsOf (h : List Ev) : List (Nat × Bool) := h.filterMap coordEv
def producedOf (h : List Ev) : List (Id × Nat) := h.filterMap produceEv
def ackedOf (h : List Ev) : List Id := h.filterMap ackEv
def visibleIds (h : List Ev) : List Id := h.filterMap visEv
def isIncomplete (h : List Ev) : Bool := h.any (fun e => e == .incomplete)
/-- the most recent observation of `part` in `h` (`-1` when there is none: nothing is committed at the start) -/
def lastObserved (part : Nat) (h : List Ev) : Int :=
  match (observationsOf h).reverse.find? (·.2.1 == part) with | some x => x.2.2 | none => -1

theorem isMonitor : IsMonitor check apply step run :=
  ⟨⟨fun _ => rfl, fun s e es => by rw [run]; cases step s e <;> rfl⟩,
   fun s e => by rw [step]; cases check s e <;> rfl⟩

/-- holds of the state reached from any initial state whose lists are empty, whatever its `single` (`links_of_run`) -/
structure Links (h : List Ev) (s : St) : Prop where
  wants : s.wants = (wantsOf h).reverse
  results : s.results = (resultsOf h).reverse
  started : s.started = (startsOf h).reverse
  obs : s.obs = (observationsOf h).reverse
  recs : s.recs = (producedOf h).reverse
  acked : s.acked = (ackedOf h).reverse
  vis : s.vis = (visibleIds h).reverse
  incomplete : s.incomplete = isIncomplete h

theorem links_of_run {single : Bool} {h : List Ev} {s : St} (hr : run { single := single } h = some s) : Links h s where
  wants := isMonitor.field (f := (·.wants)) (fun s ev => by fun_cases apply s ev <;> rfl) rfl hr
  results := isMonitor.field (f := (·.results)) (fun s ev => by fun_cases apply s ev <;> rfl) rfl hr
  started := isMonitor.field (f := (·.started)) (fun s ev => by fun_cases apply s ev <;> rfl) rfl hr
  obs := isMonitor.field (f := (·.obs)) (fun s ev => by fun_cases apply s ev <;> rfl) rfl hr
  recs := isMonitor.field (f := (·.recs)) (fun s ev => by fun_cases apply s ev <;> rfl) rfl hr
  acked := isMonitor.field (f := (·.acked)) (fun s ev => by
    fun_cases apply s ev <;> try rfl
    next h => rw [Bool.eq_false_iff.2 h]; rfl) rfl hr
  vis := isMonitor.field (f := (·.vis)) (fun s ev => by fun_cases apply s ev <;> rfl) rfl hr
  incomplete := isMonitor.flag (f := (·.incomplete)) (fun s ev => by fun_cases apply s ev <;> rfl) rfl hr

theorem lastOf_eq {h : List Ev} {s : St} (hl : Links h s) (p : Nat) : lastOf s p = lastObserved p h := by
  unfold lastOf lastObserved
  rw [hl.obs]
  rfl

theorem wantOf_of_mem {s : St} (hn : (s.wants.map (fun w => (w.1, w.2.1))).Nodup) {t p : Nat} {w : Int}
    (hm : (t, p, w) ∈ s.wants) : wantOf s t p = some w := by
  unfold wantOf
  rw [find?_of_key_nodup (fun w => (w.1, w.2.1)) hn (fun _ => by simp) hm]
  rfl

theorem want_check {s : St} {t p : Nat} {o : Int} (h : check s (.want t p o) = none) :
    (∀ x ∈ s.started, x.1 ≠ t) ∧ (∀ w ∈ s.wants, (w.1, w.2.1) ≠ (t, p)) := by
  simpa only [check, ite_some_eq_none, and_true, List.any_eq_true, Bool.and_eq_true, beq_iff_eq, not_exists, not_and,
    ne_eq, Prod.mk.injEq] using h

theorem produce_check {s : St} {t : Nat} {id : Id} (h : check s (.produce t id) = none) : ∀ r ∈ s.recs, r.1 ≠ id := by
  simpa only [check, ite_some_eq_none, and_true, List.any_eq_true, beq_iff_eq, not_exists, not_and] using h

theorem endDone_check {s : St} {m t : Nat} {res : Res} (h : check s (.endDone m t res) = none) :
    (∀ r ∈ s.results, r.1 ≠ t) ∧ t ∈ s.started.map (·.1) := by
  simp only [check, ite_some_eq_none] at h
  refine ⟨by simpa only [List.any_eq_true, beq_iff_eq, not_exists, not_and] using h.1, ?_⟩
  have h := h.2
  split at h
  · cases h
  · rename_i c hf
    exact List.mem_map.2 ⟨_, find?_key_some hf⟩

theorem output_check {s : St} {part off : Nat} {id : Id} (h : check s (.output part off id) = none) :
    id ∉ s.vis ∧ ∃ t, txnOf s id = some t ∧ resultOf s t = some .committed := by
  simp only [check] at h
  split at h
  · cases h
  · rename_i t ht
    simp only [ite_some_eq_none] at h
    refine ⟨by simpa using h.1, t, ht, ?_⟩
    have h := h.2
    split at h
    · assumption
    · cases h
    · split at h <;> cases h
    · cases h

theorem justified_iff {s : St} {p : Nat} {off : Int} :
    justified s p off = true ↔ off = -1 ∨ ∃ w ∈ s.wants, w.2.1 = p ∧ w.2.2 = off ∧ mayCommit s w.1 = true := by
  simp [justified, List.any_eq_true, and_assoc]

theorem mayCommit_iff {s : St} {t : Nat} :
    mayCommit s t = true ↔ resultOf s t = some .committed ∨ (s.single = false ∧ t ∈ s.ending ∧ resultOf s t = none) := by
  simp [mayCommit, and_assoc]

theorem observe_check {s : St} {m t p : Nat} {off : Int} (h : check s (.observe m t p off) = none) :
    justified s p off = true ∧ ∃ r, resultOf s t = some r ∧
      (r = .committed → ∀ w, wantOf s t p = some w → w ≤ off ∧ (s.single = true → off = w)) ∧
      (r ≠ .committed → s.single = true → off = lastOf s p) := by
  simp only [check, ite_some_eq_none] at h
  refine ⟨by simpa using h.1, ?_⟩
  have h := h.2
  cases hr : resultOf s t with
  | none => simp [hr] at h
  | some r =>
    refine ⟨r, rfl, ?_⟩
    cases r with
    | committed =>
      refine ⟨fun _ w hw => ?_, fun hne => absurd rfl hne⟩
      simp only [hr, hw, ite_some_eq_none] at h
      exact ⟨by omega, fun hs => by simpa [hs] using h.2.1⟩
    | aborted =>
      simp only [hr, ite_some_eq_none] at h
      exact ⟨nofun, fun _ hs => by simpa [hs] using h.1⟩
    | error =>
      simp only [hr, ite_some_eq_none] at h
      exact ⟨nofun, fun _ hs => by simpa [hs] using h.1⟩

theorem final_check {s : St} {p : Nat} {off : Int} (h : check s (.final p off) = none) : justified s p off = true := by
  simpa [check] using h

theorem coord_check {s : St} {m t : Nat} {o : Bool} (h : check s (.coord m t o) = none) :
    ∃ r, resultOf s t = some r ∧ (o = true → r ≠ .committed) := by
  cases hr : resultOf s t with
  | none => simp [check, hr] at h
  | some r =>
    refine ⟨r, rfl, ?_⟩
    rintro rfl rfl
    simp [check, hr] at h

theorem quiesce_check {s : St} (h : check s .quiesce = none) (hinc : s.incomplete = false) :
    (∀ r ∈ s.recs, r.1 ∈ s.acked → resultOf s r.2 = some .committed → r.1 ∈ s.vis) ∧
    (∀ w ∈ s.wants, resultOf s w.1 = some .committed → ∃ o ∈ s.obs, o.1 = w.1 ∧ o.2.1 = w.2.1) := by
  simp only [check, hinc, Bool.false_eq_true, if_false, ite_some_eq_none, and_true, List.any_eq_true, not_exists,
    not_and] at h
  constructor
  · intro r hr ha hres
    cases hv : s.vis.contains r.1 with
    | true => exact List.contains_iff_mem.1 hv
    | false => exact absurd (by rw [List.contains_iff_mem.2 ha, hres, hv]; rfl) (h.1 r hr)
  · intro w hw hres
    cases ho : s.obs.any (fun o => o.1 == w.1 && o.2.1 == w.2.1) with
    | true =>
      obtain ⟨o, ho, he⟩ := List.any_eq_true.1 ho
      rw [Bool.and_eq_true, beq_iff_eq, beq_iff_eq] at he
      exact ⟨o, ho, he⟩
    | false => exact absurd (by rw [hres, ho]; rfl) (h.2 w hw)

structure Good (s : St) : Prop where
  /-- a transaction is ended at most once -/
  resNodup : (s.results.map (·.1)).Nodup
  /-- a transaction sets out to commit one offset per partition -/
  wantsNodup : (s.wants.map (fun w => (w.1, w.2.1))).Nodup
  /-- End reported only for transactions whose End was called -/
  resStarted : ∀ x ∈ s.results, x.1 ∈ s.started.map (·.1)
  /-- a transaction "in End" was ended with TryCommit -/
  endingStarted : ∀ t ∈ s.ending, (t, true) ∈ s.started
  recsNodup : (s.recs.map (·.1)).Nodup

theorem Good.step {s : St} (hg : Good s) (ev : Ev) (hchk : check s ev = none) : Good (apply s ev) := by
  fun_cases apply s ev <;> try exact { hg with }
  next t p o => exact { hg with wantsNodup := nodup_key_cons (want_check hchk).2 hg.wantsNodup }
  next t id => exact { hg with recsNodup := nodup_key_cons (produce_check hchk) hg.recsNodup }
  next m t c =>
    -- `endStart`: `t` joins `started`, and `ending` when the call is a TryCommit
    refine { hg with
      resStarted := fun x hx => List.mem_cons_of_mem _ (hg.resStarted x hx)
      endingStarted := fun t' ht' => ?_ }
    cases c with
    | false => exact List.mem_cons_of_mem _ (hg.endingStarted t' ht')
    | true =>
      rcases List.mem_cons.1 ht' with rfl | ht'
      · exact List.mem_cons_self
      · exact List.mem_cons_of_mem _ (hg.endingStarted t' ht')
  next m t res =>
    obtain ⟨hnew, hst⟩ := endDone_check hchk
    exact { hg with
      resNodup := nodup_key_cons hnew hg.resNodup
      resStarted := List.forall_mem_cons.2 ⟨hst, hg.resStarted⟩
      endingStarted := fun t' ht' => hg.endingStarted t' (List.mem_filter.1 ht').1 }

/-- `s` is the state of the monitor after the accepted history `h` -/
structure Reached (single : Bool) (h : List Ev) (s : St) : Prop extends Links h s, Good s where
  single_eq : s.single = single

theorem reached {single : Bool} {h : List Ev} {s : St} (hr : run { single := single } h = some s) :
    Reached single h s where
  toLinks := links_of_run hr
  toGood := isMonitor.inv_state (fun _ ev hg => hg.step ev) (by constructor <;> simp) hr
  single_eq := isMonitor.inv_state (I := fun s => s.single = single)
    (fun s ev hs _ => by fun_cases apply s ev <;> exact hs) rfl hr

theorem at_event {single : Bool} {h₁ h₂ : List Ev} {ev : Ev} {s : St}
    (hacc : run { single := single } (h₁ ++ ev :: h₂) = some s) :
    ∃ s₁, Reached single h₁ s₁ ∧ check s₁ ev = none ∧ run (apply s₁ ev) h₂ = some s := by
  obtain ⟨s₁, h1, hchk, h2⟩ := isMonitor.split hacc
  exact ⟨s₁, reached h1, hchk, h2⟩

namespace Reached
variable {single : Bool} {h : List Ev} {s : St} (hs : Reached single h s)
include hs

theorem resultOf_iff {t : Nat} {r : Res} : resultOf s t = some r ↔ (t, r) ∈ resultsOf h :=
  ⟨fun hr => List.mem_reverse.1 (hs.results ▸ lookup_some hr),
   fun hm => lookup_of_mem hs.resNodup (hs.results ▸ List.mem_reverse.2 hm)⟩

theorem results_unique {t : Nat} {r r' : Res} (h1 : (t, r) ∈ resultsOf h) (h2 : (t, r') ∈ resultsOf h) : r = r' :=
  Option.some.inj ((hs.resultOf_iff.2 h1).symm.trans (hs.resultOf_iff.2 h2))

end Reached

/-- a visible record was produced by a transaction whose End had reported a successful commit: the rule of `output` at the
event, and what it found is still in the ledgers at the end -/
theorem visible_committed {single : Bool} {h : List Ev} {s : St} (hacc : run { single := single } h = some s) {id : Id}
    (hv : id ∈ visibleIds h) : ∃ t, (id, t) ∈ producedOf h ∧ (t, Res.committed) ∈ resultsOf h := by
  obtain ⟨h₁, ev, h₂, rfl, hev⟩ := mem_filterMap_split hv
  cases ev <;> cases hev
  obtain ⟨s₁, hs₁, hchk, _⟩ := at_event hacc
  obtain ⟨_, t, htx, hres⟩ := output_check hchk
  exact ⟨t, mem_filterMap_append_left (List.mem_reverse.1 (hs₁.recs ▸ lookup_some htx)) _,
    mem_filterMap_append_left (hs₁.resultOf_iff.1 hres) _⟩

/-- the offsets a transaction sets out to commit are all logged before its End reports: a `want` is refused once End
was called, and End reports only after it was called -/
theorem wants_before_result {single : Bool} {h₁ h₂ : List Ev} {s : St} (hacc : run { single := single } (h₁ ++ h₂) = some s)
    {t p : Nat} {r : Res} {w : Int} (hr : (t, r) ∈ resultsOf h₁) (hw : (t, p, w) ∈ wantsOf (h₁ ++ h₂)) :
    (t, p, w) ∈ wantsOf h₁ := by
  unfold wantsOf at hw
  rw [List.filterMap_append] at hw
  rcases List.mem_append.1 hw with hw | hw
  · exact hw
  · obtain ⟨a, ev, b, rfl, hev⟩ := mem_filterMap_split hw
    cases ev <;> cases hev
    rw [← List.append_assoc] at hacc
    obtain ⟨s', hs', hchk, _⟩ := at_event hacc
    obtain ⟨x, hx, he⟩ :=
      List.mem_map.1 (hs'.resStarted _ (hs'.results ▸ List.mem_reverse.2 (mem_filterMap_append_left hr a)))
    exact absurd he ((want_check hchk).1 x hx)

theorem observation_rule {single : Bool} {h₁ h₂ : List Ev} {m t p : Nat} {off : Int} {s : St}
    (hacc : run { single := single } (h₁ ++ .observe m t p off :: h₂) = some s) {r : Res}
    (hr : (t, r) ∈ resultsOf (h₁ ++ .observe m t p off :: h₂)) :
    (r = .committed → ∀ w, (t, p, w) ∈ wantsOf (h₁ ++ .observe m t p off :: h₂) →
      w ≤ off ∧ (single = true → off = w)) ∧
    (r ≠ .committed → single = true → off = lastObserved p h₁) := by
  obtain ⟨s₁, hs₁, hchk, _⟩ := at_event hacc
  obtain ⟨_, r', hres, hc, hn⟩ := observe_check hchk
  have hres' := hs₁.resultOf_iff.1 hres
  obtain rfl : r' = r := (reached hacc).results_unique (mem_filterMap_append_left hres' _) hr
  rw [hs₁.single_eq, lastOf_eq hs₁.toLinks] at *
  exact ⟨fun hr' w hw => hc hr' w (wantOf_of_mem hs₁.wantsNodup
    (hs₁.wants ▸ List.mem_reverse.2 (wants_before_result hacc hres' hw))), hn⟩

theorem Reached.justified_explained {single : Bool} {h : List Ev} {s : St} (hs : Reached single h s) {p : Nat}
    {off : Int} (hj : justified s p off = true) :
    off = -1 ∨ ∃ t', (t', p, off) ∈ wantsOf h ∧ ((t', Res.committed) ∈ resultsOf h ∨
      (single = false ∧ (t', true) ∈ startsOf h ∧ ∀ r, (t', r) ∉ resultsOf h)) := by
  rcases justified_iff.1 hj with h0 | ⟨⟨t', p', o'⟩, hw, rfl, rfl, hmc⟩
  · exact Or.inl h0
  · refine Or.inr ⟨t', List.mem_reverse.1 (hs.wants ▸ hw), ?_⟩
    rcases mayCommit_iff.1 hmc with hres | ⟨hsg, hend, hnone⟩
    · exact Or.inl (hs.resultOf_iff.1 hres)
    · refine Or.inr ⟨hs.single_eq ▸ hsg, List.mem_reverse.1 (hs.started ▸ hs.endingStarted _ hend), fun r hr => ?_⟩
      rw [hs.resultOf_iff.2 hr] at hnone
      cases hnone

theorem justified_single {h₁ h₂ : List Ev} {ev : Ev} {s : St} {p : Nat} {off : Int}
    (hacc : run { single := true } (h₁ ++ ev :: h₂) = some s)
    (hj : ∀ s₁, check s₁ ev = none → justified s₁ p off = true) :
    off = -1 ∨ ∃ t', (t', p, off) ∈ wantsOf (h₁ ++ ev :: h₂) ∧ (t', Res.committed) ∈ resultsOf (h₁ ++ ev :: h₂) := by
  obtain ⟨s₁, hs₁, hchk, _⟩ := at_event hacc
  rcases hs₁.justified_explained (hj s₁ hchk) with h0 | ⟨t', hw, hres | ⟨hsg, _⟩⟩
  · exact Or.inl h0
  · exact Or.inr ⟨t', mem_filterMap_append_left hw _, mem_filterMap_append_left hres _⟩
  · cases hsg

theorem obsEv_some {ev : Ev} {t p : Nat} {o : Int} (h : obsEv ev = some (t, p, o)) : ∃ m, ev = .observe m t p o := by
  cases ev <;> simp [obsEv] at h
  obtain ⟨rfl, rfl, rfl⟩ := h
  exact ⟨_, rfl⟩

theorem finalEv_some {ev : Ev} {p : Nat} {o : Int} (h : finalEv ev = some (p, o)) : ev = .final p o := by
  cases ev <;> simp [finalEv] at h
  obtain ⟨rfl, rfl⟩ := h
  rfl

theorem coordEv_some {ev : Ev} {t : Nat} {o : Bool} (h : coordEv ev = some (t, o)) : ∃ m, ev = .coord m t o := by
  cases ev <;> simp [coordEv] at h
  obtain ⟨rfl, rfl⟩ := h
  exact ⟨_, rfl⟩

end Proof.TxnOffsets
