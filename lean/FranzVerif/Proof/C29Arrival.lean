import FranzVerif.Proof.C29Mon
/-! C29 — soundness of the arrival monitor `LMon` with respect to LOSSES.

`Mon` judges the order in which the client WRITES produce batches, `LMon` the order in which they ARRIVE. What arrives
is the write order with some batches missing (a request written on a connection that died before it was read): a
`Thin full sub` view. The theorems below say that `LMon` never raises a false alarm on such a view of a write order that
`Mon` accepts.

The statement "`Mon.run {} full = some _`, `Thin full sub`, the record counts of `full` sum to less than 2^31
⟹ `(LMon.init f).run sub` is `some _`" is FALSE as it stands; counterexamples are below
(`counterexample_epoch_reused`, 5 events, and `counterexample_reset_inside_epoch`, 6 events). Both need a history
in which the producer epoch is not tied to the `.reset` events: an epoch number that comes back, or a batch that still
carries the OLD epoch after a `.reset`. Neither can be written by the client: `RecBuf.step .epochReset` emits
`.reset` and bumps `epoch` in one step, and every batch is stamped with the current `epoch` (`wire_stamped`).
A `.reset` seen before the first batch ARRIVES is not a counterexample: `LMon.step` keeps `allow` when it starts (the
batches written before the reset may all have been lost), see `reset_before_first_arrival_accepted`.

The extra hypothesis is therefore `Stamped c full`: there is an epoch counter, `c` at the start, every batch carries
the current value of the counter, and every `.reset` moves the counter to a strictly larger value. `wire_stamped`:
everything the client model writes is `Stamped`. `counterexample_wrap`: the bound `total full < 2^31` is needed as well.

The proof (`arrival_sound_inv`) runs both monitors along `Thin` and keeps two invariants: `MInv`, under the budget of
records a first sequence determines the batch within `Mon`'s chain (`minv_step`); `LInv`, whatever `LMon` holds (chain and
batches kept aside) under `Mon`'s epoch is a batch of `Mon`'s chain (`lrel_step` for a batch that is written, `linv_arrive`
when it also arrives). `LMon.sameEpoch` refuses only two different batches with one first sequence, which `MInv.func`
excludes. -/
namespace Proof.C29Arrival
open Model.C29C Proof.C29C

/-- `Thin full sub`: `sub` is `full` with any set of `.batch` events deleted (every `.reset` is kept). -/
inductive Thin : List Ev → List Ev → Prop
  | nil : Thin [] []
  | keep (ev : Ev) {es sub : List Ev} : Thin es sub → Thin (ev :: es) (ev :: sub)
  | drop (e f n : Int) {es sub : List Ev} : Thin es sub → Thin (.batch e f n :: es) sub

/-- The producer epoch is a counter: every batch carries its current value `c`, every `.reset` moves it up. -/
def Stamped : Int → List Ev → Prop
  | _, [] => True
  | c, .batch e _ _ :: es => e = c ∧ Stamped c es
  | c, .reset :: es => ∃ c', c < c' ∧ Stamped c' es

/-- sum of the record counts of all batch events (re-sends counted again) -/
def total : List Ev → Int
  | [] => 0
  | .batch _ _ n :: es => n + total es
  | .reset :: es => total es

/-- Written: `1:0+1`, reset, `1:1+1`, `2:0+1` (accepted by `Mon`: the reset allows epoch 2). The first batch is lost, so
the `.reset` is seen before the first batch arrives. `LMon` keeps that permission when it starts with `1:1+1` and
accepts `2:0+1` (a monitor that set `allow := false` when it starts would refuse it: a false alarm). -/
example :
    (Mon.run {} [.batch 1 0 1, .reset, .batch 1 1 1, .batch 2 0 1]).isSome = true ∧
    ((LMon.init 0).run [.reset, .batch 1 1 1, .batch 2 0 1]).isSome = true := by decide

theorem reset_before_first_arrival_accepted :
    Thin [.batch 1 0 1, .reset, .batch 1 1 1, .batch 2 0 1] [.reset, .batch 1 1 1, .batch 2 0 1] ∧
    (((LMon.init 0).run [.reset, .batch 1 1 1, .batch 2 0 1]).map (fun l => (l.epoch, l.nextSeq, l.chain))) = some (2, 1, [(0, 1)]) := by
  refine ⟨?_, by decide⟩
  exact .drop _ _ _ (.keep _ (.keep _ (.keep _ .nil)))

/-- A `.reset` after which the OLD epoch is still used, in a monitor that has already started. Written: `0:0+1`, reset,
`1:0+1`, reset, `1:1+1`, `2:0+1` (accepted by `Mon`: the second reset allows epoch 2). The first batch of epoch 1 is lost.
`LMon` enters epoch 1 with `1:1+1`, which arrives AFTER the second reset, so both permissions to change the epoch are
consumed by it (`allow := false` when a monitor enters a new epoch), and `2:0+1` is refused. One boolean `allow` cannot
tell how many epoch changes the resets seen so far stand for. -/
theorem counterexample_reset_inside_epoch :
    (Mon.run {} [.batch 0 0 1, .reset, .batch 1 0 1, .reset, .batch 1 1 1, .batch 2 0 1]).isSome = true ∧
    Thin [.batch 0 0 1, .reset, .batch 1 0 1, .reset, .batch 1 1 1, .batch 2 0 1]
      [.batch 0 0 1, .reset, .reset, .batch 1 1 1, .batch 2 0 1] ∧
    total [.batch 0 0 1, .reset, .batch 1 0 1, .reset, .batch 1 1 1, .batch 2 0 1] < 2147483648 ∧
    ((LMon.init 0).run [.batch 0 0 1, .reset, .reset, .batch 1 1 1, .batch 2 0 1]).isSome = false := by
  refine ⟨by decide, ?_, by decide, by decide⟩
  exact .keep _ (.keep _ (.drop _ _ _ (.keep _ (.keep _ (.keep _ .nil)))))

/-- An epoch number that comes back. Written: `0:0+1`, reset, `1:0+1`, reset, `0:0+2` (accepted by `Mon`: epoch 0 after
epoch 1 is a new epoch). The only batch of epoch 1 is lost: `LMon` never leaves epoch 0 and sees `0+1` and `0+2`, two
different batches with one first sequence. With `total full < 2^31` this is the shortest counterexample. -/
theorem counterexample_epoch_reused :
    (Mon.run {} [.batch 0 0 1, .reset, .batch 1 0 1, .reset, .batch 0 0 2]).isSome = true ∧
    Thin [.batch 0 0 1, .reset, .batch 1 0 1, .reset, .batch 0 0 2] [.batch 0 0 1, .reset, .reset, .batch 0 0 2] ∧
    total [.batch 0 0 1, .reset, .batch 1 0 1, .reset, .batch 0 0 2] < 2147483648 ∧
    ((LMon.init 0).run [.batch 0 0 1, .reset, .reset, .batch 0 0 2]).isSome = false := by
  refine ⟨by decide, ?_, by decide, by decide⟩
  exact .keep _ (.keep _ (.drop _ _ _ (.keep _ (.keep _ .nil))))

/-- The bound on `total` is needed: `0+(2^31-1)`, `(2^31-1)+1`, `0+5` is one chain (the third batch starts where the second
ended, at 0 again), it is `Stamped 0`; with the second batch lost `LMon` sees `0+(2^31-1)` and `0+5`. -/
theorem counterexample_wrap :
    (Mon.run {} [.batch 0 0 2147483647, .batch 0 2147483647 1, .batch 0 0 5]).isSome = true ∧
    Thin [.batch 0 0 2147483647, .batch 0 2147483647 1, .batch 0 0 5] [.batch 0 0 2147483647, .batch 0 0 5] ∧
    Stamped 0 [.batch 0 0 2147483647, .batch 0 2147483647 1, .batch 0 0 5] ∧
    ((LMon.init 0).run [.batch 0 0 2147483647, .batch 0 0 5]).isSome = false := by
  refine ⟨by decide, ?_, ⟨rfl, rfl, rfl, trivial⟩, by decide⟩
  exact .keep _ (.drop _ _ _ (.keep _ .nil))

/-- Invariant of `Mon` under a budget: `S` bounds the number of records of the current epoch's chain; every batch of
the chain sits at an offset `d` from the start of the chain with `d + n ≤ S`, the frontier sits at offset `S`, and a
first sequence determines the batch. -/
structure MInv (m : Mon) (S : Int) : Prop where
  nonneg : 0 ≤ S
  pos : ∃ start : Int, m.nextSeq = (start + S) % 2147483648 ∧
    ∀ p ∈ m.chain, ∃ d : Int, 0 ≤ d ∧ 1 ≤ p.2 ∧ d + p.2 ≤ S ∧ p.1 = (start + d) % 2147483648
  func : ∀ p ∈ m.chain, ∀ q ∈ m.chain, p.1 = q.1 → p.2 = q.2

/-- A chain that is about to open at `f`. -/
theorem minv_empty (st al : Bool) (e f : Int) (hf : 0 ≤ f ∧ f < 2147483648) : MInv ⟨st, e, f, [], al⟩ 0 :=
  ⟨Int.le_refl 0, ⟨f, by show f = (f + 0) % 2147483648; rw [Int.add_zero, Int.emod_eq_of_lt hf.1 hf.2], nofun⟩, nofun⟩

theorem minv_cons (m : Mon) (S n : Int) (hi : MInv m S) (hn : 1 ≤ n) (hS : S + n < 2147483648) :
    MInv { m with nextSeq := next m.nextSeq n, chain := (m.nextSeq, n) :: m.chain } (S + n) := by
  obtain ⟨hS0, ⟨start, hnx, hpos⟩, hfun⟩ := hi
  have hnew : ∀ p ∈ m.chain, p.1 ≠ m.nextSeq := by
    intro p hp heq
    obtain ⟨d, hd0, hp1, hdS, hpd⟩ := hpos p hp
    omega
  refine ⟨by omega, ⟨start, ?_, ?_⟩, ?_⟩
  · show (m.nextSeq + n) % 2147483648 = _
    rw [hnx, Int.emod_add_emod, Int.add_assoc]
  · intro p hp
    rcases List.mem_cons.1 hp with rfl | hp
    · exact ⟨S, hS0, hn, Int.le_refl _, hnx⟩
    · obtain ⟨d, hd0, hp1, hdS, hpd⟩ := hpos p hp
      exact ⟨d, hd0, hp1, by omega, hpd⟩
  · intro p hp q hq hpq
    rcases List.mem_cons.1 hp with rfl | hp <;> rcases List.mem_cons.1 hq with rfl | hq
    · rfl
    · exact absurd hpq.symm (hnew q hq)
    · exact absurd hpq (hnew p hp)
    · exact hfun p hp q hq hpq

theorem total_nonneg (es : List Ev) (m mf : Mon) (h : m.run es = some mf) : 0 ≤ total es := by
  induction es generalizing m with
  | nil => exact Int.le_refl 0
  | cons ev es ih =>
    obtain ⟨m1, hs, h⟩ := monRun.cons_some h
    have := ih m1 h
    cases ev with
    | reset => exact this
    | batch e f n =>
      have := (step_batch_eq_some.1 hs).1
      rw [total]; omega

/-- An accepted batch keeps `MInv` within the budget: the next of the chain uses up `n` of it, a re-send nothing, and a
new chain starts from 0. -/
theorem minv_step {m m' mf : Mon} {S e f n : Int} {es : List Ev} (hi : MInv m S)
    (hS : S + total (.batch e f n :: es) < 2147483648) (h : m.step (.batch e f n) = some m')
    (hrun : m'.run es = some mf) : ∃ S', MInv m' S' ∧ S' + total es < 2147483648 := by
  have := total_nonneg es m' mf hrun
  have := hi.nonneg
  rw [total] at hS
  obtain ⟨hr, ⟨-, rfl⟩ | ⟨-, rfl, rfl, rfl⟩ | ⟨-, -, -, -, rfl⟩⟩ := step_batch_eq_some.1 h
  · exact ⟨0 + n, minv_cons ⟨true, e, f, [], false⟩ 0 n (minv_empty _ _ e f ⟨hr.1, hr.2.1⟩) hr.2.2.1 (by omega), by omega⟩
  · exact ⟨S + n, minv_cons m S n hi hr.2.2.1 (by omega), by omega⟩
  · exact ⟨S, hi, by omega⟩

theorem step_batch_mem {m m' : Mon} {e f n : Int} (h : m.step (.batch e f n) = some m') :
    m'.started = true ∧ m'.epoch = e ∧ (f, n) ∈ m'.chain := by
  obtain ⟨-, ⟨-, rfl⟩ | ⟨hs, rfl, rfl, rfl⟩ | ⟨hs, rfl, -, hc, rfl⟩⟩ := step_batch_eq_some.1 h
  · exact ⟨rfl, rfl, List.mem_singleton_self _⟩
  · exact ⟨hs, rfl, List.mem_cons_self⟩
  · exact ⟨hs, rfl, hc⟩

theorem absorb_spec (fuel : Nat) : ∀ l : LMon,
    (LMon.absorb fuel l).epoch = l.epoch ∧
    ∀ p ∈ (LMon.absorb fuel l).chain ++ (LMon.absorb fuel l).ahead, p ∈ l.chain ++ l.ahead := by
  induction fuel with
  | zero => exact fun l => ⟨rfl, fun _ hp => hp⟩
  | succ k ih =>
    intro l
    cases hf : l.ahead.find? (fun p => p.1 == l.nextSeq) with
    | none => rw [LMon.absorb, hf]; exact ⟨rfl, fun _ hp => hp⟩
    | some p =>
      obtain ⟨h1, h2⟩ := ih { l with nextSeq := next p.1 p.2, chain := p :: l.chain, ahead := l.ahead.filter (· != p) }
      simp only [LMon.absorb, hf]
      refine ⟨h1, fun q hq => ?_⟩
      have h3 := h2 q hq
      simp only [List.mem_append, List.mem_cons, List.mem_filter] at h3 ⊢
      rcases h3 with (rfl | h) | h
      · exact .inr (List.mem_of_find?_eq_some hf)
      · exact .inl h
      · exact .inr h.1

theorem sameEpoch_ok (l : LMon) (f n : Int) (C : List (Int × Int))
    (hsub : ∀ p ∈ l.chain ++ l.ahead, p ∈ C) (hmem : (f, n) ∈ C)
    (hfun : ∀ p ∈ C, ∀ q ∈ C, p.1 = q.1 → p.2 = q.2) :
    ∃ l', l.sameEpoch f n = some l' ∧ l'.epoch = l.epoch ∧ ∀ p ∈ l'.chain ++ l'.ahead, p ∈ C := by
  have hC : ∀ p, p = (f, n) ∨ p ∈ l.chain ∨ p ∈ l.ahead → p ∈ C := fun p hp => by
    rcases hp with rfl | hp | hp
    · exact hmem
    · exact hsub p (List.mem_append_left _ hp)
    · exact hsub p (List.mem_append_right _ hp)
  fun_cases LMon.sameEpoch l f n
  · obtain ⟨h1, h2⟩ := absorb_spec l.ahead.length { l with nextSeq := next f n, chain := (f, n) :: l.chain }
    exact ⟨_, rfl, h1, fun p hp => hC p (by simpa [or_assoc] using h2 p hp)⟩
  · exact ⟨l, rfl, rfl, hsub⟩
  · -- two different batches with one first sequence: impossible inside `C`
    next _ hheld hany =>
      obtain ⟨p, hp, hpf⟩ := List.any_eq_true.1 hany
      have hpf : p.1 = f := by simpa using hpf
      have : p = (f, n) := Prod.ext hpf (hfun p (hsub p hp) (f, n) hmem hpf)
      rw [this] at hp
      exact absurd (by simpa using hp) hheld
  · exact ⟨_, rfl, rfl, fun p hp => hC p (by simpa [or_left_comm] using hp)⟩

/-- Past the guard every branch of `LMon.step` is `sameEpoch` at some `l₀` of epoch `e`: `l` itself, or (first batch to
arrive, first of a new epoch) a state that holds no batch; `ha` excludes the refusing branch. So `sameEpoch_ok` is all that
is left to show of a step. -/
theorem lstep_batch (l : LMon) (e f n : Int) (hr : 0 ≤ f ∧ f < 2147483648 ∧ 1 ≤ n ∧ n < 2147483648)
    (ha : l.started = true → e ≠ l.epoch → l.allow = true) :
    ∃ l₀ : LMon, l.step (.batch e f n) = l₀.sameEpoch f n ∧ l₀.epoch = e ∧
      (l₀.chain ++ l₀.ahead = [] ∨ l.started = true ∧ l.epoch = e ∧ l₀ = l) := by
  simp only [LMon.step, (guard_eq_false f n).2 hr, Bool.false_eq_true, if_false]
  cases hls : l.started with
  | false => exact ⟨_, rfl, rfl, .inl rfl⟩
  | true =>
    by_cases he : e = l.epoch
    · exact ⟨l, by simp [he], he.symm, .inr ⟨rfl, he.symm, rfl⟩⟩
    · exact ⟨_, by simp [he, ha hls he]; rfl, rfl, .inl rfl⟩

/-- How the arrival monitor `l`, once started, after a thinned prefix, relates to the write-order monitor `m` after the full
prefix, when the epoch counter stands at `c`. -/
structure LRel (c : Int) (m : Mon) (l : LMon) : Prop where
  mstarted : m.started = true
  /-- `l` is in the current epoch or in an older one, -/
  le : l.epoch ≤ c
  /-- in an older one it has seen a `.reset` since, -/
  allow : l.epoch < c → l.allow = true
  /-- in the current one so is `m`, -/
  cur : l.epoch = c → m.epoch = c
  /-- and whenever both are in one epoch `l` holds batches of `m.chain` only. -/
  sub : m.epoch = l.epoch → ∀ p ∈ l.chain ++ l.ahead, p ∈ m.chain

def LInv (c : Int) (m : Mon) (l : LMon) : Prop := l.started = true → LRel c m l

/-- Writing a batch of the current epoch keeps `l` related (all there is to show when the batch is lost): `m'.chain` is
`m.chain`, or `m.chain` extended, or else `m` was in an older epoch, and then so is `l` (`LRel.cur`). -/
theorem lrel_step {c f n : Int} {m m' : Mon} {l : LMon} (hr : LRel c m l) (h : m.step (.batch c f n) = some m') :
    LRel c m' l := by
  obtain ⟨-, ⟨hs, rfl⟩ | ⟨-, -, -, rfl⟩ | ⟨-, -, -, -, rfl⟩⟩ := step_batch_eq_some.1 h
  · refine ⟨rfl, hr.le, hr.allow, fun _ => rfl, fun hc => ?_⟩
    rcases hs with hs | ⟨-, hne, -⟩
    · rw [hr.mstarted] at hs; cases hs
    · exact absurd (hr.cur hc.symm).symm hne
  · exact ⟨hr.mstarted, hr.le, hr.allow, hr.cur, fun he p hp => List.mem_cons_of_mem _ (hr.sub he p hp)⟩
  · exact hr

/-- The same batch arriving: `l` accepts it (`sameEpoch_ok` within `m'.chain`) and its successor is related to `m'`. -/
theorem linv_arrive {c f n : Int} {m m' : Mon} {l : LMon} (hl : LInv c m l) (h : m.step (.batch c f n) = some m')
    (hfun : ∀ p ∈ m'.chain, ∀ q ∈ m'.chain, p.1 = q.1 → p.2 = q.2) :
    ∃ l', l.step (.batch c f n) = some l' ∧ LInv c m' l' := by
  obtain ⟨hst', hep', hmem⟩ := step_batch_mem h
  obtain ⟨l₀, h0, he0, hheld⟩ := lstep_batch l c f n (step_batch_eq_some.1 h).1 fun hls hne => by
    have hle := (hl hls).le
    exact (hl hls).allow (by omega)
  obtain ⟨l', h1, h2, h3⟩ := sameEpoch_ok l₀ f n m'.chain (by
    rcases hheld with h0 | ⟨hls, hc, rfl⟩
    · rw [h0]; nofun
    · exact (lrel_step (hl hls) h).sub (hep'.trans hc.symm)) hmem hfun
  exact ⟨l', h0.trans h1, fun _ => ⟨hst', by omega, fun _ => by omega, fun _ => hep', fun _ => h3⟩⟩

theorem arrival_sound_inv {full sub : List Ev} (ht : Thin full sub) {c S : Int} {m mf : Mon} {l : LMon}
    (hst : Stamped c full) (hi : MInv m S) (hS : S + total full < 2147483648) (hl : LInv c m l)
    (h : m.run full = some mf) : ∃ lf c', l.run sub = some lf ∧ LInv c' mf lf := by
  induction ht generalizing c S m l with
  | nil =>
    cases h
    exact ⟨l, c, rfl, hl⟩
  | keep ev _ ih =>
    obtain ⟨m1, hs, hrun⟩ := monRun.cons_some h
    cases ev with
    | reset =>
      obtain ⟨c', hc', hst'⟩ := hst
      cases hs
      refine ih (m := { m with allow := true }) (l := { l with allow := true }) hst' ⟨hi.nonneg, hi.pos, hi.func⟩ hS
        ?_ hrun
      intro hls
      have hle := (hl hls).le
      exact ⟨(hl hls).mstarted, by show l.epoch ≤ c'; omega, fun _ => rfl, fun h => by (have : l.epoch = c' := h); omega,
        (hl hls).sub⟩
    | batch e f n =>
      obtain ⟨rfl, hst'⟩ := hst
      obtain ⟨S', hi', hS'⟩ := minv_step hi hS hs hrun
      obtain ⟨l', hl1, hl'⟩ := linv_arrive hl hs hi'.func
      simp only [LMon.run, hl1]
      exact ih hst' hi' hS' hl' hrun
  | drop e f n _ ih =>
    obtain ⟨m1, hs, hrun⟩ := monRun.cons_some h
    obtain ⟨rfl, hst'⟩ := hst
    obtain ⟨S', hi', hS'⟩ := minv_step hi hS hs hrun
    exact ih hst' hi' hS' (fun hls => lrel_step (hl hls) hs) hrun

theorem arrival_sound (start c : Int) (full sub : List Ev) (m : Mon)
    (hacc : Mon.run {} full = some m) (hthin : Thin full sub) (hst : Stamped c full)
    (hsum : total full < 2147483648) :
    ∃ l, (LMon.init start).run sub = some l ∧
      (l.started = true → l.epoch = m.epoch → ∀ p ∈ l.chain ++ l.ahead, p ∈ m.chain) := by
  obtain ⟨l, c', hl, hinv⟩ :=
    arrival_sound_inv hthin hst (minv_empty _ _ 0 0 (by omega)) (by omega) (l := LMon.init start) nofun hacc
  refine ⟨l, hl, ?_⟩
  intro hs he
  exact (hinv hs).sub he.symm

theorem arrival_never_refuses (e f n : Int) (es sub : List Ev) (m : Mon)
    (hacc : Mon.run {} (.batch e f n :: es) = some m) (hthin : Thin (.batch e f n :: es) sub)
    (hst : Stamped e (.batch e f n :: es)) (hsum : total (.batch e f n :: es) < 2147483648) :
    ((LMon.init f).run sub).isSome = true := by
  obtain ⟨l, hl, _⟩ := arrival_sound f e _ sub m hacc hthin hst hsum
  simp [hl]

theorem step_stamped (r : RecBuf) (o : Op) (rest : List Ev) (h : Stamped (r.step o).1.epoch rest) :
    Stamped r.epoch ((r.step o).2 ++ rest) := by
  revert h
  -- only a drain with a batch at hand (fourth case) and `.epochReset` (the last) write something
  fun_cases RecBuf.step r o <;> intro h
  case case4 => exact ⟨rfl, h⟩
  case case8 => exact ⟨_, Int.lt_succ _, h⟩
  all_goals exact h

theorem wire_stamped (ops : List Op) : ∀ r : RecBuf, Stamped r.epoch (r.wire ops) := by
  induction ops with
  | nil => intro r; simp [RecBuf.wire, Stamped]
  | cons o os ih =>
    intro r
    simp only [RecBuf.wire]
    exact step_stamped r o _ (ih _)

end Proof.C29Arrival
