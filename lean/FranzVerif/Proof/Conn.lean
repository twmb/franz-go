import FranzVerif.Model.Conn
import FranzVerif.Proof.C22Frame
import FranzVerif.Proof.Monitor
/-! The connection monitor (C22) decides what request `i` may be given by replaying the connection's byte stream against its
waiters in the order written (`simulate`; its step at the oldest waiter is `simulate_cons_deliver` or `simulate_cons_refused`).
`DeliversAll` states that replay as a relation; `simulate` says "deliver" for `i` only if every older waiter was delivered a
frame and `i`'s frame passes (`lookup_simulate_deliver`), and "behind" for every waiter after the first refused frame
(`lookup_simulate_behind`). -/
namespace Proof.Conn
open Model.Conn Model.C22Frame Proof.C22Frame

theorem isMonitor : Proof.Monitor.IsMonitor check apply step run :=
  ⟨⟨fun _ => rfl, fun s e es => by rw [run]; cases step s e <;> rfl⟩, fun s e => by rw [step]; cases check s e <;> rfl⟩

/-- ids of the outcome events (a response or an error returned by Broker.Request), in order -/
def outIds (h : List Ev) : List Nat :=
  h.filterMap (fun e => match e with | .ok i _ _ => some i | .err i _ _ => some i | _ => none)

def issueIds (h : List Ev) : List Nat :=
  h.filterMap (fun e => match e with | .issue i _ => some i | _ => none)

theorem outIds_append (a b : List Ev) : outIds (a ++ b) = outIds a ++ outIds b := List.filterMap_append

theorem issueIds_append (a b : List Ev) : issueIds (a ++ b) = issueIds a ++ issueIds b := List.filterMap_append

theorem mem_fifoOf {s : St} {c : Nat} {x : Waiter} : x ∈ fifoOf s c ↔ x ∈ s.waiters ∧ x.c = c := by
  simp [fifoOf]

/-- Read against the waiters `ws` in order, the stream `s` hands a body to every one of them (every frame passes the
size, length, correlation-id and tag checks for its waiter) and `r` is what is left. -/
inductive DeliversAll (mr : Nat) (cl : Bool) : List Waiter → Bytes → Bytes → Prop
  | nil (s : Bytes) : DeliversAll mr cl [] s s
  | cons (w : Waiter) (ws : List Waiter) (s r body : Bytes) :
      (parseFrame mr w.corr w.flex cl s).res = .deliver body →
      DeliversAll mr cl ws (parseFrame mr w.corr w.flex cl s).rest r → DeliversAll mr cl (w :: ws) s r

theorem lookup_map_behind (i : Nat) (ws : List Waiter) :
    lookup i (ws.map (fun x => (x.id, Expect.behind))) = if i ∈ ws.map (·.id) then .behind else .unwritten := by
  induction ws with
  | nil => rfl
  | cons w ws ih =>
    rw [List.map_cons, lookup, ih]
    by_cases h : w.id = i
    · simp [h]
    · simp [h, Ne.symm h]

/-- The head of the FIFO is handed a body: the replay goes on behind its frame. -/
theorem simulate_cons_deliver {mr : Nat} {cl : Bool} {w : Waiter} (ws : List Waiter) {stream b : Bytes}
    (h : (parseFrame mr w.corr w.flex cl stream).res = .deliver b) :
    simulate mr cl (w :: ws) stream = (w.id, .deliver b) :: simulate mr cl ws (parseFrame mr w.corr w.flex cl stream).rest := by
  simp only [simulate, h]

/-- The head of the FIFO is refused or its frame incomplete: everything behind it is `behind`. -/
theorem simulate_cons_refused {mr : Nat} {cl : Bool} {w : Waiter} (ws : List Waiter) {stream : Bytes}
    (h : ∀ b, (parseFrame mr w.corr w.flex cl stream).res ≠ .deliver b) :
    ∃ e, (∀ b, e ≠ .deliver b) ∧ simulate mr cl (w :: ws) stream = (w.id, e) :: ws.map (fun x => (x.id, .behind)) := by
  cases hres : (parseFrame mr w.corr w.flex cl stream).res with
  | deliver b => exact absurd hres (h b)
  | _ =>
    simp only [simulate, hres]
    refine ⟨_, ?_, rfl⟩
    nofun

theorem lookup_simulate_deliver {mr : Nat} {cl : Bool} (fifo : List Waiter) (stream : Bytes) {i : Nat} {body : Bytes}
    (h : lookup i (simulate mr cl fifo stream) = .deliver body) :
    ∃ before w after rest, fifo = before ++ w :: after ∧ w.id = i ∧ DeliversAll mr cl before stream rest ∧
      (parseFrame mr w.corr w.flex cl rest).res = .deliver body := by
  induction fifo generalizing stream with
  | nil => cases h
  | cons w ws ih =>
    by_cases hres : ∃ b0, (parseFrame mr w.corr w.flex cl stream).res = .deliver b0
    · obtain ⟨b0, hres⟩ := hres
      rw [simulate_cons_deliver ws hres, lookup] at h
      split at h
      · rename_i hid
        cases h
        exact ⟨[], w, ws, stream, rfl, by simpa using hid, .nil _, hres⟩
      · obtain ⟨before, w', after, rest, hf, hw, hd, hp⟩ := ih _ h
        exact ⟨w :: before, w', after, rest, by rw [hf]; rfl, hw, .cons _ _ _ _ _ hres hd, hp⟩
    · obtain ⟨e, he, hs⟩ := simulate_cons_refused ws fun b hb => hres ⟨b, hb⟩
      rw [hs, lookup, lookup_map_behind] at h
      split at h
      · exact absurd h (he body)
      · split at h <;> cases h

theorem lookup_simulate_behind {mr : Nat} {cl : Bool} {before : List Waiter} {w' : Waiter} {after : List Waiter} {stream rest : Bytes}
    (hd : DeliversAll mr cl before stream rest) (hfail : ∀ b, (parseFrame mr w'.corr w'.flex cl rest).res ≠ .deliver b)
    (hnd : ((before ++ w' :: after).map (·.id)).Nodup) {x : Waiter} (hx : x ∈ after) :
    lookup x.id (simulate mr cl (before ++ w' :: after) stream) = .behind := by
  induction hd with
  | nil s =>
    have hne : w'.id ≠ x.id := fun he => (List.nodup_cons.1 hnd).1 (List.mem_map.2 ⟨x, hx, he.symm⟩)
    obtain ⟨e, -, hs⟩ := simulate_cons_refused after hfail
    rw [List.nil_append, hs, lookup, if_neg (by simpa using hne), lookup_map_behind, if_pos (List.mem_map_of_mem hx)]
  | cons w ws s r body hres _ ih =>
    obtain ⟨hw, hnd⟩ := List.nodup_cons.1 hnd
    have hne : w.id ≠ x.id := fun he => hw (List.mem_map.2 ⟨x, List.mem_append_right _ (List.mem_cons_of_mem _ hx), he.symm⟩)
    rw [List.cons_append, simulate_cons_deliver _ hres, lookup, if_neg (by simpa using hne)]
    exact ih hfail hnd

end Proof.Conn
