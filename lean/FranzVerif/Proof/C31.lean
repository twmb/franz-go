import FranzVerif.Model.C31
/-! C31 — invariants of a `Sys` in counting form. An invariant that speaks of the threads only through sums `cnt f ths`
does not depend on where in the list a thread stands (`cnt_mid`), and a broadcast leaves `cnt f` alone when `f` does not
tell a woken thread from a waiting one (`Sys.cnt_wakeAll_eq`); so `Sys.inv_of_local` reduces an induction over `Reach`
to one step of the head thread, stated with `stepT` alone. The `Proof/C31*` files declare in the model's namespaces
(`Model.C31`, `Model.C31.Gate`, `.Mx`, `.Rw`; there is no `Proof.C31`): the generic lemmas are `Model.C31.Sys.*`, so that
`sys.inv_of_local`, `sys.step_decomp` … resolve by dot notation on a `sys : Sys σ τ`. -/
namespace Model.C31

theorem cnt_eq_sum {α : Type} (f : α → Nat) (l : List α) : cnt f l = (l.map f).sum := by
  induction l with
  | nil => rfl
  | cons a l ih => rw [cnt, ih, List.map_cons, List.sum_cons]

theorem cnt_append {α : Type} (f : α → Nat) (l₁ l₂ : List α) : cnt f (l₁ ++ l₂) = cnt f l₁ + cnt f l₂ := by
  simp only [cnt_eq_sum, List.map_append, List.sum_append]

theorem cnt_cons {α : Type} (f : α → Nat) (a : α) (l : List α) : cnt f (a :: l) = f a + cnt f l := rfl

theorem cnt_nil {α : Type} (f : α → Nat) : cnt f ([] : List α) = 0 := rfl

theorem cnt_mid {α : Type} (f : α → Nat) (pre : List α) (t : α) (post : List α) :
    cnt f (pre ++ t :: post) = cnt f (t :: (pre ++ post)) := by
  simp only [cnt_append, cnt_cons]; omega

theorem cnt_map {α β : Type} (f : α → Nat) (g : β → α) (l : List β) : cnt f (l.map g) = cnt (fun a => f (g a)) l := by
  rw [cnt_eq_sum, cnt_eq_sum, List.map_map]; rfl

theorem cnt_congr {α : Type} {f g : α → Nat} (h : ∀ a, f a = g a) (l : List α) : cnt f l = cnt g l := by
  rw [cnt_eq_sum, cnt_eq_sum, List.map_congr_left fun a _ => h a]

theorem cnt_map_eq_zero {α β : Type} {f : α → Nat} {g : β → α} {l : List β} (h : ∀ b ∈ l, f (g b) = 0) :
    cnt f (l.map g) = 0 := by
  induction l with
  | nil => rfl
  | cons b l ih => simp [cnt, h b, ih fun c hc => h c (List.mem_cons_of_mem b hc)]

theorem cnt_le {α : Type} {f g : α → Nat} (h : ∀ a, f a ≤ g a) (l : List α) : cnt f l ≤ cnt g l := by
  induction l with
  | nil => simp [cnt]
  | cons a l ih => simp only [cnt]; have := h a; omega

theorem cnt_add {α : Type} (f g : α → Nat) (l : List α) : cnt (fun a => f a + g a) l = cnt f l + cnt g l := by
  induction l with
  | nil => simp [cnt]
  | cons a l ih => simp only [cnt, ih]; omega

theorem cnt_pos {α : Type} {f : α → Nat} {l : List α} (h : 0 < cnt f l) : ∃ a ∈ l, 0 < f a := by
  rw [cnt_eq_sum] at h
  obtain ⟨x, hx, hp⟩ := List.sum_pos_iff_exists_pos_nat.1 h
  obtain ⟨a, ha, rfl⟩ := List.mem_map.1 hx
  exact ⟨a, ha, hp⟩

theorem le_cnt_of_mem {α : Type} {f : α → Nat} {l : List α} {a : α} (ha : a ∈ l) : f a ≤ cnt f l := by
  induction l with
  | nil => simp at ha
  | cons b l ih =>
    simp only [cnt]
    rcases List.mem_cons.mp ha with rfl | hm
    · omega
    · have := ih hm; omega

theorem cnt_pos_of_mem {α : Type} {f : α → Nat} {l : List α} {a : α} (ha : a ∈ l) (h : 0 < f a) : 0 < cnt f l :=
  Nat.lt_of_lt_of_le h (le_cnt_of_mem ha)

section
variable {σ τ : Type} (S : Sys σ τ)

theorem Sys.step_decomp {s s' : St σ τ} {i : Nat} {ev : String} (h : S.step s i = some (s', ev)) :
    ∃ pre t post sh' t' b, s.ths = pre ++ t :: post ∧ S.stepT s.sh t = some (sh', t', b, ev) ∧
      s' = ⟨sh', S.wakeAll b pre ++ t' :: S.wakeAll b post⟩ := by
  unfold Sys.step at h
  split at h
  · simp at h
  · rename_i t ht
    split at h
    · simp at h
    · rename_i sh' t' b ev' hst
      obtain ⟨hi, rfl⟩ := List.getElem?_eq_some_iff.1 ht
      simp only [Option.some.injEq, Prod.mk.injEq] at h
      obtain ⟨rfl, rfl⟩ := h
      refine ⟨s.ths.take i, s.ths[i], s.ths.drop (i + 1), sh', t', b, ?_, hst, ?_⟩
      · rw [List.getElem_cons_drop, List.take_append_drop]
      · cases b <;> simp [Sys.wakeAll, List.set_eq_take_append_cons_drop, hi, List.map_take, List.map_drop]

theorem Sys.cnt_wakeAll_eq {f : τ → Nat} (h : ∀ t, f (S.wake t) = f t) (b : Bool) (l : List τ) :
    cnt f (S.wakeAll b l) = cnt f l := by
  unfold Sys.wakeAll; split
  · rw [cnt_map]; exact cnt_congr h l
  · rfl

theorem Sys.wakeAll_false (l : List τ) : S.wakeAll false l = l := rfl

theorem Sys.wakeAll_append (b : Bool) (l₁ l₂ : List τ) :
    S.wakeAll b (l₁ ++ l₂) = S.wakeAll b l₁ ++ S.wakeAll b l₂ := by
  cases b <;> simp [Sys.wakeAll]

theorem Sys.inv_of_local {I : St σ τ → Prop} {s0 s : St σ τ} (h0 : I s0)
    (hmid : ∀ (sh : σ) (pre : List τ) (t : τ) (post : List τ), I ⟨sh, pre ++ t :: post⟩ ↔ I ⟨sh, t :: (pre ++ post)⟩)
    (hstep : ∀ (sh : σ) (t : τ) (r : List τ) (sh' : σ) (t' : τ) (b : Bool) (ev : String),
      I ⟨sh, t :: r⟩ → S.stepT sh t = some (sh', t', b, ev) → I ⟨sh', t' :: S.wakeAll b r⟩)
    (hr : S.Reach s0 s) : I s := by
  induction hr with
  | init => exact h0
  | @step s1 s2 ev i _ hs ih =>
    obtain ⟨pre, t, post, sh', t', b, h1, h3, rfl⟩ := S.step_decomp hs
    obtain ⟨sh, ths⟩ := s1
    subst h1
    rw [hmid, ← S.wakeAll_append]
    exact hstep _ _ _ _ _ _ _ ((hmid _ _ _ _).1 ih) h3

theorem Sys.reach_of_exec {s0 s : St σ τ} : ∀ (l : List Nat) (s1 : St σ τ), S.Reach s0 s1 → S.exec s1 l = some s → S.Reach s0 s
  | [], s1, h1, he => by simp [Sys.exec] at he; subst he; exact h1
  | i :: r, s1, h1, he => by
    simp only [Sys.exec] at he
    split at he
    · simp at he
    · rename_i s2 ev hs
      exact reach_of_exec r s2 (Sys.Reach.step i h1 hs) he

theorem Sys.step_at {s s' : St σ τ} {i : Nat} {ev : String} {t : τ} (h : S.step s i = some (s', ev))
    (ht : s.ths[i]? = some t) :
    ∃ sh' t' b, S.stepT s.sh t = some (sh', t', b, ev) ∧ s'.sh = sh' ∧ s'.ths[i]? = some t' := by
  unfold Sys.step at h
  rw [ht] at h
  simp only at h
  split at h
  · simp at h
  · rename_i sh' t' b ev' hst
    simp only [Option.some.injEq, Prod.mk.injEq] at h
    obtain ⟨rfl, rfl⟩ := h
    refine ⟨sh', t', b, hst, rfl, ?_⟩
    have hlen : i < s.ths.length := by
      rcases Nat.lt_or_ge i s.ths.length with h | h
      · exact h
      · rw [List.getElem?_eq_none h] at ht; simp at ht
    have : i < (S.wakeAll b s.ths).length := by unfold Sys.wakeAll; split <;> simp [hlen]
    simp [this]

theorem Sys.step_of_mem {s : St σ τ} {t : τ} (hm : t ∈ s.ths) (he : (S.stepT s.sh t).isSome) :
    ∃ i, (S.step s i).isSome := by
  obtain ⟨i, hi, rfl⟩ := List.getElem_of_mem hm
  refine ⟨i, ?_⟩
  unfold Sys.step
  rw [List.getElem?_eq_getElem hi]
  simp only
  match hst : S.stepT s.sh s.ths[i] with
  | none => simp [hst] at he
  | some (sh', t', b, ev) => simp
end

end Model.C31
