import FranzVerif.Gen.C29
import FranzVerif.Proof.C29Mon
/-! C29 — the invariant `Inv` that ties the client model `RecBuf` to the write-order monitor `Mon`: the first `sentHi`
pending batches are in the monitor's chain, the `i`-th under the first sequence `firstOf batch0Seq batches i`, and with fewer
than 2^31 pending records these are pairwise different (`firstOf_ne`). So a re-send after a rewind repeats a pair of the
chain and is not mistaken for the frontier, and a batch never sent sits at the frontier (`inv_drain`). -/
namespace Proof.C29C
open Model.C29C

theorem toInt_of_lt (x : BitVec 32) (h : x.toNat < 2147483648) : x.toInt = (x.toNat : Int) :=
  BitVec.toInt_eq_toNat_of_lt (by omega)

/-- `incrementSequence s n = (s+n) mod 2^31` for `0 ≤ s < 2^31`, `1 ≤ n < 2^31` (regenerated function): the test reads
`2^31 - 1 - n < s`; when it holds `n - (2^31 - 1 - s) - 1` does not borrow, otherwise `s + n` does not carry. -/
theorem incSeq_toNat (s n : BitVec 32) (hs : s.toNat < 2147483648) (hn1 : 1 ≤ n.toNat) (hn : n.toNat < 2147483648) :
    (Gen.C29.incrementSequence s n).toNat = (s.toNat + n.toNat) % 2147483648 := by
  have hsub : ∀ x : BitVec 32, x.toNat < 2147483648 → (2147483647#32 - x).toNat = 2147483647 - x.toNat :=
    fun x hx => by rw [BitVec.toNat_sub]; simp; omega
  have hslt : BitVec.slt (2147483647#32 - n) s = decide (2147483647 - n.toNat < s.toNat) := by
    rw [BitVec.slt, toInt_of_lt s hs, toInt_of_lt _ (by rw [hsub n hn]; omega), hsub n hn]
    simp only [Int.ofNat_lt]
  rw [Gen.C29.incrementSequence, hslt]
  by_cases h : 2147483647 - n.toNat < s.toNat
  · rw [decide_eq_true h, if_pos rfl, BitVec.toNat_sub, BitVec.toNat_sub, hsub s hs]; simp; omega
  · rw [decide_eq_false h, if_neg Bool.false_ne_true, BitVec.toNat_add]; omega

-- from here on the function is opaque to the unifier (it would otherwise unfold 32-bit arithmetic on literals)
attribute [local irreducible] Gen.C29.incrementSequence

/-! The six write sites of the Go source: each is `rfl` against the regenerated text of `Gen.C29S`, so a site that stops
being `incrementSequence(field, n)` / a copy / the reset to 0 breaks here. -/

theorem site_drain (b s n : BitVec 32) : Gen.C29S.createReq_seq b s n = Gen.C29.incrementSequence s n := rfl
theorem site_finish (b s n : BitVec 32) : Gen.C29S.finishBatch_batch0Seq b s n = Gen.C29.incrementSequence b n := rfl
theorem site_rewind (b s n : BitVec 32) : Gen.C29S.resetBatchDrainIdx_seq b s n = b := rfl
theorem site_reset_seq (b s n : BitVec 32) : Gen.C29S.tryAddBatch_seq b s n = 0#32 := rfl
theorem site_reset_b0 (b s n : BitVec 32) : Gen.C29S.tryAddBatch_batch0Seq b s n = 0#32 := rfl
theorem site_wire (b s n : BitVec 32) : Gen.C29S.addBatch_seqRecBatch_seq b s n = s := rfl

theorem sumN_nil : sumN [] = 0 := rfl
theorem sumN_cons (a : BitVec 32) (l : List (BitVec 32)) : sumN (a :: l) = a.toNat + sumN l := by
  simp [sumN]
theorem sumN_append (a b : List (BitVec 32)) : sumN (a ++ b) = sumN a + sumN b := by
  simp [sumN]

theorem sumN_take_le (l : List (BitVec 32)) (i : Nat) : sumN (l.take i) ≤ sumN l := by
  have := sumN_append (l.take i) (l.drop i)
  rw [List.take_append_drop] at this; omega

theorem sumN_take_succ {l : List (BitVec 32)} {i : Nat} {n : BitVec 32} (h : l[i]? = some n) :
    sumN (l.take (i + 1)) = sumN (l.take i) + n.toNat := by
  rw [List.take_add_one, h, sumN_append]; rfl

theorem sumN_take_lt (l : List (BitVec 32)) (hpos : ∀ n ∈ l, 1 ≤ n.toNat) (i j : Nat) (hij : i < j) (hj : j ≤ l.length) :
    sumN (l.take i) < sumN (l.take j) := by
  induction j with
  | zero => omega
  | succ j ih =>
    have := hpos l[j] (List.getElem_mem _)
    rw [sumN_take_succ (List.getElem?_eq_getElem (l := l) (i := j) (by omega))]
    by_cases h : i = j
    · rw [h]; omega
    · have := ih (by omega) (by omega); omega

/-- The first sequence of the `i`-th pending batch when the first pending batch starts at `b`:
`(b + records of the batches before it) mod 2^31`. -/
def firstOf (b : Nat) (l : List (BitVec 32)) (i : Nat) : Nat := (b + sumN (l.take i)) % 2147483648

theorem firstOf_zero {b : Nat} (l : List (BitVec 32)) (hb : b < 2147483648) : firstOf b l 0 = b := by
  simp [firstOf, sumN]; omega

theorem firstOf_lt (b : Nat) (l : List (BitVec 32)) (i : Nat) : firstOf b l i < 2147483648 := by
  unfold firstOf; omega

theorem firstOf_append (b : Nat) {l : List (BitVec 32)} (t : List (BitVec 32)) {i : Nat} (hi : i ≤ l.length) :
    firstOf b (l ++ t) i = firstOf b l i := by
  unfold firstOf; rw [List.take_append_of_le_length hi]

theorem firstOf_succ (b : Nat) {l : List (BitVec 32)} {i : Nat} {n : BitVec 32} (h : l[i]? = some n) :
    firstOf b l (i + 1) = (firstOf b l i + n.toNat) % 2147483648 := by
  unfold firstOf; rw [sumN_take_succ h, Nat.mod_add_mod, Nat.add_assoc]

theorem firstOf_tail (b : Nat) (a : BitVec 32) (t : List (BitVec 32)) (i : Nat) :
    firstOf ((b + a.toNat) % 2147483648) t i = firstOf b (a :: t) (i + 1) := by
  unfold firstOf; rw [List.take_succ_cons, sumN_cons, Nat.mod_add_mod, Nat.add_assoc]

theorem firstOf_ne (b : Nat) {l : List (BitVec 32)} (hpos : ∀ n ∈ l, 1 ≤ n.toNat) (htot : sumN l < 2147483648)
    {i j : Nat} (hij : i < j) (hj : j ≤ l.length) : firstOf b l i ≠ firstOf b l j := by
  have h1 := sumN_take_lt l hpos i j hij hj
  have h2 := sumN_take_le l j
  unfold firstOf; omega

theorem next_cast (a b : Nat) : next (a : Int) (b : Int) = (((a + b) % 2147483648 : Nat) : Int) := by
  simp only [next, seqMod, Int.natCast_emod, Int.natCast_add]; rfl

variable {b s : BitVec 32} {l : List (BitVec 32)} {d k : Nat} {ep : Int} {m : Mon}

/-- The first `k` pending batches (first one at `b`) are in the monitor's chain, each under its first sequence, and the
monitor's frontier is the first sequence of the next one. -/
def Sent (b : Nat) (l : List (BitVec 32)) (k : Nat) (m : Mon) : Prop :=
  m.nextSeq = (firstOf b l k : Int) ∧
  ∀ i n, i < k → l[i]? = some n → ((firstOf b l i : Int), (n.toNat : Int)) ∈ m.chain

theorem sent_append {b : Nat} {t : List (BitVec 32)} (hk : k ≤ l.length) (h : Sent b l k m) : Sent b (l ++ t) k m :=
  ⟨by rw [firstOf_append _ _ hk]; exact h.1, fun i n hi hn => by
    rw [List.getElem?_append_left (by omega)] at hn
    rw [firstOf_append _ _ (by omega)]; exact h.2 i n hi hn⟩

theorem sent_tail {b : Nat} {a : BitVec 32} {t : List (BitVec 32)} (hk : 0 < k) (h : Sent b (a :: t) k m) :
    Sent ((b + a.toNat) % 2147483648) t (k - 1) m :=
  ⟨by rw [firstOf_tail, Nat.sub_add_cancel hk]; exact h.1, fun i n hi hn => by
    rw [firstOf_tail]; exact h.2 (i + 1) n (by omega) hn⟩

/-- The batch at index `k` goes in front of a chain `c` that holds the `k` batches before it. -/
theorem sent_snoc {b : Nat} {n : BitVec 32} {c : List (Int × Int)} (hn : l[k]? = some n)
    (hnx : m.nextSeq = next (firstOf b l k) n.toNat) (hch : m.chain = ((firstOf b l k : Int), (n.toNat : Int)) :: c)
    (hc : ∀ i x, i < k → l[i]? = some x → ((firstOf b l i : Int), (x.toNat : Int)) ∈ c) : Sent b l (k + 1) m :=
  ⟨by rw [hnx, firstOf_succ _ hn]; exact next_cast _ _, fun i x hi hx => by
    rw [hch]
    by_cases hik : i = k
    · rw [hik, hn] at hx; cases hx; rw [hik]; exact List.mem_cons_self
    · exact List.mem_cons_of_mem _ (hc i x (by omega) hx)⟩

/-- The client (first pending sequence `b`, sequence `s`, pending batches `l`, drain index `d`, `k` batches sent under
epoch `ep`) against the monitor. `b` and `s` are the values the next drain works with: 0 while `needSeqReset` is pending
(`RInv`). Either the monitor is in the client's epoch, the `k` sent batches are in its chain and its frontier is the first
sequence of the next one; or nothing has been sent and the next batch opens a chain: the monitor has not started, or it
is in an older epoch, has seen the `.reset`, and the client restarts at 0. -/
structure Inv (b s : BitVec 32) (l : List (BitVec 32)) (d k : Nat) (ep : Int) (m : Mon) : Prop where
  b0 : b.toNat < 2147483648
  ns : ∀ n ∈ l, 1 ≤ n.toNat
  tot : sumN l < 2147483648
  idx : d ≤ k
  hi : k ≤ l.length
  seqv : s.toNat = firstOf b.toNat l d
  link : m.started = true ∧ m.epoch = ep ∧ Sent b.toNat l k m ∨
    k = 0 ∧ (m.started = false ∨ m.started = true ∧ m.epoch < ep ∧ m.allow = true ∧ b.toNat = 0)

theorem inv_buffer (h : Inv b s l d k ep m) {n : BitVec 32} (h1 : 1 ≤ n.toNat)
    (h2 : sumN l + n.toNat < 2147483648) : Inv b s (l ++ [n]) d k ep m := by
  have hd := h.idx
  have hk := h.hi
  refine { h with ns := ?_, tot := ?_, hi := ?_, seqv := ?_, link := ?_ }
  · intro x hx
    rcases List.mem_append.1 hx with hx | hx
    · exact h.ns x hx
    · rw [List.mem_singleton.1 hx]; exact h1
  · rw [sumN_append, sumN_cons, sumN_nil]; omega
  · rw [List.length_append]; omega
  · rw [firstOf_append _ _ (by omega)]; exact h.seqv
  · exact h.link.imp_left fun ⟨hs, he, hc⟩ => ⟨hs, he, sent_append hk hc⟩

theorem inv_rewind (h : Inv b s l d k ep m) : Inv b b l 0 k ep m :=
  { h with idx := Nat.zero_le _, seqv := (firstOf_zero _ h.b0).symm }

theorem inv_epochReset (h : Inv b s l d k ep m) : Inv 0#32 0#32 l 0 0 (ep + 1) { m with allow := true } := by
  refine { h with b0 := by decide, idx := Nat.le_refl _, hi := Nat.zero_le _,
                  seqv := (firstOf_zero _ (by decide)).symm, link := .inr ⟨rfl, ?_⟩ }
  cases hs : m.started with
  | false => exact .inl rfl
  | true =>
    -- the monitor's epoch is the client's or an older one
    refine .inr ⟨rfl, ?_, rfl, rfl⟩
    show m.epoch < ep + 1
    rcases h.link with ⟨-, he, -⟩ | ⟨-, hf | ⟨-, he, -⟩⟩
    · omega
    · rw [hs] at hf; cases hf
    · omega

theorem inv_finish {a : BitVec 32} {t : List (BitVec 32)} {j : Nat} (h : Inv b s (a :: t) (j + 1) k ep m) :
    Inv (Gen.C29.incrementSequence b a) s t j (k - 1) ep m := by
  have hd := h.idx
  have hk := h.hi
  have htot := h.tot
  rw [List.length_cons] at hk
  rw [sumN_cons] at htot
  have hinc := incSeq_toNat b a h.b0 (h.ns a List.mem_cons_self) (by omega)
  obtain ⟨hs, he, hc⟩ := h.link.resolve_right fun h0 => by omega
  refine ⟨by omega, fun x hx => h.ns x (List.mem_cons_of_mem _ hx), by omega, by omega, by omega, ?_, .inl ⟨hs, he, ?_⟩⟩
  · rw [hinc, firstOf_tail]; exact h.seqv
  · rw [hinc]; exact sent_tail (by omega) hc

theorem inv_drain {n : BitVec 32} (h : Inv b s l d k ep m) (hn : l[d]? = some n) :
    ∃ m', m.step (.batch ep s.toInt n.toInt) = some m' ∧
      Inv b (Gen.C29.incrementSequence s n) l (d + 1) (max k (d + 1)) ep m' := by
  obtain ⟨hb, hns, htot, hd, hk, hs, hm⟩ := h
  have hdl : d < l.length := (List.getElem?_eq_some_iff.1 hn).1
  have hn1 : 1 ≤ n.toNat := hns n (List.mem_of_getElem? hn)
  have hnM : n.toNat < 2147483648 := by
    have := sumN_take_succ hn
    have := sumN_take_le l (d + 1); omega
  have hsM : s.toNat < 2147483648 := by rw [hs]; exact firstOf_lt _ _ _
  rw [toInt_of_lt s hsM, toInt_of_lt n hnM, hs]
  have hr : 0 ≤ (firstOf b.toNat l d : Int) ∧ (firstOf b.toNat l d : Int) < 2147483648 ∧
      1 ≤ (n.toNat : Int) ∧ (n.toNat : Int) < 2147483648 := by
    rw [← hs]; exact ⟨by omega, by omega, by omega, by omega⟩
  -- a monitor in the client's epoch that has the batches sent so far
  have post : ∀ m' : Mon, m'.started = true → m'.epoch = ep → Sent b.toNat l (max k (d + 1)) m' →
      Inv b (Gen.C29.incrementSequence s n) l (d + 1) (max k (d + 1)) ep m' := fun m' h1 h2 h3 =>
    ⟨hb, hns, htot, by omega, by omega, by rw [incSeq_toNat s n hsM hn1 hnM, firstOf_succ _ hn, hs], .inl ⟨h1, h2, h3⟩⟩
  by_cases hlt : d < k
  · -- a re-send after a rewind: it repeats its original (first, n) pair
    obtain ⟨hst, he, hnx, hmem⟩ := hm.resolve_right fun h => by omega
    refine ⟨m, step_batch_eq_some.2 ⟨hr, .inr (.inr ⟨hst, he.symm, ?_, ?_, rfl⟩)⟩,
      post m hst he (by rw [Nat.max_eq_left hlt]; exact ⟨hnx, hmem⟩)⟩
    · rw [hnx]
      exact fun hc => firstOf_ne _ hns htot hlt hk (by exact_mod_cast hc)
    · exact hmem d n hlt hn
  · -- a batch that was never sent goes in front of the chain that holds the batches before it
    obtain rfl : d = k := by omega
    rw [Nat.max_eq_right (Nat.le_succ d)] at post ⊢
    rcases hm with ⟨hst, he, hnx, hmem⟩ | ⟨hd0, hopen⟩
    · exact ⟨_, step_batch_eq_some.2 ⟨hr, .inr (.inl ⟨hst, he.symm, hnx.symm, rfl⟩)⟩,
        post _ hst he (sent_snoc hn rfl rfl hmem)⟩
    · refine ⟨_, step_batch_eq_some.2
          ⟨hr, .inl ⟨hopen.imp_right fun ⟨h1, h2, h3, h4⟩ => ⟨h1, Int.ne_of_gt h2, h3, ?_⟩, rfl⟩⟩,
        post _ rfl rfl (sent_snoc hn rfl rfl fun i x hi => by omega)⟩
      rw [hd0, firstOf_zero _ hb, h4]; rfl

/-- While `needSeqReset` is pending the next drain works with 0 for both sequences, and nothing has been sent. -/
def RInv (r : RecBuf) (m : Mon) : Prop :=
  Inv (if r.needSeqReset then 0#32 else r.batch0Seq) (if r.needSeqReset then 0#32 else r.seq) r.batches r.drainIdx
    r.sentHi r.epoch m ∧ (r.needSeqReset = true → r.sentHi = 0)

theorem inv_init (s : BitVec 32) (hs : s.toNat < 2147483648) : RInv (RecBuf.init s) {} :=
  ⟨⟨hs, nofun, (by decide : sumN [] < 2147483648), Nat.le_refl _, Nat.le_refl _, (firstOf_zero _ hs).symm,
    .inr ⟨rfl, .inl rfl⟩⟩, nofun⟩

/-- `h0`: the invariant only allows a pending `needSeqReset` at index 0. -/
theorem step_drain_some (r : RecBuf) (n : BitVec 32) (h : r.batches[r.drainIdx]? = some n)
    (h0 : r.needSeqReset = true → r.drainIdx = 0) :
    r.step .drain =
      ({ r with seq := Gen.C29.incrementSequence (if r.needSeqReset then 0#32 else r.seq) n,
                batch0Seq := if r.needSeqReset then 0#32 else r.batch0Seq,
                drainIdx := r.drainIdx + 1, needSeqReset := false, sentHi := max r.sentHi (r.drainIdx + 1) },
       [.batch r.epoch (if r.needSeqReset then 0#32 else r.seq).toInt n.toInt]) := by
  cases hr : r.needSeqReset with
  | false => simp [RecBuf.step, h, hr, site_drain, site_wire]
  | true =>
    have hd := h0 hr
    rw [hd] at h
    simp [RecBuf.step, h, hr, hd, site_drain, site_wire, site_reset_seq, site_reset_b0]

theorem inv_step (r : RecBuf) (m : Mon) (h : RInv r m) (o : Op) :
    ∃ m', m.run (r.step o).2 = some m' ∧ RInv (r.step o).1 m' := by
  obtain ⟨h, hq⟩ := h
  cases o with
  | buffer n =>
    by_cases hc : 1 ≤ n.toNat ∧ sumN r.batches + n.toNat < 2147483648
    · rw [RecBuf.step, if_pos hc]; exact ⟨m, rfl, inv_buffer h hc.1 hc.2, hq⟩
    · rw [RecBuf.step, if_neg hc]; exact ⟨m, rfl, h, hq⟩
  | drain =>
    cases hn : r.batches[r.drainIdx]? with
    | none => simp only [RecBuf.step, hn]; exact ⟨m, rfl, h, hq⟩
    | some n =>
      obtain ⟨m', h1, h2⟩ := inv_drain h hn
      rw [step_drain_some r n hn fun hq' => Nat.le_zero.1 (hq hq' ▸ h.idx)]
      exact ⟨m', by rw [monRun.cons, h1]; rfl, h2, nofun⟩
  | finish =>
    cases hl : r.batches with
    | nil => rw [RecBuf.step, hl]; exact ⟨m, rfl, h, hq⟩
    | cons a t =>
      cases hd : r.drainIdx with
      | zero => rw [RecBuf.step, hl, hd]; exact ⟨m, rfl, h, hq⟩
      | succ j =>
        rw [hl, hd] at h
        -- something has been sent, so no reset is pending
        have hf : r.needSeqReset = false := Bool.eq_false_iff.2 fun hr => by have := hq hr; have := h.idx; omega
        rw [hf] at h
        rw [RecBuf.step, hl, hd]
        exact ⟨m, rfl, by dsimp only; rw [hf]; exact inv_finish h, fun h => absurd (hf.symm.trans h) nofun⟩
  | rewind => exact ⟨m, rfl, inv_rewind h, hq⟩
  | epochReset => exact ⟨_, rfl, inv_epochReset h, fun _ => rfl⟩

theorem inv_wire (ops : List Op) (r : RecBuf) (m : Mon) (h : RInv r m) : (m.run (r.wire ops)).isSome = true := by
  induction ops generalizing r m with
  | nil => rfl
  | cons o os ih =>
    obtain ⟨m', h1, h2⟩ := inv_step r m h o
    rw [RecBuf.wire, monRun.append, h1]
    exact ih _ _ h2

end Proof.C29C
