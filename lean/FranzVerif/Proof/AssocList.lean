import FranzVerif.Proof.ListFacts
/-! Go maps as insertion-ordered association lists: first-match lookup `look`, and the write `m[k] = f(m[k])` (`alter`)
that updates the binding in place or appends a new one. The models of kadm's lag map (C35) and of `Fetches.EachTopic`
(C38) have their own copies of these two functions; each states the agreement once and uses the laws below.
A write changes the key list by `if k ∈ l then l else l ++ [k]` (`keys_alter`); `mem_snocNew`/`nodup_snocNew` are about that
expression on any list (any `Decidable (a ∈ l)` instance), and C35 uses them for its list of topic keys
(`Model.C35.prime`) as well, which is not an association list. -/
namespace Proof.AssocList
variable {κ α : Type} [DecidableEq κ]

def look (k : κ) : List (κ × α) → Option α
  | [] => none
  | (k', v) :: m => if k' = k then some v else look k m

def alter (k : κ) (f : Option α → α) : List (κ × α) → List (κ × α)
  | [] => [(k, f none)]
  | (k', v) :: m => if k' = k then (k, f (some v)) :: m else (k', v) :: alter k f m

theorem look_alter (k k' : κ) (f : Option α → α) (m : List (κ × α)) :
    look k' (alter k f m) = if k' = k then some (f (look k m)) else look k' m := by
  -- the cases of `alter` (here and below): the empty list, the key at the head, the key further on
  fun_induction alter k f m with
  | case1 => simp only [look, eq_comm]
  | case2 v m =>
    by_cases h : k' = k
    · simp [look, h]
    · simp [look, h, Ne.symm h]
  | case3 k0 v m hk ih =>
    by_cases h : k0 = k'
    · subst h; simp [look, hk]
    · simp [look, hk, h, ih]

theorem mem_of_look (k : κ) (v : α) (m : List (κ × α)) (h : look k m = some v) : (k, v) ∈ m := by
  fun_induction look k m with
  | case1 => cases h
  | case2 v0 m => cases h; exact List.mem_cons_self
  | case3 k0 v0 m hk ih => exact List.mem_cons_of_mem _ (ih h)

theorem look_isSome (k : κ) (m : List (κ × α)) : (look k m).isSome = true ↔ k ∈ m.map (·.1) := by
  induction m with
  | nil => simp [look]
  | cons x m ih =>
    by_cases h : x.1 = k
    · simp [look, h]
    · simp [look, h, ih, Ne.symm h]

theorem mem_alter (k : κ) (f : Option α → α) (m : List (κ × α)) (x : κ × α) (h : x ∈ alter k f m) :
    x = (k, f (look k m)) ∨ x ∈ m := by
  fun_induction alter k f m with
  | case1 => simpa [look] using h
  | case2 v m =>
    simp only [look, if_true, List.mem_cons] at h ⊢
    exact h.imp_right Or.inr
  | case3 k0 v m hk ih =>
    simp only [look, hk, if_false, List.mem_cons] at h ⊢
    rcases h with h | h
    · exact Or.inr (Or.inl h)
    · exact (ih h).imp_right Or.inr

theorem mem_snocNew (a b : α) (l : List α) [Decidable (a ∈ l)] :
    b ∈ (if a ∈ l then l else l ++ [a]) ↔ b = a ∨ b ∈ l := by
  split
  · next h => exact ⟨Or.inr, fun hb => hb.elim (fun e => e ▸ h) id⟩
  · simp [or_comm]

theorem nodup_snocNew (a : α) (l : List α) [Decidable (a ∈ l)] (h : l.Nodup) :
    (if a ∈ l then l else l ++ [a]).Nodup := by
  split
  · exact h
  · next hn => exact List.nodup_snoc.2 ⟨hn, h⟩

theorem keys_alter (k : κ) (f : Option α → α) (m : List (κ × α)) :
    (alter k f m).map (·.1) = if k ∈ m.map (·.1) then m.map (·.1) else m.map (·.1) ++ [k] := by
  fun_induction alter k f m with
  | case1 => rfl
  | case2 v m => simp
  | case3 k0 v m hk ih =>
    simp only [List.map_cons, ih, List.mem_cons, Ne.symm hk, false_or]
    split <;> rfl

theorem mem_keys_alter (k k' : κ) (f : Option α → α) (m : List (κ × α)) :
    k' ∈ (alter k f m).map (·.1) ↔ k' = k ∨ k' ∈ m.map (·.1) := by
  rw [keys_alter, mem_snocNew]

theorem nodup_keys_alter (k : κ) (f : Option α → α) (m : List (κ × α)) (h : (m.map (·.1)).Nodup) :
    ((alter k f m).map (·.1)).Nodup :=
  keys_alter k f m ▸ nodup_snocNew k _ h

end Proof.AssocList
