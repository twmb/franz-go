import FranzVerif.Model.C29
/-! C29 — kfake's window of the last five accepted batches: the retry scan, and the circular buffer read by age. -/
namespace Proof.C29W
open Model.C29

theorem same_epoch_of {s : Win} {epoch : Int} (h : ¬(!s.seen || epoch != s.epoch) = true) :
    s.seen = true ∧ epoch = s.epoch := by
  cases hs : s.seen <;> simp_all

theorem findDup_eq_some {es : List Entry} {c : Nat} {first nxt off : Int} (h : findDup es c first nxt = some off) :
    ∃ e ∈ es.take c, e.first = first ∧ e.nxt = nxt ∧ e.offset = off := by
  obtain ⟨e, he, ho⟩ := Option.map_eq_some_iff.1 h
  have hp := List.find?_some he
  simp only [Bool.and_eq_true, beq_iff_eq] at hp
  exact ⟨e, List.mem_of_find?_eq_some he, hp.1, hp.2, ho⟩

theorem findDup_eq_none {es : List Entry} {c : Nat} {first nxt : Int} (h : findDup es c first nxt = none) :
    ∀ e ∈ es.take c, ¬ (e.first = first ∧ e.nxt = nxt) := by
  simpa [findDup] using h

/-- `nx` is the code's `(first + n) % K`. -/
theorem push_same_epoch {K : Int} {s : Win} {epoch first n nx : Int} (base : Int) (hseen : s.seen = true)
    (he : epoch = s.epoch) (hnx : goNext K first n = nx) :
    push K s epoch first n base =
      match findDup s.entries s.count first nx with
      | some off => (s, .dup off)
      | none =>
        if first ≠ s.nextSeq then (s, .reject)
        else ({ s with nextSeq := nx, entries := s.entries.set s.at_ ⟨first, nx, base⟩,
                       at_ := (s.at_ + 1) % 5, count := if s.count < 5 then s.count + 1 else s.count }, .accept) := by
  simp only [push, hseen, he, hnx, Bool.not_true, bne_self_eq_false, Bool.or_self, Bool.false_eq_true, if_false,
    bne_iff_ne, ne_eq, ite_not]
  cases findDup s.entries s.count first nx <;> rfl

/-- A batch recorded in the window under its `(first, next)` pair is answered `dup` with the offset of such a batch. -/
theorem push_dup_complete {K : Int} {s : Win} {epoch first n nx : Int} (base : Int) (hseen : s.seen = true)
    (he : epoch = s.epoch) (hnx : goNext K first n = nx)
    (hrec : ∃ e ∈ s.entries.take s.count, e.first = first ∧ e.nxt = nx) :
    ∃ off, (push K s epoch first n base).2 = .dup off ∧
      ∃ e ∈ s.entries.take s.count, e.first = first ∧ e.nxt = nx ∧ e.offset = off := by
  obtain ⟨e, hm, h12⟩ := hrec
  cases hd : findDup s.entries s.count first nx with
  | none => exact absurd h12 (findDup_eq_none hd e hm)
  | some o => exact ⟨o, by rw [push_same_epoch base hseen he hnx, hd], findDup_eq_some hd⟩

/-- `i ↦ (at_ + 4 - i) % 5` reads the ring backwards from the write position. -/
theorem age_slot {a c i : Nat} (ha : a < 5) (hc : c ≤ 5) (hac : c < 5 → a = c) (hi : i < c) :
    (a + 5 - 1 - i) % 5 < c ∧ (a + 5 - 1 - (a + 5 - 1 - i) % 5) % 5 = i := by omega

theorem recent_mem (s : Win) (h : WF s) (x : Entry) : x ∈ recent s ↔ x ∈ s.entries.take s.count := by
  obtain ⟨h5, hat, hc, hac, _⟩ := h
  simp only [recent, List.mem_map, List.mem_range, List.mem_take_iff_getElem, h5, Nat.min_eq_left hc]
  constructor
  · rintro ⟨j, hj, rfl⟩
    refine ⟨_, (age_slot hat hc hac hj).1, ?_⟩
    rw [List.getD_eq_getElem?_getD, List.getElem?_eq_getElem (by omega)]; rfl
  · rintro ⟨i, hi, rfl⟩
    obtain ⟨h1, h2⟩ := age_slot hat hc hac hi
    refine ⟨_, h1, ?_⟩
    rw [h2, List.getD_eq_getElem?_getD, List.getElem?_eq_getElem (by omega)]; rfl

theorem recent_eq_take (s : Win) (h : s.count ≤ 5) : recent s = (recent { s with count := 5 }).take s.count := by
  simp only [recent, ← List.map_take, List.take_range, Nat.min_eq_left h]

theorem recent_full_set (s : Win) (h5 : s.entries.length = 5) (hk : s.at_ < 5) (nx : Int) (x : Entry) :
    recent { s with nextSeq := nx, entries := s.entries.set s.at_ x, at_ := (s.at_ + 1) % 5, count := 5 } =
      x :: (recent { s with count := 5 }).take 4 := by
  obtain ⟨sn, ep, ns, es, k, c⟩ := s
  dsimp only at h5 hk ⊢
  match es, h5 with
  | [a, b, c, d, e], _ =>
    have : k = 0 ∨ k = 1 ∨ k = 2 ∨ k = 3 ∨ k = 4 := by omega
    rcases this with rfl | rfl | rfl | rfl | rfl <;> dsimp only [recent, Nat.reduceAdd, Nat.reduceMod] <;> rfl

theorem wf_accept (s : Win) (h : WF s) (nx : Int) (x : Entry) :
    WF { s with nextSeq := nx, entries := s.entries.set s.at_ x, at_ := (s.at_ + 1) % 5,
                count := if s.count < 5 then s.count + 1 else s.count } := by
  obtain ⟨h5, hat, hcc, hac, hsc⟩ := h
  refine ⟨by rw [List.length_set]; exact h5, Nat.mod_lt _ (by decide), ?_, ?_, ?_⟩ <;> dsimp only <;> split <;> omega

theorem recent_accept (s : Win) (h : WF s) (nx : Int) (x : Entry) :
    recent { s with nextSeq := nx, entries := s.entries.set s.at_ x, at_ := (s.at_ + 1) % 5,
                    count := if s.count < 5 then s.count + 1 else s.count } = x :: (recent s).take 4 := by
  obtain ⟨h5, hat, hc, -, -⟩ := h
  have hc' : (if s.count < 5 then s.count + 1 else s.count) = min s.count 4 + 1 := by split <;> omega
  rw [recent_eq_take s hc, recent_eq_take _ (by dsimp only; omega), hc', recent_full_set s h5 hat, List.take_succ_cons,
    List.take_take, List.take_take]
  congr 2; omega

end Proof.C29W
