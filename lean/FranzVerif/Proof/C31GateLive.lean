import FranzVerif.Proof.C31Gate
/-! C31 — the gate under the client contract (`Contract`): the invariant `DInv` behind deadlock freedom (`deadlock_free`). A state in which
every unfinished thread is parked un-notified has `pollers > 0` (`GNum.pw`, `GNum.rw`); `DInv` then supplies a thread that
is not parked: one with an `AllowRebalance` ahead (`witness`) or one inside its fill (`qcov`). -/
namespace Model.C31.Gate

def hasA (p : List Op) : Bool := p.any (· == .A)

/-- A polling thread's program: only `P`, `Q`, `A`, and every `P` is followed later by an `A`. -/
def okP : List Op → Bool
  | [] => true
  | .P :: r => hasA r && okP r
  | .R :: _ => false
  | _ :: r => okP r

/-- A rebalancing thread's program: only `R`. -/
def allR (p : List Op) : Bool := p.all (· == .R)

/-- The client contract: every thread either polls/allows (and allows after its last kept poll) or rebalances. -/
def Contract (progs : List (List Op)) : Prop := ∀ p ∈ progs, okP p = true ∨ allR p = true

def wfT (t : Th) : Bool := match t.pc with
  | .pLock q | .pPark q | .pWait q | .pWake q | .pUnlock q => okP t.prog && (q || hasA t.prog)
  | .uLock _ | .uUnlock _ | .aLock | .aUnlock => okP t.prog
  | .rLock | .rPark _ | .rWait _ | .rWake _ | .rUnlock | .xLock | .xUnlock => allR t.prog
  | .done => true

def bad (t : Th) : Nat := if wfT t then 0 else 1

/-- not parked, and an `AllowRebalance` is still ahead of it -/
def witness (t : Th) : Nat := match t.pc with
  | .pLock _ | .pUnlock _ | .uLock _ | .uUnlock _ | .aUnlock => if hasA t.prog then 1 else 0
  | .aLock => 1
  | _ => 0

/-- in its fill: its own count is still to be released by its `unaddPoller` -/
def qcov (t : Th) : Nat := match t.pc with | .pUnlock true | .uLock _ => 1 | _ => 0

/-- neither finished nor parked un-notified -/
def other (t : Th) : Nat := match t.pc with | .done | .pWait _ | .rWait _ => 0 | _ => 1

/-- First conjunct: every thread follows the contract. Second: while polls are outstanding some thread will still call
`AllowRebalance`, or all of them are covered by fills in progress. -/
def DInv (s : St Sh Th) : Prop :=
  cnt bad s.ths = 0 ∧ (s.sh.pollers > 0 → cnt witness s.ths > 0 ∨ s.sh.pollers ≤ cnt qcov s.ths)

theorem start_okP (p : List Op) (h : okP p = true) :
    wfT (start p) = true ∧ witness (start p) = (if hasA p then 1 else 0) ∧ qcov (start p) = 0 := by
  rcases p with _ | ⟨_ | _ | _ | _, r⟩ <;> simp_all [okP, start, wfT, witness, qcov, hasA]

theorem start_allR (p : List Op) (h : allR p = true) :
    wfT (start p) = true ∧ witness (start p) = 0 ∧ qcov (start p) = 0 := by
  rcases p with _ | ⟨_ | _ | _ | _, r⟩ <;> simp [allR, start, wfT, witness, qcov] at h ⊢ <;> exact h

theorem bad_eq_zero {t : Th} : bad t = 0 ↔ wfT t = true := by
  unfold bad; split <;> simp [*]

theorem init_dinv (progs : List (List Op)) (hc : Contract progs) : DInv (init progs) := by
  refine ⟨cnt_map_eq_zero fun p hp => bad_eq_zero.2 ?_, fun h => by simp [init] at h⟩
  rcases hc p hp with h | h
  · exact (start_okP p h).1
  · exact (start_allR p h).1

/-- `DInv` for the acting thread alone, in the shape `omega` closes `dinv_step` with: after the step the thread is a
witness, or no poll is outstanding, or it stays as much of a witness as it was and what it adds to the poller count it also
adds to its own cover. -/
theorem Step.cover {sh : Sh} {t : Th} {sh' : Sh} {t' : Th} {b : Bool}
    (h : Step sh t sh' t' b) (hwf : wfT t = true) :
    wfT t' = true ∧ (witness t' > 0 ∨ sh'.pollers = 0 ∨
      witness t ≤ witness t' ∧ sh'.pollers + qcov t ≤ sh.pollers + qcov t') := by
  cases h with
  | lockEnter q | wakeEnter q =>
    -- the new poll is released by the thread's own `unaddPoller` (`q`), or an `AllowRebalance` is ahead
    cases q <;> simp_all [wfT, witness, qcov]
  | @keep p =>
    obtain ⟨h1, h2⟩ : okP p = true ∧ hasA p = true := by simpa [wfT] using hwf
    obtain ⟨s1, s2, -⟩ := start_okP p h1
    exact ⟨s1, .inl (by simp [s2, h2])⟩
  | @unadd p e | @allow p =>
    obtain ⟨s1, s2, s3⟩ := start_okP p hwf
    exact ⟨s1, .inr (.inr (by rw [s2, s3]; exact ⟨Nat.le_refl _, Nat.le_refl _⟩))⟩
  | @exit p =>
    obtain ⟨s1, s2, s3⟩ := start_allR p hwf
    exact ⟨s1, .inr (.inr (by rw [s2, s3]; exact ⟨Nat.le_refl _, Nat.le_refl _⟩))⟩
  | _ => simp_all [wfT, witness, qcov] <;> omega

theorem dinv_step (sh : Sh) (t : Th) (r : List Th) (sh' : Sh) (t' : Th) (b : Bool) (ev : String)
    (hI : DInv ⟨sh, t :: r⟩) (hs : stepT sh t = some (sh', t', b, ev)) : DInv ⟨sh', t' :: sys.wakeAll b r⟩ := by
  simp only [DInv, cnt_cons, cnt_wakeAll bad, cnt_wakeAll witness, cnt_wakeAll qcov] at hI ⊢
  obtain ⟨wf, J⟩ := hI
  obtain ⟨hwf, hc⟩ := (Step.of_stepT hs).cover (bad_eq_zero.1 (by omega))
  have := bad_eq_zero.2 hwf
  exact ⟨by omega, by omega⟩

theorem reach_dinv {progs : List (List Op)} (hc : Contract progs) {s : St Sh Th}
    (hr : sys.Reach (init progs) s) : DInv s :=
  Sys.inv_of_local sys (init_dinv progs hc) (by simp [DInv, cnt_mid]) dinv_step hr

theorem enabled_or (sh : Sh) (t : Th) : (stepT sh t).isSome ∨ hold t = 0 ∧ (other t = 0 ∨ sh.mu = true) := by
  fun_cases stepT sh t
  all_goals first | exact .inl rfl | simp [hold, other, *]

theorem witness_le_other (t : Th) : witness t ≤ other t := by
  obtain ⟨pc, p⟩ := t; cases pc <;> simp [witness, other] <;> split <;> omega
theorem qcov_le_other (t : Th) : qcov t ≤ other t := by
  obtain ⟨pc, p⟩ := t
  cases pc with
  | pUnlock q => cases q <;> simp [qcov, other]
  | _ => simp [qcov, other]
theorem rcount_le (t : Th) : rcount t ≤ rwp t + other t := by
  obtain ⟨pc, p⟩ := t; cases pc <;> simp [rcount, rwp, other]
theorem pwp_le (t : Th) : pwp t ≤ (if t.pc = .done then 0 else 1) := by
  obtain ⟨pc, p⟩ := t; cases pc <;> simp [pwp]

theorem deadlock_free {s : St Sh Th} (hg : GInv s) (hd : DInv s) (hnd : sys.allDone s = false) :
    ∃ i, (sys.step s i).isSome := by
  obtain ⟨gmu, greb, _, _, gpw, grw⟩ := hg
  obtain ⟨_, dJ⟩ := hd
  by_cases hmu : s.sh.mu = true
  · -- the holder of the mutex is at an always-enabled action
    have : 0 < cnt hold s.ths := by simp [muN, hmu] at gmu; omega
    obtain ⟨t, hm, hh⟩ := cnt_pos this
    exact sys.step_of_mem hm ((enabled_or s.sh t).resolve_right fun h => by omega)
  · by_cases ho : 0 < cnt other s.ths
    · obtain ⟨t, hm, hh⟩ := cnt_pos ho
      exact sys.step_of_mem hm ((enabled_or s.sh t).resolve_right fun h => by simp [hmu] at h; omega)
    · -- every unfinished thread is parked and un-notified: impossible
      exfalso
      have ho0 : cnt other s.ths = 0 := by omega
      have hw : cnt witness s.ths = 0 := by have := cnt_le witness_le_other s.ths; omega
      have hq : cnt qcov s.ths = 0 := by have := cnt_le qcov_le_other s.ths; omega
      have hrc : cnt rcount s.ths ≤ cnt rwp s.ths := by
        have := cnt_le rcount_le s.ths; rw [cnt_add] at this; omega
      simp only [Sys.allDone, List.all_eq_false] at hnd
      obtain ⟨t, hm, hnd⟩ := hnd
      have hpr : 0 < cnt pwp s.ths ∨ 0 < cnt rwp s.ths := by
        obtain ⟨pc, prog⟩ := t
        have hot : other ⟨pc, prog⟩ = 0 := by have := le_cnt_of_mem (f := other) hm; omega
        cases pc <;> simp [other] at hot <;> simp [sys] at hnd
        · left; exact cnt_pos_of_mem hm (by simp [pwp])
        · right; exact cnt_pos_of_mem hm (by simp [rwp])
      have hpol : s.sh.pollers > 0 := by
        rcases hpr with h | h
        · have := gpw h; exact grw (by omega)
        · exact grw h
      rcases dJ hpol with h | h <;> omega

end Model.C31.Gate
