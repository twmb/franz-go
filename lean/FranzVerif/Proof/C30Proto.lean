import FranzVerif.Proof.C30Ring
/-! The ring under its usage protocol (`if first { go worker }`, the worker loops on `dropPeek` while `more`): the
invariant `QInv`, what the pieces of a step do to it (`pushFrom_cases`, `CondInv.push`, `CondInv.dropPeek`, `die_inv`), and that it rules
out every panic (`qstep_no_panic`). A step is first classified (`qstep_cases`); the two ways into the push critical section
(from `Lock`, from the return of `Wait`) are one case, `PushEntry`. That every enabled step keeps `QInv` is proved together
with its replay in the Spec (`sim_step` in `C30SpecRing`): both read the same outcomes. -/
namespace Proof.C30
open Model.C30

theorem pushFrom_cases (r : Ring) (t e : Nat) (wait : Bool) (hwf : WF r) (hinit : r.maxLen > 0 → r.hasCond = true) :
    ((wait && r.needWait) = true ∧ r.dead = false ∧ (r.l : Int) ≥ r.maxLen ∧ r.hasCond = true ∧
        r.pushFrom t e wait = .ok ({ r with parked := r.parked ++ [t] }, .blocked)) ∨
    ((wait && r.needWait) = false ∧ r.dead = true ∧ r.pushFrom t e wait = .ok (r, .done false true)) ∨
    ((wait && r.needWait) = false ∧ r.dead = false ∧ ∃ r', r.pushFrom t e wait = .ok (r', .done (r.l == 0) false) ∧
        Rebuf r r' (r.abs ++ [e]) (r.l + 1)) := by
  unfold Ring.pushFrom
  cases hw : (wait && r.needWait)
  · simp only [Bool.false_eq_true, if_false]
    cases hd : r.dead
    · right; right
      obtain ⟨r', h, hb⟩ := pushTail_spec r e hwf hd
      exact ⟨trivial, rfl, r', by rw [h]; rfl, hb⟩
    · right; left
      refine ⟨trivial, rfl, ?_⟩
      simp [Ring.pushTail, hd, Except.map]
  · left
    simp only [Bool.and_eq_true] at hw
    have hn := hw.2
    simp only [Ring.needWait, Bool.and_eq_true, decide_eq_true_eq, Bool.not_eq_true'] at hn
    have hc := hinit hn.1.1
    simp [hc, hn.2, hn.1.2]

/-- The condition variable. `noLost`: a pusher stays parked only while the ring is full even counting one slot for
    each pusher signalled and not yet resumed — every `dropPeek` that frees a slot signals, so no wake-up is lost.
    `initOk`: blocking (`maxLen > 0`) happens only on a ring that went through `initMaxLen`, else `cond` is nil. -/
structure CondInv (r : Ring) : Prop where
  initOk : r.maxLen > 0 → r.hasCond = true
  noCond : r.hasCond = false → r.parked = []
  deadWakes : r.dead = true → r.parked = []
  noLost : r.parked ≠ [] → (r.l : Int) + r.woken.length ≥ r.maxLen

/-- `w`: there is a worker exactly while the ring is non-empty. `q`: the head of the ring is the element the worker is
    processing (already in `handed`, dropped only by its next `dropPeek`), so `handed` plus what waits behind the head
    is `accepted`. -/
structure QInv (s : QS) : Prop where
  wf : WF s.r
  cond : CondInv s.r
  w : s.workers = if s.r.l = 0 then 0 else 1
  q : s.handed ++ s.r.abs.tail = s.accepted

theorem abs_nil_of_l0 (r : Ring) (h : r.l = 0) : r.abs = [] := by simp [Ring.abs, h]

theorem workers_set (s : QS) (i : Nat) (x : QLoc) (hi : i < s.pcs.length) :
    (s.pcs.set i x).countP (· == .drop) = (s.workers - if s.pcs[i] = .drop then 1 else 0) + if x = .drop then 1 else 0 := by
  rw [List.countP_set hi]; simp [QS.workers]

theorem workers_set_of_ne_drop (s : QS) {i : Nat} (x : QLoc) (hi : i < s.pcs.length) (h : s.pcs[i] ≠ .drop) :
    (s.pcs.set i x).countP (· == .drop) = s.workers + if x = .drop then 1 else 0 := by
  rw [workers_set s i x hi, if_neg h]; rfl

theorem worker_pos {s : QS} {i : Nat} (hI : QInv s) (h : s.pcs[i]? = some .drop) : 0 < s.r.l := by
  have hw : 0 < s.workers := List.countP_pos_iff.mpr ⟨_, List.mem_of_getElem? h, rfl⟩
  rcases Nat.eq_zero_or_pos s.r.l with h0 | h0
  · have := hI.w; rw [if_pos h0] at this; omega
  · exact h0

/-- Thread `i` enters the push critical section for `e`: from `Lock` (action `push`), or from the return of `Wait`
    (action `resume` of a woken thread), in which case it has been taken off `woken`; `w'` is the `woken` it sees. -/
def PushEntry (s : QS) (i : Nat) (a : QAct) (e : Nat) (wait : Bool) (w' : List Nat) : Prop :=
  s.pcs[i]? = some .idle ∧ a = .push e wait ∧ w' = s.r.woken ∨
  s.pcs[i]? = some (.waiting e) ∧ a = .resume ∧ wait = true ∧ i ∈ s.r.woken ∧ w' = s.r.woken.erase i

theorem pushEntry_loc {s : QS} {i : Nat} {a : QAct} {e : Nat} {wait : Bool} {w' : List Nat}
    (h : PushEntry s i a e wait w') :
    ∃ hi : i < s.pcs.length, s.pcs[i] ≠ .drop ∧ s.r.woken.length ≤ w'.length + 1 := by
  rcases h with ⟨hl, _, rfl⟩ | ⟨hl, _, _, hm, rfl⟩ <;> obtain ⟨hi, hli⟩ := List.getElem?_eq_some_iff.mp hl
  · exact ⟨hi, by rw [hli]; nofun, Nat.le_succ _⟩
  · exact ⟨hi, by rw [hli]; nofun, by rw [List.length_erase_of_mem hm]; omega⟩

theorem qstep_cases {s s' : QS} {i : Nat} {a : QAct} {ev : QEv} (h : s.step i a = .ok (some (s', ev))) :
    (∃ e wait w' res, PushEntry s i a e wait w' ∧
        ({ s.r with woken := w' } : Ring).pushFrom i e wait = .ok res ∧ (s', ev) = s.afterPush i e res) ∨
    (∃ k r' next more dead, s.pcs[i]? = some .drop ∧ a = .dropPeek k ∧ s.r.dropPeek k = .ok (r', next, more, dead) ∧
        (s', ev) = (if more then ({ s with r := r', handed := s.handed ++ [next] }, .dropRet next more dead)
                    else ({ s with r := r', pcs := s.pcs.set i .idle }, .dropRet next more dead))) ∨
    (s.pcs[i]? = some .idle ∧ a = .die ∧ s' = { s with r := s.r.die } ∧ ev = .died) ∨
    (s.pcs[i]? = some .idle ∧ a = .empty ∧ s' = s ∧ ev = .emptyRet s.r.empty) := by
  unfold QS.step at h
  split at h
  · rename_i e wait hl
    cases hp : s.r.pushFrom i e wait with
    | error m => rw [hp] at h; cases h
    | ok res =>
      simp only [hp, Except.map, Except.ok.injEq, Option.some.injEq] at h
      exact .inl ⟨e, wait, _, res, .inl ⟨hl, rfl, rfl⟩, hp, h.symm⟩
  · rename_i e hl
    split at h
    · rename_i hm
      cases hp : ({ s.r with woken := s.r.woken.erase i } : Ring).pushFrom i e true with
      | error m => rw [hp] at h; cases h
      | ok res =>
        simp only [hp, Except.map, Except.ok.injEq, Option.some.injEq] at h
        exact .inl ⟨e, true, _, res, .inr ⟨hl, rfl, rfl, hm, rfl⟩, hp, h.symm⟩
    · cases h
  · rename_i k hl
    cases hp : s.r.dropPeek k with
    | error m => rw [hp] at h; cases h
    | ok res =>
      obtain ⟨r', next, more, dead⟩ := res
      rw [hp] at h
      refine .inr (.inl ⟨k, r', next, more, dead, hl, rfl, hp, ?_⟩)
      cases more <;> cases h <;> rfl
  · cases h; exact .inr (.inr (.inl ⟨by assumption, rfl, rfl, rfl⟩))
  · cases h; exact .inr (.inr (.inr ⟨by assumption, rfl, rfl, rfl⟩))
  · cases h

/-- What `Signal` does to the pushers: with nobody parked, nothing; otherwise one more is woken. -/
theorem afterSignal_cond (r : Ring) (k : Nat) (hc : CondInv r) :
    (r.parked = [] → (afterSignal r k).parked = []) ∧
    (r.parked ≠ [] → (afterSignal r k).woken.length = r.woken.length + 1) := by
  unfold afterSignal
  cases hcnd : r.hasCond
  · exact ⟨id, fun h => absurd (hc.noCond hcnd) h⟩
  · simp only [if_true]
    unfold Ring.signal
    split
    · rename_i h
      exact ⟨id, fun h0 => absurd (List.eq_nil_of_length_eq_zero h) h0⟩
    · rename_i h
      exact ⟨fun h0 => by simp [h0] at h, fun _ => by simp⟩

/-- A push keeps the invariant of the condition variable, also when the pusher was resumed and so taken off `woken`
(`w'`): the slot it fills makes up for it. -/
theorem CondInv.push {r r' : Ring} {w' : List Nat} {q : List Nat} (hc : CondInv r) (hw : r.woken.length ≤ w'.length + 1)
    (hb : Rebuf { r with woken := w' } r' q (r.l + 1)) : CondInv r' := by
  have hl := hb.l
  have hs := hb.ctl
  refine ⟨by rw [hs.maxLen, hs.hasCond]; exact hc.initOk, by rw [hs.hasCond, hs.parked]; exact hc.noCond,
    by rw [hs.dead, hs.parked]; exact hc.deadWakes, ?_⟩
  rw [hs.parked, hs.woken, hl, hs.maxLen]
  dsimp only
  intro hp
  have := hc.noLost hp
  omega

/-- `dropPeek` keeps it: the slot it frees is made up for by the pusher its `Signal` wakes. -/
theorem CondInv.dropPeek {r r' : Ring} {k : Nat} {q : List Nat} (hc : CondInv r)
    (hb : Rebuf (afterSignal r k) r' q (r.l - 1)) (hpos : 0 < r.l) : CondInv r' := by
  have hl := hb.l
  have hs := hb.ctl
  obtain ⟨hm, hcd, hdd⟩ := sameCtl_afterSignal hs
  obtain ⟨hnil, hwok⟩ := afterSignal_cond r k hc
  refine ⟨by rw [hm, hcd]; exact hc.initOk, ?_, ?_, ?_⟩
  · rw [hcd, hs.parked]; exact fun h => hnil (hc.noCond h)
  · rw [hdd, hs.parked]; exact fun h => hnil (hc.deadWakes h)
  · rw [hs.parked, hs.woken, hl, hm]
    intro hp
    have hp0 : r.parked ≠ [] := fun h => hp (hnil h)
    have := hc.noLost hp0
    rw [hwok hp0]; omega

theorem die_inv (r : Ring) (hwf : WF r) (hc : CondInv r) :
    WF r.die ∧ CondInv r.die ∧ r.die.l = r.l ∧ r.die.abs = r.abs ∧ r.die.dead = true ∧ r.die.parked = [] := by
  cases hcnd : r.hasCond
  · have hp := hc.noCond hcnd
    have : r.die = { r with dead := true } := by simp [Ring.die, hcnd]
    rw [this]
    refine ⟨by simpa [WF] using hwf, ⟨hc.initOk, fun _ => hp, fun _ => hp, fun h => absurd hp h⟩, rfl, abs_congr r _ rfl rfl rfl, rfl, hp⟩
  · have : r.die = { r with dead := true, parked := [], woken := r.woken ++ r.parked } := by
      simp [Ring.die, hcnd, Ring.broadcast]
    rw [this]
    refine ⟨by simpa [WF] using hwf, ⟨hc.initOk, fun _ => rfl, fun _ => rfl, fun h => absurd rfl h⟩, rfl, abs_congr r _ rfl rfl rfl, rfl, rfl⟩

theorem qstep_no_panic (s : QS) (i : Nat) (a : QAct) (hI : QInv s) : ∃ o, s.step i a = .ok o := by
  have push_ok : ∀ w' e wait, ∃ res, ({ s.r with woken := w' } : Ring).pushFrom i e wait = .ok res := by
    intro w' e wait
    rcases pushFrom_cases _ i e wait (show WF { s.r with woken := w' } from hI.wf) hI.cond.initOk with
      ⟨_, _, _, _, h⟩ | ⟨_, _, h⟩ | ⟨_, _, r', h, _⟩ <;> exact ⟨_, h⟩
  unfold QS.step
  split
  · rename_i e wait _
    obtain ⟨res, h⟩ := push_ok s.r.woken e wait
    exact ⟨_, congrArg _ h⟩
  · rename_i e _
    split
    · obtain ⟨res, h⟩ := push_ok (s.r.woken.erase i) e true
      exact ⟨_, congrArg _ h⟩
    · exact ⟨_, rfl⟩
  · rename_i k hl
    obtain ⟨r', hd, _⟩ := dropPeek_spec s.r k hI.wf (worker_pos hI hl)
    exact ⟨_, congrArg _ hd⟩
  · exact ⟨_, rfl⟩
  · exact ⟨_, rfl⟩
  · exact ⟨_, rfl⟩

/-- reachable states of the queue protocol from a fresh ring (zero value, or after `initMaxLen m`), `n` threads,
    any action sequence -/
inductive QReach (r0 : Ring) (n : Nat) : QS → Prop
  | init : QReach r0 n (QS.init r0 n)
  | step {s s' : QS} {ev : QEv} (i : Nat) (a : QAct) : QReach r0 n s → s.step i a = .ok (some (s', ev)) → QReach r0 n s'

theorem qreach_run {r0 : Ring} {n : Nat} {s s' : QS} (as : List (Nat × QAct)) (h : QReach r0 n s)
    (hr : s.run as = some s') : QReach r0 n s' := by
  induction as generalizing s with
  | nil => cases hr; exact h
  | cons a t ih =>
    obtain ⟨i, a⟩ := a
    simp only [QS.run] at hr
    split at hr
    · exact ih (QReach.step i a h ‹_›) hr
    · cases hr

def freshRing (r0 : Ring) : Prop := r0 = {} ∨ ∃ m, r0 = Ring.initMaxLen m

theorem qinv_init (r0 : Ring) (n : Nat) (h : freshRing r0) : QInv (QS.init r0 n) := by
  rcases h with h | ⟨m, h⟩ <;> subst h
  · refine ⟨Or.inl ⟨rfl, rfl, rfl⟩, ⟨by simp [QS.init], fun _ => rfl, fun _ => rfl, fun h => absurd rfl h⟩, ?_, rfl⟩
    simp [QS.init, QS.workers, List.countP_replicate]
  · refine ⟨Or.inl ⟨rfl, rfl, rfl⟩, ⟨fun _ => rfl, fun _ => rfl, fun _ => rfl, fun h => absurd rfl h⟩, ?_, rfl⟩
    simp [QS.init, QS.workers, List.countP_replicate, Ring.initMaxLen]

end Proof.C30
