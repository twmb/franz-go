import FranzVerif.Model.Commit
import FranzVerif.Proof.Commit
import FranzVerif.Proof.Monitor
import FranzVerif.Proof.Ledger
/-! The commit-order monitor (C09) against the history: what an accepted event tells, the invariant `Inv h s`
relating the state reached by `run` to the history (membership of issue / finish / CO / GC / topic-deleted
events, the harness's offset encoding, `isIncomplete`), the order of arrivals (`wire_sorted`), and the scans
`lastApplied` and `taintedAtEnd`. Each scan is the fold of a step (`scanStep`, `taintStep`) that the monitor's state makes
too (`scan_apply`, `tainted_apply`), so the state holds its value (`lastApplied_run`, `taintedAtEnd_run`); and the step of
partition `q` ignores an answer for / a taint of another partition (`scanStep_other`, `taintStep_other`), so neither observable
of `q` reads it. -/
namespace Proof.Commit
open Model.Commit Proof.Monitor

theorem isMonitor : IsMonitor check apply step run :=
  ⟨⟨fun _ => rfl, fun s e es => by rw [run]; cases step s e <;> rfl⟩, fun s e => by rw [step]; cases check s e <;> rfl⟩

theorem issue_check {s : St} {k : Nat} {offs : List (Nat × Nat)} (h : check s (.issue k offs) = none) :
    ∀ o ∈ offs, o.2 = 1000 + k := by
  simp only [check, ite_some_eq_none, List.any_eq_true, not_exists, not_and, bne_iff_ne, ne_eq,
    Decidable.not_not] at h
  exact h.2.1

theorem wireReq_check {s : St} {n part off : Nat} (h : check s (.wireReq n part off) = none) :
    s.maxWire ≤ off ∧ ∃ i ∈ s.issued, 1000 + i.1 = off ∧ ∃ o ∈ i.2, o.1 = part := by
  simp only [check, ite_some_eq_none, Nat.not_lt, Bool.not_eq_true', Bool.not_eq_false, List.any_eq_true,
    Bool.and_eq_true, beq_iff_eq] at h
  exact ⟨h.1, h.2.1⟩

theorem quiesce_check {s : St} (h : check s .quiesce = none) (hinc : s.incomplete = false) :
    (∀ i ∈ s.issued, ∃ f ∈ s.finished, f.1 = i.1) ∧
    (∀ g ∈ s.gc, judged s g.1 = true → (∃ a ∈ s.applied, a.1 = g.1) → g.2 = appliedOf s g.1) ∧
    (∀ a ∈ s.applied, judged s a.1 = true → ∃ g ∈ s.gc, g.1 = a.1) ∧
    (∀ c ∈ s.co, judged s c.1 = true → (∃ a ∈ s.applied, a.1 = c.1) → c.2 = appliedOf s c.1) ∧
    (∀ a ∈ s.applied, judged s a.1 = true → ∃ c ∈ s.co, c.1 = a.1) := by
  simp only [check, hinc, Bool.false_eq_true, if_false, ite_some_eq_none, List.any_eq_true, Bool.and_eq_true,
    Bool.not_eq_true', List.any_eq_false, beq_iff_eq, bne_iff_ne, ne_eq, not_exists, not_and, Decidable.not_not,
    and_imp, forall_exists_index, and_true, Classical.not_forall, exists_prop] at h
  -- one conjunct per rule of `quiesce`, in order; the fourth (`…-differs-…`, only for values `≠ 0`) follows from the fifth
  obtain ⟨c1, c2, c3, -, c5, c6⟩ := h
  exact ⟨c1, fun g hg hj ⟨a, ha, he⟩ => c2 g hg hj a ha he, c3, fun c hc hj ⟨a, ha, he⟩ => c5 c hc hj a ha he, c6⟩

structure Inv (h : List Ev) (s : St) : Prop where
  issued : ∀ i, i ∈ s.issued ↔ Ev.issue i.1 i.2 ∈ h
  enc : ∀ i ∈ s.issued, ∀ o ∈ i.2, o.2 = 1000 + i.1
  finished : ∀ f, f ∈ s.finished ↔ Ev.finish f.1 f.2 ∈ h
  gc : ∀ g, g ∈ s.gc ↔ Ev.groupCommitted g.1 g.2 ∈ h
  co : ∀ c, c ∈ s.co ↔ Ev.clientCommitted c.1 c.2 ∈ h
  gone : ∀ t, t ∈ s.gone ↔ Ev.topicDeleted t ∈ h
  incomplete : s.incomplete = isIncomplete h

theorem Inv.init : Inv [] {} :=
  ⟨fun _ => ⟨nofun, nofun⟩, nofun, fun _ => ⟨nofun, nofun⟩, fun _ => ⟨nofun, nofun⟩, fun _ => ⟨nofun, nofun⟩,
    fun _ => ⟨nofun, nofun⟩, rfl⟩

def issueEv : Ev → Option (Nat × List (Nat × Nat))
  | .issue k offs => some (k, offs)
  | _ => none
def finishEv : Ev → Option (Nat × Bool)
  | .finish k ok => some (k, ok)
  | _ => none
def gcEv : Ev → Option (Nat × Int)
  | .groupCommitted p o => some (p, o)
  | _ => none
def coEv : Ev → Option (Nat × Int)
  | .clientCommitted p o => some (p, o)
  | _ => none
def goneEv : Ev → Option Nat
  | .topicDeleted t => some t
  | _ => none

theorem issueEv_eq_some (ev : Ev) (i : Nat × List (Nat × Nat)) : issueEv ev = some i ↔ Ev.issue i.1 i.2 = ev := by
  constructor
  · intro h
    cases ev <;> cases h <;> rfl
  · rintro rfl; rfl
theorem finishEv_eq_some (ev : Ev) (f : Nat × Bool) : finishEv ev = some f ↔ Ev.finish f.1 f.2 = ev := by
  constructor
  · intro h
    cases ev <;> cases h <;> rfl
  · rintro rfl; rfl
theorem gcEv_eq_some (ev : Ev) (g : Nat × Int) : gcEv ev = some g ↔ Ev.groupCommitted g.1 g.2 = ev := by
  constructor
  · intro h
    cases ev <;> cases h <;> rfl
  · rintro rfl; rfl
theorem coEv_eq_some (ev : Ev) (c : Nat × Int) : coEv ev = some c ↔ Ev.clientCommitted c.1 c.2 = ev := by
  constructor
  · intro h
    cases ev <;> cases h <;> rfl
  · rintro rfl; rfl
theorem goneEv_eq_some (ev : Ev) (t : Nat) : goneEv ev = some t ↔ Ev.topicDeleted t = ev := by
  constructor
  · intro h
    cases ev <;> cases h <;> rfl
  · rintro rfl; rfl

theorem isIncomplete_snoc (h : List Ev) (ev : Ev) : isIncomplete (h ++ [ev]) = (isIncomplete h || ev == .incomplete) :=
  List.any_snoc _ h ev

theorem Inv.snoc {h : List Ev} {s s' : St} (hi : Inv h s) (ev : Ev)
    (issued : s'.issued = (issueEv ev).toList ++ s.issued)
    (enc : ∀ i ∈ issueEv ev, ∀ o ∈ i.2, o.2 = 1000 + i.1)
    (finished : s'.finished = (finishEv ev).toList ++ s.finished)
    (gc : s'.gc = (gcEv ev).toList ++ s.gc)
    (co : s'.co = (coEv ev).toList ++ s.co)
    (gone : s'.gone = (goneEv ev).toList ++ s.gone)
    (incomplete : s'.incomplete = (ev == .incomplete || s.incomplete)) :
    Inv (h ++ [ev]) s' := by
  refine ⟨mem_iff_snoc issueEv_eq_some hi.issued issued, fun i hm => ?_, mem_iff_snoc finishEv_eq_some hi.finished finished,
    mem_iff_snoc gcEv_eq_some hi.gc gc, mem_iff_snoc coEv_eq_some hi.co co, mem_iff_snoc goneEv_eq_some hi.gone gone, ?_⟩
  · rw [issued, List.mem_append, Option.mem_toList] at hm
    exact hm.elim (enc i) (hi.enc i)
  · rw [incomplete, hi.incomplete, isIncomplete_snoc, Bool.or_comm]

theorem Inv.step {h : List Ev} {s : St} (hi : Inv h s) (ev : Ev) (hchk : check s ev = none) :
    Inv (h ++ [ev]) (apply s ev) := by
  refine hi.snoc ev ?_ (fun i hm => ?enc) ?_ ?_ ?_ ?_ ?_
  case enc =>
    cases ev <;> cases hm
    exact issue_check hchk
  -- the ledgers: every branch of `apply` conses what the event shows
  all_goals fun_cases apply s ev <;> rfl

theorem inv_of_run {h : List Ev} {s : St} (hr : run {} h = some s) : Inv h s :=
  isMonitor.inv (I := Inv) (fun _ _ ev hi hchk => hi.step ev hchk) Inv.init hr

def wireEv : Ev → Option Nat
  | .wireReq _ _ off => some off
  | _ => none

theorem wireOffsets_eq (h : List Ev) : wireOffsets h = h.filterMap wireEv := rfl

theorem maxWire_apply (s : St) (e : Ev) : (apply s e).maxWire = (wireEv e).elim s.maxWire (max s.maxWire) := by
  fun_cases apply s e <;> rfl

/-- a request that arrives is checked to be at least `maxWire`, which bounds the arrivals so far -/
theorem wire_sorted {h : List Ev} {s : St} (hr : run {} h = some s) :
    (∀ x ∈ wireOffsets h, x ≤ s.maxWire) ∧ (wireOffsets h).Pairwise (· ≤ ·) := by
  refine isMonitor.inv (I := fun h s => (∀ x ∈ wireOffsets h, x ≤ s.maxWire) ∧ (wireOffsets h).Pairwise (· ≤ ·))
    (fun h s e hi hchk => ?_) ⟨nofun, .nil⟩ hr
  rw [show wireOffsets (h ++ [e]) = wireOffsets h ++ (wireEv e).toList from List.filterMap_snoc wireEv h e, maxWire_apply]
  cases hw : wireEv e with
  | none =>
    rw [Option.toList_none, List.append_nil]
    exact hi
  | some off =>
    cases e <;> cases hw
    refine ⟨fun x hx => ?_, List.pairwise_append.2 ⟨hi.2, List.pairwise_singleton _ _, fun a ha b hb => ?_⟩⟩
    · rcases List.mem_append.1 hx with hx | hx
      · exact Nat.le_trans (hi.1 x hx) (Nat.le_max_left ..)
      · rw [List.mem_singleton.1 hx]
        exact Nat.le_max_right ..
    · rw [List.mem_singleton.1 hb]
      exact Nat.le_trans (hi.1 a ha) (wireReq_check hchk).1

/-- the monitor's `applied` entry of partition `p` -/
def curOf (s : St) (p : Nat) : Option Nat := (s.applied.find? (·.1 == p)).map (·.2)

theorem appliedOf_of_curOf {s : St} {p off : Nat} (h : curOf s p = some off) :
    appliedOf s p = (off : Int) ∧ ∃ a ∈ s.applied, a.1 = p := by
  obtain ⟨a, ha, rfl⟩ := Option.map_eq_some_iff.1 h
  exact ⟨by rw [appliedOf, ha], a, Ledger.find?_key_some ha⟩

/-- One step of `lastApplied`'s scan, on the requests so far (newest first) and the last successful answer for `p`. -/
def scanStep (p : Nat) : List (Nat × Nat × Nat) × Option Nat → Ev → List (Nat × Nat × Nat) × Option Nat
  | (reqs, cur), .wireReq n q off => ((n, q, off) :: reqs, cur)
  | (reqs, cur), .wireResp n q err =>
    if q == p && err == 0 then
      match reqs.find? (fun w => w.1 == n && w.2.1 == p) with
      | some (_, _, off) => (reqs, some off)
      | none => (reqs, cur)
    else (reqs, cur)
  | v, _ => v

theorem lastApplied_go_eq (p : Nat) (h : List Ev) (reqs : List (Nat × Nat × Nat)) (cur : Option Nat) :
    lastApplied.go p reqs cur h = (h.foldl (scanStep p) (reqs, cur)).2 := by
  induction h generalizing reqs cur with
  | nil => rfl
  | cons e es ih =>
    rw [List.foldl_cons]
    cases e with
    | wireReq n q off => exact ih _ _
    | wireResp n q err =>
      rw [lastApplied.go, scanStep]
      cases q == p && err == 0 with
      | false => exact ih _ _
      | true =>
        rw [if_pos rfl, if_pos rfl]
        cases reqs.find? (fun w => w.1 == n && w.2.1 == p) <;> exact ih _ _
    | _ => exact ih _ _

theorem lastApplied_eq (p : Nat) (h : List Ev) : lastApplied p h = (h.foldl (scanStep p) ([], none)).2 :=
  lastApplied_go_eq p h [] none

/-- The monitor's `wire` and `applied` entry of `p` are the scan's state. -/
theorem scan_apply (p : Nat) (s : St) (e : Ev) :
    ((apply s e).wire, curOf (apply s e) p) = scanStep p (s.wire, curOf s p) e := by
  cases e with
  | wireResp n q err =>
    rw [apply, scanStep]
    cases err == 0 with
    | false => rw [Bool.and_false]; rfl
    | true =>
      rw [Bool.and_true, if_pos rfl]
      cases hq : q == p with
      | true =>
        cases beq_iff_eq.1 hq
        rw [if_pos rfl]
        cases s.wire.find? (fun w => w.1 == n && w.2.1 == p) with
        | none => rfl
        | some w => rw [curOf, List.find?_cons, beq_self_eq_true]; rfl
      | false =>
        have hne : ∀ x : Nat × Nat, (x.1 == p) = true → (x.1 != q) = true := fun x hx => by
          rw [beq_iff_eq.1 hx]; exact bne_iff_ne.2 (Ne.symm (beq_eq_false_iff_ne.1 hq))
        rw [if_neg Bool.false_ne_true]
        cases s.wire.find? (fun w => w.1 == n && w.2.1 == q) with
        | none => rfl
        | some w => rw [curOf, List.find?_cons, hq, List.find?_filter_of_imp _ hne]; rfl
  | _ => rfl

theorem lastApplied_run {p : Nat} {h : List Ev} {s : St} (hr : run {} h = some s) : curOf s p = lastApplied p h := by
  rw [isMonitor.run_eq_foldl hr, lastApplied_eq]
  exact (congrArg Prod.snd (List.foldl_hom (fun s => (s.wire, curOf s p)) fun s e => (scan_apply p s e).symm)).symm

theorem contains_filter_ne (l : List Nat) (p q : Nat) :
    (l.filter (· != q)).contains p = (l.contains p && !(q == p)) := by
  rw [Bool.eq_iff_iff, List.contains_iff_mem, List.mem_filter, Bool.and_eq_true, List.contains_iff_mem, bne_iff_ne,
    Bool.not_eq_true', beq_eq_false_iff_ne, ne_comm]

/-- One step of `taintedAtEnd`'s scan. -/
def taintStep (p : Nat) (cur : Bool) : Ev → Bool
  | .taint q => cur || q == p
  | .wireResp _ q err => cur && !(q == p && err == 0)
  | _ => cur

theorem taintedAtEnd_go_eq (p : Nat) (h : List Ev) (cur : Bool) : taintedAtEnd.go p cur h = h.foldl (taintStep p) cur := by
  induction h generalizing cur with
  | nil => rfl
  | cons e es ih => cases e <;> exact ih _

theorem taintedAtEnd_eq (p : Nat) (h : List Ev) : taintedAtEnd p h = h.foldl (taintStep p) false :=
  taintedAtEnd_go_eq p h false

theorem tainted_apply (p : Nat) (s : St) (e : Ev) :
    (apply s e).tainted.contains p = taintStep p (s.tainted.contains p) e := by
  cases e with
  | taint q => rw [apply, List.contains_cons, Bool.or_comm, BEq.comm]; rfl
  | wireResp n q err =>
    rw [apply, taintStep]
    cases err == 0 with
    | false => rw [Bool.and_false, Bool.not_false, Bool.and_true]; rfl
    | true =>
      rw [Bool.and_true, if_pos rfl]
      split <;> exact contains_filter_ne s.tainted p q
  | _ => rfl

theorem taintedAtEnd_run {p : Nat} {h : List Ev} {s : St} (hr : run {} h = some s) :
    s.tainted.contains p = taintedAtEnd p h := by
  rw [isMonitor.run_eq_foldl hr, taintedAtEnd_eq]
  exact (List.foldl_hom (·.tainted.contains p) fun s e => (tainted_apply p s e).symm).symm

theorem judged_of {h : List Ev} {s : St} (hr : run {} h = some s) {p : Nat}
    (hnt : taintedAtEnd p h = false) (hnd : topicDeleted (topicOf p) h = false) : judged s p = true := by
  rw [judged, taintedAtEnd_run hr, hnt, Bool.not_false, Bool.true_and, Bool.not_eq_true', ← Bool.not_eq_true,
    List.contains_iff_mem, (inv_of_run hr).gone]
  exact fun hm => Bool.false_ne_true (hnd ▸ List.any_eq_true.2 ⟨_, hm, beq_self_eq_true _⟩)

/-- An answer for, or a taint of, another partition leaves both scans of `q` where they are. -/
theorem scanStep_other {q p n : Nat} {err : Int} (hne : p ≠ q) {e : Ev} (he : e = Ev.wireResp n p err ∨ e = Ev.taint p)
    (v : List (Nat × Nat × Nat) × Option Nat) : scanStep q v e = v := by
  rcases he with rfl | rfl
  · rw [scanStep, beq_eq_false_iff_ne.2 hne, Bool.false_and, if_neg Bool.false_ne_true]
  · rfl

theorem taintStep_other {q p n : Nat} {err : Int} (hne : p ≠ q) {e : Ev} (he : e = Ev.wireResp n p err ∨ e = Ev.taint p)
    (cur : Bool) : taintStep q cur e = cur := by
  rcases he with rfl | rfl
  · rw [taintStep, beq_eq_false_iff_ne.2 hne, Bool.false_and, Bool.not_false, Bool.and_true]
  · rw [taintStep, beq_eq_false_iff_ne.2 hne, Bool.or_false]

theorem lastApplied_frame {q p n : Nat} {err : Int} (hne : p ≠ q) {e : Ev} (he : e = Ev.wireResp n p err ∨ e = Ev.taint p)
    (h₁ h₂ : List Ev) : lastApplied q (h₁ ++ e :: h₂) = lastApplied q (h₁ ++ h₂) := by
  rw [lastApplied_eq, lastApplied_eq, List.foldl_append, List.foldl_append, List.foldl_cons, scanStep_other hne he]

theorem taintedAtEnd_frame {q p n : Nat} {err : Int} (hne : p ≠ q) {e : Ev} (he : e = Ev.wireResp n p err ∨ e = Ev.taint p)
    (h₁ h₂ : List Ev) : taintedAtEnd q (h₁ ++ e :: h₂) = taintedAtEnd q (h₁ ++ h₂) := by
  rw [taintedAtEnd_eq, taintedAtEnd_eq, List.foldl_append, List.foldl_append, List.foldl_cons, taintStep_other hne he]

end Proof.Commit
