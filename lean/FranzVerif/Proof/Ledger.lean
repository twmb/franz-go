import FranzVerif.Proof.ListFacts
/-! Ledgers: the monitors keep lists to which `apply` conses what an event says, and in which `check` refuses a second
entry with the same key. Unique keys make a lookup by key the same as membership (first part). On the history side a ledger
is an observable `h.filterMap g`, which one more event extends by `(g e).toList` (`nodup_map_snoc`, `forall_mem_snoc`); the last
two lemmas say where an entry of it comes from and that it stays when the history goes on. -/
namespace Proof.Ledger
variable {α β κ ε : Type}

theorem eq_of_key_nodup [DecidableEq κ] (key : α → κ) {l : List α} (hn : (l.map key).Nodup) {a b : α}
    (ha : a ∈ l) (hb : b ∈ l) (hk : key a = key b) : a = b :=
  Option.some.inj ((List.find?_of_nodup_map key hn ha).symm.trans (hk ▸ List.find?_of_nodup_map key hn hb))

theorem nodup_key_cons {key : α → κ} {x : α} {l : List α} (hnew : ∀ y ∈ l, key y ≠ key x)
    (hn : (l.map key).Nodup) : ((x :: l).map key).Nodup := by
  rw [List.map_cons, List.nodup_cons]
  refine ⟨fun hm => ?_, hn⟩
  obtain ⟨y, hy, he⟩ := List.mem_map.1 hm
  exact hnew y hy he

theorem find?_map_some {l : List α} {p : α → Bool} {f : α → β} {b : β} (h : (l.find? p).map f = some b) :
    ∃ a ∈ l, p a = true ∧ f a = b := by
  obtain ⟨a, ha, hb⟩ := Option.map_eq_some_iff.1 h
  exact ⟨a, List.mem_of_find?_eq_some ha, List.find?_some ha, hb⟩

theorem find?_of_key_nodup [DecidableEq κ] (key : α → κ) {l : List α} (hn : (l.map key).Nodup) {p : α → Bool} {a : α}
    (hp : ∀ x, p x = true ↔ key x = key a) (ha : a ∈ l) : l.find? p = some a := by
  have : p = fun x => key x == key a := funext fun x => by rw [Bool.eq_iff_iff, hp, beq_iff_eq]
  rw [this]
  exact List.find?_of_nodup_map key hn ha

/-- with unique keys the entries of `e`'s key are `e` alone -/
theorem filter_of_key_nodup [DecidableEq κ] {key : α → κ} {l : List α} (hn : (l.map key).Nodup) {e : α}
    (he : e ∈ l) : l.filter (fun x => key x == key e) = [e] := by
  induction l with
  | nil => cases he
  | cons z zs ih =>
    rw [List.map_cons, List.nodup_cons] at hn
    have hrest : ∀ x ∈ zs, key x ≠ key z := fun x hx hfx => hn.1 (hfx ▸ List.mem_map_of_mem hx)
    rw [List.filter_cons]
    rcases List.mem_cons.1 he with rfl | he
    · rw [beq_self_eq_true, if_pos rfl, List.filter_eq_nil_iff.2 fun x hx => by simpa using hrest x hx]
    · rw [if_neg (by simpa using (hrest e he).symm)]
      exact ih hn.2 he

/-- what a lookup by key finds is in the list and has the key -/
theorem find?_key_some [BEq κ] [LawfulBEq κ] {key : α → κ} {l : List α} {k : κ} {x : α}
    (h : l.find? (fun a => key a == k) = some x) : x ∈ l ∧ key x = k :=
  ⟨List.mem_of_find?_eq_some h, beq_iff_eq.1 (List.find?_some (p := fun a => key a == k) h)⟩

/-- a list of pairs read as a map: the value found under a key is paired with it in the list -/
theorem lookup_some [BEq κ] [LawfulBEq κ] {l : List (κ × β)} {k : κ} {v : β}
    (h : (l.find? (·.1 == k)).map (·.2) = some v) : (k, v) ∈ l := by
  obtain ⟨⟨k', v'⟩, hm, hk, rfl⟩ := find?_map_some h
  rwa [← beq_iff_eq.1 hk]

theorem lookup_of_mem [DecidableEq κ] {l : List (κ × β)} (hn : (l.map (·.1)).Nodup) {k : κ} {v : β}
    (hm : (k, v) ∈ l) : (l.find? (·.1 == k)).map (·.2) = some v := by
  rw [find?_of_key_nodup (·.1) hn (fun _ => beq_iff_eq) hm]
  rfl

/-- the same for a list that is a function of the key without its keys being distinct -/
theorem lookup_of_fn [BEq κ] [LawfulBEq κ] {l : List (κ × β)} (hf : ∀ a ∈ l, ∀ b ∈ l, a.1 = b.1 → a.2 = b.2)
    {k : κ} {v : β} (hm : (k, v) ∈ l) : (l.find? (·.1 == k)).map (·.2) = some v := by
  cases hfi : l.find? (·.1 == k) with
  | none => simpa using List.find?_eq_none.1 hfi _ hm
  | some a =>
    have hk : (a.1 == k) = true := List.find?_some (p := fun x : κ × β => x.1 == k) hfi
    rw [Option.map_some, hf a (List.mem_of_find?_eq_some hfi) (k, v) hm (beq_iff_eq.1 hk)]

/-- an observable grows by what one more event shows, if anything: its keys stay unique when that one is new -/
theorem nodup_map_snoc {f : α → β} {l : List α} {o : Option α} (hl : (l.map f).Nodup)
    (ho : ∀ a ∈ o, f a ∉ l.map f) : ((l ++ o.toList).map f).Nodup := by
  cases o with
  | none => simpa using hl
  | some a =>
    rw [Option.toList_some, List.map_append]
    exact List.nodup_snoc.2 ⟨ho a rfl, hl⟩

theorem forall_mem_snoc {P : α → Prop} {l : List α} {o : Option α} (hl : ∀ a ∈ l, P a)
    (ho : ∀ a ∈ o, P a) : ∀ a ∈ l ++ o.toList, P a :=
  List.forall_mem_append.2 ⟨hl, fun a ha => ho a (Option.mem_toList.1 ha)⟩

theorem mem_filterMap_split {g : ε → Option α} {h : List ε} {a : α} (hm : a ∈ h.filterMap g) :
    ∃ h₁ e h₂, h = h₁ ++ e :: h₂ ∧ g e = some a := by
  obtain ⟨e, he, hg⟩ := List.mem_filterMap.1 hm
  obtain ⟨h₁, h₂, rfl⟩ := List.append_of_mem he
  exact ⟨h₁, e, h₂, rfl, hg⟩

theorem mem_filterMap_append_left {g : ε → Option α} {h₁ : List ε} {a : α} (hm : a ∈ h₁.filterMap g)
    (h₂ : List ε) : a ∈ (h₁ ++ h₂).filterMap g := by
  rw [List.filterMap_append]
  exact List.mem_append_left _ hm

end Proof.Ledger
