import FranzVerif.Model.C24
import FranzVerif.Gen.C24
/-! C24 — a dump that tiles `[a,b]` answers every `x` of `[a,b]` (`lookup_of_covers`), and the interval-level check
`runOk` of every run lifts to the pointwise Spec for every `x` (`table_sound`). A release table is checked against
the key table by `relOk`, which walks the two tables in step; `relOk_sound` is its `table_sound`. -/
namespace Proof.C24
open Model.C24

theorem mem_span {lo hi x : Int} (h1 : lo ≤ x) (h2 : x ≤ hi) : x ∈ span lo hi := by
  unfold span
  refine List.mem_map.mpr ⟨(x - lo).toNat, ?_, ?_⟩
  · rw [List.mem_range]; omega
  · omega

theorem lookup_cons {α : Type} (e : Entry α) (t : List (Entry α)) (x : Int) :
    lookup (e :: t) x = if e.lo ≤ x ∧ x ≤ e.hi then some e.val else lookup t x := rfl

theorem lookup_of_covers {α : Type} (t : List (Entry α)) (a b x : Int)
    (hc : covers t a b = true) (h1 : a ≤ x) (h2 : x ≤ b) :
    ∃ e ∈ t, e.lo ≤ x ∧ x ≤ e.hi ∧ lookup t x = some e.val := by
  induction t generalizing a with
  | nil =>
    simp only [covers, beq_iff_eq] at hc
    omega
  | cons e t ih =>
    simp only [covers, Bool.and_eq_true, beq_iff_eq, decide_eq_true_eq] at hc
    obtain ⟨⟨hlo, _hle⟩, hrest⟩ := hc
    by_cases hx : x ≤ e.hi
    · exact ⟨e, List.mem_cons_self, by omega, hx, by rw [lookup_cons, if_pos ⟨by omega, hx⟩]⟩
    · obtain ⟨e', hm, h3, h4, h5⟩ := ih (e.hi + 1) hrest (by omega)
      exact ⟨e', List.mem_cons_of_mem _ hm, h3, h4, by rw [lookup_cons, if_neg (fun h => hx h.2), h5]⟩

theorem runOk_sound {α : Type} (S : Int → α → Bool) (U : Int → Int → α → Bool)
    (hU : ∀ lo hi v x, U lo hi v = true → lo ≤ x → x ≤ hi → S x v = true)
    (e : Entry α) (h : runOk S U e = true) (x : Int) (h1 : e.lo ≤ x) (h2 : x ≤ e.hi) : S x e.val = true := by
  unfold runOk at h
  split at h
  · exact (List.all_eq_true.mp h) x (mem_span h1 h2)
  · exact hU _ _ _ _ h h1 h2

theorem table_sound {α : Type} (S : Int → α → Bool) (U : Int → Int → α → Bool)
    (hU : ∀ lo hi v x, U lo hi v = true → lo ≤ x → x ≤ hi → S x v = true)
    (t : List (Entry α)) (h : tableOk S U t = true) (x : Int) (h1 : int16Min ≤ x) (h2 : x ≤ int16Max) :
    ∃ e ∈ t, e.lo ≤ x ∧ x ≤ e.hi ∧ lookup t x = some e.val ∧ S x e.val = true := by
  simp only [tableOk, Bool.and_eq_true] at h
  obtain ⟨e, hm, h3, h4, h5⟩ := lookup_of_covers t int16Min int16Max x h.1 h1 h2
  exact ⟨e, hm, h3, h4, h5, runOk_sound S U hU e ((List.all_eq_true.mp h.2) e hm) x h3 h4⟩

/-- `errSpec` for an answer whose two halves are known to be equal. -/
def errCore (code : Int) (o : ErrOut) : Bool :=
  match o.efc with
  | .nil => code == 0
  | .err v => code != 0 && (v.code == code || (isUnknownServerError v && (decide (code < -1) || decide (refMaxCode < code))))
  | .other _ => false

theorem errSpec_iff (code : Int) (o : ErrOut) : errSpec code o = true ↔ o.efc = o.typed ∧ errCore code o = true := by
  rw [← beq_iff_eq (a := o.efc), ← Bool.and_eq_true]; rfl

/-- Run after run by reflexivity (a loop, because `simp` over the whole table runs out of recursion depth beyond some
    150 runs). -/
theorem err_answers_agree : ∀ e ∈ Gen.C24.errTable, e.val.typed = e.val.efc := by
  unfold Gen.C24.errTable
  repeat' first | exact List.forall_mem_nil _ | refine List.forall_mem_cons.2 ⟨rfl, ?_⟩

/-- `errSpec` read as a proposition. -/
theorem errSpec_eq_true (x : Int) (o : ErrOut) : errSpec x o = true ↔ o.efc = o.typed ∧
    match o.efc with
    | .nil => x = 0
    | .err v => x ≠ 0 ∧ (v.code = x ∨ (v.code = -1 ∧ v.msg = "UNKNOWN_SERVER_ERROR") ∧ (x < -1 ∨ 133 < x))
    | .other _ => False := by
  rw [errSpec_iff]
  obtain ⟨efc, typed⟩ := o
  cases efc <;> simp [errCore, isUnknownServerError]
  exact fun _ _ => Iff.rfl

theorem errUniform_sound (lo hi : Int) (o : ErrOut) (x : Int) (h : errUniform lo hi o = true)
    (h1 : lo ≤ x) (h2 : x ≤ hi) : errSpec x o = true := by
  unfold errUniform at h
  rw [errSpec_eq_true]
  cases hefc : o.efc with
  | nil => simp [hefc] at h
  | other w => simp [hefc] at h
  | err v =>
    simp only [hefc, isUnknownServerError, Bool.and_eq_true, Bool.or_eq_true, decide_eq_true_eq,
      beq_iff_eq] at h ⊢
    obtain ⟨heq, ⟨hunk, hz⟩, hr⟩ := h
    have hmax : refMaxCode = 133 := rfl
    refine ⟨heq, by omega, ?_⟩
    by_cases hm : x = -1
    · exact Or.inl (hunk.1.trans hm.symm)
    · exact Or.inr ⟨hunk, by omega⟩

theorem keyUniform_sound (lo hi : Int) (o : KeyOut) (x : Int) (h : keyUniform lo hi o = true)
    (_h1 : lo ≤ x) (_h2 : x ≤ hi) : keySpec x o = true := by
  simp only [keyUniform, Bool.and_eq_true, beq_iff_eq] at h
  simp [keySpec, h.1.1, h.1.2, h.2]

theorem relUniform_sound (kt : List (Entry KeyOut)) (lo hi : Int) (v : RelVal) (x : Int)
    (h : relUniform lo hi v = true) (_h1 : lo ≤ x) (_h2 : x ≤ hi) : relPoint kt x v = true := by
  simp only [relUniform, Bool.and_eq_true, Bool.not_eq_true', beq_iff_eq] at h
  simp [relPoint, relSpec, h.1, h.2]

/-- `relTableOk` without its cover test, the key table being consumed along the way: a key run that ends within
    a release run cannot answer beyond it, so every lookup finds its run at the head of what is left (looking every
    key up from the start of the table is quadratic, and slow to evaluate). -/
def relOk : List (Entry KeyOut) → List (Entry RelVal) → Bool
  | _, [] => true
  | [], _ :: _ => false
  | k :: kt, e :: t =>
    runOk (relPoint (k :: kt)) relUniform e && relOk ((k :: kt).dropWhile fun k' => decide (k'.hi ≤ e.hi)) t

theorem lookup_dropWhile {α : Type} (t : List (Entry α)) (a x : Int) (h : a < x) :
    lookup (t.dropWhile fun k => decide (k.hi ≤ a)) x = lookup t x := by
  induction t with
  | nil => rfl
  | cons k t ih =>
    rw [List.dropWhile_cons]
    split
    · next hk => rw [ih, lookup_cons, if_neg (fun hx => by have := of_decide_eq_true hk; omega)]
    · rfl

/-- `kt₀` is the whole key table, `kt` what `relOk` has left of it when the release runs still to be checked start at `a`;
`hk` is the invariant of the walk: from `a` on, what is left answers as the whole table does (`lookup_dropWhile` keeps it
when the key runs ending within the checked release run are dropped). -/
theorem relOk_sound (kt₀ kt : List (Entry KeyOut)) (t : List (Entry RelVal)) (a b : Int)
    (hk : ∀ x, a ≤ x → lookup kt x = lookup kt₀ x) (hc : covers t a b = true) (h : relOk kt t = true)
    (x : Int) (h1 : a ≤ x) (h2 : x ≤ b) : ∃ v, lookup t x = some v ∧ relPoint kt₀ x v = true := by
  induction t generalizing kt a with
  | nil =>
    simp only [covers, beq_iff_eq] at hc
    omega
  | cons e t ih =>
    simp only [covers, Bool.and_eq_true, beq_iff_eq, decide_eq_true_eq] at hc
    obtain ⟨⟨hlo, _hle⟩, hrest⟩ := hc
    cases kt with
    | nil => cases h
    | cons k kt =>
      simp only [relOk, Bool.and_eq_true] at h
      by_cases hx : x ≤ e.hi
      · refine ⟨e.val, by rw [lookup_cons, if_pos ⟨by omega, hx⟩], ?_⟩
        have := runOk_sound _ _ (relUniform_sound _) e h.1 x (by omega) hx
        rwa [relPoint, codecOf, hk x h1] at this
      · obtain ⟨v, hv, hs⟩ := ih _ (e.hi + 1)
          (fun y hy => by rw [lookup_dropWhile _ _ _ (by omega), hk y (by omega)]) hrest h.2 (by omega)
        exact ⟨v, by rw [lookup_cons, if_neg (fun h => hx h.2), hv], hs⟩

end Proof.C24
