import FranzVerif.Model.Txn
import FranzVerif.Proof.Txn
import FranzVerif.Proof.Monitor
import FranzVerif.Proof.Ledger
/-! The transaction-result monitor `Model.Txn` (C11): what an accepted event tells, and the invariant `Inv h s`
relating the state reached by `run` to the history-level observables. The state lists are the reversed
observables; record ids and ended transactions are unique; every visible id was produced by a transaction whose
End had reported a successful commit *before* the `visible` event — and, because a second `endDone` of a
transaction is refused, that is the only result the transaction has anywhere in the history. -/
namespace Proof.Txn
open Model.Txn Proof.Monitor Proof.Ledger

theorem isMonitor : IsMonitor check apply step run :=
  ⟨⟨fun _ => rfl, fun s e es => by rw [run]; cases step s e <;> rfl⟩,
   fun s e => by rw [step]; cases check s e <;> rfl⟩

theorem txnOf_some {s : St} {id : Id} {k : Nat} (h : txnOf s id = some k) : ∃ part, (id, k, part) ∈ s.recs := by
  obtain ⟨⟨i, k', part⟩, hm, hi, rfl⟩ := find?_map_some h
  exact ⟨part, by rwa [← beq_iff_eq.1 hi]⟩

theorem txnOf_of_mem {s : St} (hn : (s.recs.map (·.1)).Nodup) {id : Id} {k part : Nat}
    (hm : (id, k, part) ∈ s.recs) : txnOf s id = some k := by
  unfold txnOf
  rw [find?_of_key_nodup (·.1) hn (fun _ => beq_iff_eq) hm]
  rfl

theorem produce_check {s : St} {id : Id} {k part : Nat} (h : check s (.produce id k part) = none) :
    ∀ r ∈ s.recs, r.1 ≠ id := by
  simpa only [check, ite_some_eq_none, and_true, List.any_eq_true, beq_iff_eq, not_exists, not_and] using h

theorem endDone_check {s : St} {k : Nat} {c ok : Bool} (h : check s (.endDone k c ok) = none) :
    ∀ r ∈ s.results, r.1 ≠ k := by
  simpa only [check, ite_some_eq_none, and_true, List.any_eq_true, beq_iff_eq, not_exists, not_and] using h

/-- the rule of `check` for a `visible` event, as a function of its own so that `fun_cases` opens it branch by branch -/
def visibleRule (s : St) (id : Id) : Option String :=
  match txnOf s id with
  | none => some "C11.visible-record-never-produced"
  | some k =>
    if s.vis.any (·.2.2 == id) then some "C11.record-visible-twice"
    else match resultOf s k with
      | some (true, true) => none
      | some (false, _) => some "C11.aborted-transaction-record-visible"
      | some (true, false) =>
        if s.lostEnd.contains k then some "C11.unconfirmed-commit-took-effect"
        else some "C11.failed-commit-record-visible"
      | none => some "C11.unended-transaction-record-visible"

theorem check_visible (s : St) (part off : Nat) (id : Id) : check s (.visible part off id) = visibleRule s id := rfl

theorem visible_check {s : St} {part off : Nat} {id : Id} (h : check s (.visible part off id) = none) :
    id ∉ s.vis.map (·.2.2) ∧ ∃ k, txnOf s id = some k ∧ resultOf s k = some (true, true) := by
  revert h
  rw [check_visible]
  fun_cases visibleRule s id <;> intro h <;> try cases h
  next k hk hv hres =>
    exact ⟨by simpa only [List.mem_map, not_exists, not_and, List.any_eq_true, beq_iff_eq] using hv, k, hk, hres⟩

theorem quiesce_check {s : St} (h : check s .quiesce = none) (hinc : s.incomplete = false) :
    ∀ r ∈ s.recs, r.1 ∈ s.acked → resultOf s r.2.1 = some (true, true) → r.1 ∈ s.vis.map (·.2.2) := by
  simp only [check, hinc, Bool.false_eq_true, if_false, ite_some_eq_none, and_true, List.any_eq_true, not_exists,
    not_and] at h
  intro r hr ha hres
  cases hv : s.vis.any (·.2.2 == r.1) with
  | true => exact (List.any_beq_iff _ _ _).1 hv
  | false => exact absurd (by rw [List.contains_iff_mem.2 ha, hres, hv]; rfl) (h r hr)

/-- Keys of which `check` refuses a second entry, on the state alone so that `IsMonitor.inv_state` carries them along
a run; `inv_of_run` moves them onto the observables. -/
structure Good (s : St) : Prop where
  /-- record ids are never reused -/
  recsNodup : (s.recs.map (·.1)).Nodup
  /-- a transaction is ended at most once -/
  resNodup : (s.results.map (·.1)).Nodup
  visNodup : (s.vis.map (·.2.2)).Nodup

theorem Good.step {s : St} (hg : Good s) (ev : Ev) (hchk : check s ev = none) : Good (apply s ev) := by
  fun_cases apply s ev <;> try exact { hg with }
  next id k part => exact { hg with recsNodup := nodup_key_cons (produce_check hchk) hg.recsNodup }
  next k c ok => exact { hg with resNodup := nodup_key_cons (endDone_check hchk) hg.resNodup }
  next part off id => exact { hg with visNodup := List.nodup_cons.2 ⟨(visible_check hchk).1, hg.visNodup⟩ }

structure Inv (h : List Ev) (s : St) : Prop where
  recs : s.recs = (producedOf h).reverse
  acked : s.acked = (ackedOf h).reverse
  results : s.results = (resultsOf h).reverse
  vis : s.vis.map (·.2.2) = (visibleIds h).reverse
  incomplete : s.incomplete = isIncomplete h
  /-- record ids are never reused -/
  idsNodup : ((producedOf h).map (·.1)).Nodup
  /-- a transaction is ended at most once -/
  resNodup : ((resultsOf h).map (·.1)).Nodup
  visNodup : (visibleIds h).Nodup
  /-- a visible record was produced by a transaction whose End reported a successful commit -/
  visOk : ∀ id ∈ visibleIds h, ∃ k part, (id, k, part) ∈ producedOf h ∧ (k, true, true) ∈ resultsOf h

theorem recs_of_run {h : List Ev} {s : St} (hr : run {} h = some s) : s.recs = (producedOf h).reverse :=
  isMonitor.field (f := (·.recs)) (fun s ev => by fun_cases apply s ev <;> rfl) rfl hr

theorem results_of_run {h : List Ev} {s : St} (hr : run {} h = some s) : s.results = (resultsOf h).reverse :=
  isMonitor.field (f := (·.results)) (fun s ev => by fun_cases apply s ev <;> rfl) rfl hr

/-- The fields that only record are read off `apply` (`IsMonitor.field`/`flag`), the unique keys come from `Good`, and
`visOk` restates the rule of `visible` at the event (`IsMonitor.check_of_mem`): the record and the result it found are
still in the ledgers at the end. -/
theorem inv_of_run {h : List Ev} {s : St} (hr : run {} h = some s) : Inv h s := by
  have hg : Good s := isMonitor.inv_state (fun _ ev hg => hg.step ev) (by constructor <;> simp) hr
  have recs := recs_of_run hr
  have results := results_of_run hr
  have vis : s.vis.map (·.2.2) = (visibleIds h).reverse :=
    isMonitor.field (f := fun s => s.vis.map (·.2.2)) (fun s ev => by fun_cases apply s ev <;> rfl) rfl hr
  exact {
    recs, results, vis
    acked := isMonitor.field (f := (·.acked)) (fun s ev => by
      fun_cases apply s ev <;> try rfl
      next h => rw [Bool.eq_false_iff.2 h]; rfl) rfl hr
    incomplete := isMonitor.flag (f := (·.incomplete)) (fun s ev => by fun_cases apply s ev <;> rfl) rfl hr
    idsNodup := List.nodup_reverse.1 (List.map_reverse ▸ recs ▸ hg.recsNodup)
    resNodup := List.nodup_reverse.1 (List.map_reverse ▸ results ▸ hg.resNodup)
    visNodup := List.nodup_reverse.1 (vis ▸ hg.visNodup)
    visOk := fun id hv => by
      obtain ⟨ev, hev, he⟩ := List.mem_filterMap.1 hv
      cases ev <;> cases he
      obtain ⟨h₁, h₂, s₁, rfl, hr₁, hchk⟩ := isMonitor.check_of_mem hr hev
      obtain ⟨-, k, htx, hres⟩ := visible_check hchk
      obtain ⟨p, hp⟩ := txnOf_some htx
      exact ⟨k, p, mem_filterMap_append_left (List.mem_reverse.1 (recs_of_run hr₁ ▸ hp)) _,
        mem_filterMap_append_left (List.mem_reverse.1 (results_of_run hr₁ ▸ lookup_some hres)) _⟩ }

theorem Inv.txnOf_of_mem {h : List Ev} {s : St} (hi : Inv h s) {id : Id} {k part : Nat}
    (hp : (id, k, part) ∈ producedOf h) : txnOf s id = some k :=
  Txn.txnOf_of_mem (by rw [hi.recs, List.map_reverse]; exact List.nodup_reverse.2 hi.idsNodup)
    (hi.recs ▸ List.mem_reverse.2 hp)

theorem Inv.resultOf_of_mem {h : List Ev} {s : St} (hi : Inv h s) {k : Nat} {r : Bool × Bool}
    (hr : (k, r) ∈ resultsOf h) : resultOf s k = some r :=
  lookup_of_mem (by rw [hi.results, List.map_reverse]; exact List.nodup_reverse.2 hi.resNodup)
    (hi.results ▸ List.mem_reverse.2 hr)

theorem Inv.visible_result {h : List Ev} {s : St} (hi : Inv h s) {id : Id} {k part : Nat}
    (hp : (id, k, part) ∈ producedOf h) (hv : id ∈ visibleIds h) :
    (k, true, true) ∈ resultsOf h ∧ ∀ c ok, (k, c, ok) ∈ resultsOf h → c = true ∧ ok = true := by
  obtain ⟨k', p', h1, h2⟩ := hi.visOk id hv
  obtain rfl : k = k' := (Prod.mk.inj (Prod.mk.inj (eq_of_key_nodup (·.1) hi.idsNodup hp h1 rfl)).2).1
  exact ⟨h2, fun c ok hr => Prod.mk.inj (Prod.mk.inj (eq_of_key_nodup (·.1) hi.resNodup hr h2 rfl)).2⟩

end Proof.Txn
