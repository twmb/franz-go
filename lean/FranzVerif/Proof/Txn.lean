import FranzVerif.Model.Txn
/-! History-level observables for the transaction monitors (C10, C11). -/
namespace Proof.Txn
open Model.Txn

def producedOf (h : List Ev) : List (Id × Nat × Nat) :=
  h.filterMap (fun e => match e with | .produce i k p => some (i, k, p) | _ => none)
def ackedOf (h : List Ev) : List Id :=
  h.filterMap (fun e => match e with | .promise i true _ _ => some i | _ => none)
/-- results of EndTransaction calls `(txn, commit requested, returned nil)` -/
def resultsOf (h : List Ev) : List (Nat × Bool × Bool) :=
  h.filterMap (fun e => match e with | .endDone k c ok => some (k, c, ok) | _ => none)
def visibleIds (h : List Ev) : List Id :=
  h.filterMap (fun e => match e with | .visible _ _ i => some i | _ => none)
def isIncomplete (h : List Ev) : Bool := h.any (fun e => e == .incomplete)
/-- transaction `k` had an EndTxn request that the broker handled while its response was lost, during its End call.
(Implied by the monitor's `k ∈ s.lostEnd`, `Proof.Txn.LostInv.lost`; the converse fails only for histories with an
`endStart` of another transaction between `endStart k` and the fault, which the sequential harness never emits.) -/
def endResponseLost (k : Nat) : List Ev → Bool
  | [] => false
  | .endStart k' _ :: rest =>
    if k' == k then (rest.takeWhile (fun e => match e with | .endDone _ _ _ => false | _ => true)).any (fun e => e == .fault 26 2) || endResponseLost k rest
    else endResponseLost k rest
  | _ :: rest => endResponseLost k rest

end Proof.Txn

namespace Proof.Eos
open Model.Eos

def inputsOf (h : List Ev) : List Id := h.filterMap (fun e => match e with | .input i => some i | _ => none)
def outputIds (h : List Ev) : List Id := h.filterMap (fun e => match e with | .output _ i _ _ => some i | _ => none)
def isIncomplete (h : List Ev) : Bool := h.any (fun e => e == .incomplete)

end Proof.Eos
