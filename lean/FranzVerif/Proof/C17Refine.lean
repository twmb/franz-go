import FranzVerif.Proof.C17Reader
/-! C17 — every `kbin.Reader` method refines the Spec's reader contract `Spec.C17.step` on every
well-formed reader: `Sim` relates one model read to the Spec's `read`; the reads that return an integer,
which are also the headers of the length-prefixed kinds, go through `Hdr` (`C17Reader`). -/
namespace Proof.C17
open Model.C17
open Spec.C17 hiding Bytes

/-- what one model read returns, as an observable -/
inductive MR where
  | i (v : Int) | b (v : Bool) | o (v : Option Bytes)
deriving DecidableEq, Repr

/-- does the model result denote the Spec value? nil and empty are the same value except where nil
means null (same rule as the driver's `valMatches` on the implementation's printed result) -/
def matchesVal : Val → MR → Bool
  | .int i, .i v => i == v
  | .bool b, .b v => b == v
  | .bytes b, .o none => b.isEmpty
  | .bytes b, .o (some x) => x == b
  | .null, .o none => true
  | _, _ => false

def ofS {w : Nat} (x : Option (BitVec w × Reader)) : Option (MR × Reader) := x.map fun (v, r) => (.i v.toInt, r)
def ofU {w : Nat} (x : Option (BitVec w × Reader)) : Option (MR × Reader) := x.map fun (v, r) => (.i v.toNat, r)
def ofB (x : Option (Bytes × Reader)) : Option (MR × Reader) := x.map fun (v, r) => (.o (some v), r)
def ofO (x : Option (Option Bytes × Reader)) : Option (MR × Reader) := x.map fun (v, r) => (.o v, r)

/-- the model method of each Spec kind (`none` = run-time panic). `Driver/C17.lean` does not link this module: it has
its own copy of the table (`method`, keyed by the op token, with `kindOf` for the Spec side), and that copy is what the
differential run exercises. -/
def run (k : Kind) (r : Reader) : Option (MR × Reader) :=
  match k with
  | .bool => r.bool.map fun (v, r') => (.b v, r')
  | .int8 => ofS r.int8 | .int16 => ofS r.int16 | .uint16 => ofU r.uint16
  | .int32 => ofS r.int32 | .uint32 => ofU r.uint32 | .int64 => ofS r.int64
  | .float64 => ofU r.float64 | .uuid => ofB r.uuid
  | .varint => ofS r.varint | .uvarint => ofU r.uvarint | .varlong => ofS r.varlong
  | .span l => ofO (r.span l)
  | .string => ofB r.string | .compactString => ofB r.compactString
  | .nullableString => ofO r.nullableString | .compactNullableString => ofO r.compactNullableString
  | .bytes => ofO r.bytes | .compactBytes => ofO r.compactBytes
  | .nullableBytes => ofO r.nullableBytes | .compactNullableBytes => ofO r.compactNullableBytes
  | .arrayLen => ofS r.arrayLen | .varintArrayLen => ofS r.varintArrayLen | .compactArrayLen => ofS r.compactArrayLen
  | .varintBytes => ofO r.varintBytes | .varintString => ofB r.varintString

/-- reader invariant: `bad` is only ever set together with `Src = nil`; a nil `Src` is empty -/
def WF (r : Reader) : Prop := (r.bad = true → r = Reader.invalid) ∧ (r.srcNil = true → r.src = [])

/-- the model read on `r` does what the Spec's `read` result says: a value and a length `n` are matched
by a result that denotes the value and a reader advanced by `n`; a failure by an invalidated reader (and
no panic) -/
inductive Sim (r : Reader) : Option (Val × Nat) → Option (MR × Reader) → Prop
  | ok {v : Val} {n : Nat} {res : MR} (hl : n ≤ r.src.length) (hv : matchesVal v res = true) :
    Sim r (some (v, n)) (some (res, adv r n))
  | fail {res : MR} : Sim r none (some (res, Reader.invalid))

theorem beqInt (a : Int) : (a == a) = true := by simp

theorem fixed_some {k : Nat} {s : Bytes} {v n : Nat} (h : fixed k s = some (v, n)) : n = k := by
  unfold fixed at h
  split at h <;> cases h
  rfl

theorem sim_int {w : Nat} {r : Reader} {f : BitVec w → BitVec w} {sp : Option (Nat × Nat)} {m : Option (BitVec w × Reader)}
    (h : Hdr r f sp m) (g : Nat → Val) (conv : BitVec w → MR)
    (hval : ∀ x : BitVec w, matchesVal (g x.toNat) (conv (f x)) = true) :
    Sim r (sp.map fun (v, n) => (g v, n)) (m.map fun (x, r') => (conv x, r')) := by
  rcases h with ⟨rfl, rfl⟩ | ⟨x, n, hl, rfl, rfl⟩
  · exact .fail
  · exact .ok hl (hval x)

theorem sim_signed {w : Nat} {r : Reader} {sp : Option (Nat × Nat)} {m : Option (BitVec w × Reader)}
    (h : Hdr r (fun x => x) sp m) (hw : 0 < w) : Sim r (sp.map fun (v, n) => (.int (signed w v), n)) (ofS m) :=
  sim_int h (fun v => .int (signed w v)) (fun x => .i x.toInt) fun x => by
    rw [signed_toNat hw]; exact beqInt _

theorem sim_unsigned {w : Nat} {r : Reader} {sp : Option (Nat × Nat)} {m : Option (BitVec w × Reader)}
    (h : Hdr r (fun x => x) sp m) : Sim r (sp.map fun (v, n) => (.int v, n)) (ofU m) :=
  sim_int h (fun v => .int v) (fun x => .i x.toNat) fun _ => beqInt _

theorem sim_bool (r : Reader) : Sim r (read .bool r.src) (run .bool r) := by
  have h := sim_int (hdr_int8 r) (fun v => .bool (v != 0)) (fun x => .b (x != 0#8)) fun x => by
    by_cases h0 : x = 0#8
    · subst h0; rfl
    · have : x.toNat ≠ 0 := fun e => h0 (BitVec.eq_of_toNat_eq e)
      rw [matchesVal, bne_iff_ne.mpr h0, bne_iff_ne.mpr this]; rfl
  rw [run, bool_eq]
  generalize r.int8 = m at h ⊢
  rcases m with _ | ⟨x, r'⟩ <;> exact h

theorem read_varlong (src : Bytes) : read .varlong src = (uvarOf 64 10 src).map fun (v, n) => (.int (unzz v), n) := by
  rw [Spec.C17.read, uvarOf]
  rcases decU 64 10 src with ⟨v, n⟩
  dsimp only
  split <;> rfl

theorem sim_varlong (r : Reader) : Sim r (read .varlong r.src) (run .varlong r) := by
  rw [read_varlong]
  exact sim_int (hdr_varlong r) (fun v => .int (unzz v)) (fun x => .i x.toInt) fun x => by
    rw [unzigzag64_spec]; exact beqInt _

theorem span_adv (r : Reader) (n : Nat) (hn : n ≤ r.src.length) (L : Int) : (adv r n).span L = some (
    if L < 0 ∨ (r.src.length : Int) < n + L then (none, Reader.invalid)
    else (if r.srcNil then none else some ((r.src.drop n).take L.toNat), adv r (n + L.toNat))) := by
  rw [span_eq, adv_src, adv_srcNil, adv_adv, List.length_drop]
  by_cases h : L < 0 ∨ (r.src.length : Int) < n + L
  · rw [if_pos h, if_pos (by omega)]
  · rw [if_neg h, if_neg (by omega)]

theorem payload_eq (src : Bytes) (n : Nat) (L : Int) : payload src n L =
    if L < 0 ∨ (src.length : Int) < n + L then none else some (.bytes ((src.drop n).take L.toNat), n + L.toNat) := by
  unfold payload
  by_cases h1 : L < 0
  · rw [if_pos h1, if_pos (Or.inl h1)]
  · by_cases h2 : (src.length : Int) < n + L
    · rw [if_neg h1, if_pos h2, if_pos (Or.inr h2)]
    · rw [if_neg h1, if_neg h2, if_neg (by omega)]

/-- a nil `Src` is empty, so the nil span it yields stands for the empty payload -/
theorem matches_o (r : Reader) (hwf : WF r) (n k : Nat) :
    matchesVal (.bytes ((r.src.drop n).take k)) (.o (if r.srcNil then none else some ((r.src.drop n).take k))) = true := by
  by_cases h : r.srcNil = true
  · simp [h, matchesVal, hwf.2 h]
  · simp [h, matchesVal]

theorem matches_str (r : Reader) (hwf : WF r) (n k : Nat) :
    matchesVal (.bytes ((r.src.drop n).take k))
      (.o (some (Reader.str (if r.srcNil then none else some ((r.src.drop n).take k))))) = true := by
  by_cases h : r.srcNil = true
  · simp [h, matchesVal, hwf.2 h, Reader.str]
  · simp [h, matchesVal, Reader.str]

/-- Tail of every length-prefixed read: `Span(L)` after an `n`-byte header is the Spec's `payload`,
whatever the method does with the slice (`post`), as long as the result still denotes its bytes. -/
theorem sim_payload (r : Reader) (n : Nat) (hn : n ≤ r.src.length) (L : Int) (post : Option Bytes → Option Bytes)
    (hpost : ∀ k, matchesVal (.bytes ((r.src.drop n).take k))
      (.o (post (if r.srcNil then none else some ((r.src.drop n).take k)))) = true) :
    Sim r (payload r.src n L) (((adv r n).span L).map fun (s, r2) => (.o (post s), r2)) := by
  rw [span_adv r n hn, payload_eq]
  by_cases h : L < 0 ∨ (r.src.length : Int) < n + L
  · rw [if_pos h, if_pos h]; exact .fail
  · rw [if_neg h, if_neg h]
    exact .ok (by omega) (hpost _)

theorem sim_payload_o (r : Reader) (hwf : WF r) (n : Nat) (hn : n ≤ r.src.length) (L : Int) :
    Sim r (payload r.src n L) (ofO ((adv r n).span L)) :=
  sim_payload r n hn L id (matches_o r hwf n)

theorem sim_payload_str (r : Reader) (hwf : WF r) (n : Nat) (hn : n ≤ r.src.length) (L : Int) :
    Sim r (payload r.src n L) (ofB (((adv r n).span L).map fun (s, r2) => (Reader.str s, r2))) := by
  have h := sim_payload r n hn L (fun s => some (Reader.str s)) (matches_str r hwf n)
  generalize (adv r n).span L = x at h ⊢
  rcases x with _ | ⟨s, r2⟩ <;> exact h

theorem sim_payload_osome (r : Reader) (hwf : WF r) (n : Nat) (hn : n ≤ r.src.length) (L : Int) :
    Sim r (payload r.src n L) (ofO (((adv r n).span L).map fun (s, r2) => (some (Reader.str s), r2))) := by
  have h := sim_payload_str r hwf n hn L
  generalize (adv r n).span L = x at h ⊢
  rcases x with _ | ⟨s, r2⟩ <;> exact h

theorem sim_uuid (r : Reader) (hwf : WF r) : Sim r (read .uuid r.src) (run .uuid r) := by
  simp only [Spec.C17.read, run, Reader.uuid, ofB]
  rw [← adv_zero r, span_adv r 0 (Nat.zero_le _) 16, adv_zero]
  by_cases h : r.src.length < 16
  · rw [if_pos h, if_pos (by omega)]; exact .fail
  · rw [if_neg h, if_neg (by omega)]
    refine .ok (by omega) ?_
    have hn : r.srcNil = false := by
      rcases hs : r.srcNil with _ | _
      · rfl
      · have := hwf.2 hs; rw [this] at h; simp at h
    simp [hn, matchesVal]

/-- A kind that reads a header and goes on from it (`F`: the rest of the method and the wrapper of `run`): when the
header fails, what follows runs on the invalidated reader and must leave it so; when it succeeds, what
follows is compared on its own. -/
theorem sim_hdr {w : Nat} {r : Reader} {f : BitVec w → BitVec w} {sp : Option (Nat × Nat)} {m : Option (BitVec w × Reader)}
    (h : Hdr r f sp m) (F : Option (BitVec w × Reader) → Option (MR × Reader)) {sk : Nat × Nat → Option (Val × Nat)}
    (hfail : Sim r none (F (some (0#w, Reader.invalid))))
    (hok : ∀ x n, n ≤ r.src.length → sp = some (x.toNat, n) → Sim r (sk (x.toNat, n)) (F (some (f x, adv r n)))) :
    Sim r (sp.bind sk) (F m) := by
  rcases h with ⟨rfl, rfl⟩ | ⟨x, n, hl, rfl, rfl⟩
  · exact hfail
  · exact hok x n hl rfl

/-- A null test on the length, made by both sides (`c` by the Spec, `c'` by the method) before the payload is looked at. -/
theorem sim_ite {r : Reader} {c c' : Prop} [Decidable c] [Decidable c'] (hc : c ↔ c') {α : Type}
    (wrap : Option α → Option (MR × Reader)) {sp sp' : Option (Val × Nat)} {m m' : Option α}
    (h : Sim r sp (wrap m)) (h' : Sim r sp' (wrap m')) :
    Sim r (if c then sp else sp') (wrap (if c' then m else m')) := by
  by_cases hx : c
  · rw [if_pos hx, if_pos (hc.1 hx)]; exact h
  · rw [if_neg hx, if_neg fun h => hx (hc.2 h)]; exact h'

theorem sim_string (r : Reader) (hwf : WF r) : Sim r (read .string r.src) (run .string r) :=
  sim_hdr (hdr_int16 r) (fun m => ofB (m.bind _)) .fail fun x n hl hs => by
    obtain rfl := fixed_some hs
    simp only [Option.bind_some, signed_toNat (by decide : 0 < 16)]
    exact sim_payload_str r hwf 2 hl _

theorem sim_nullableString (r : Reader) (hwf : WF r) : Sim r (read .nullableString r.src) (run .nullableString r) :=
  sim_hdr (hdr_int16 r) (fun m => ofO (m.bind _)) .fail fun x n hl hs => by
    obtain rfl := fixed_some hs
    simp only [Option.bind_some, signed_toNat (by decide : 0 < 16)]
    exact sim_ite Iff.rfl ofO (.ok hl rfl) (sim_payload_osome r hwf 2 hl _)

theorem sim_compactString (r : Reader) (hwf : WF r) : Sim r (read .compactString r.src) (run .compactString r) :=
  sim_hdr (hdr_uvarint r) (fun m => ofB (m.bind _)) .fail fun x n hl _ => by
    simp only [Option.bind_some, Reader.uvm1]
    exact sim_payload_str r hwf n hl _

theorem sim_compactNullableString (r : Reader) (hwf : WF r) :
    Sim r (read .compactNullableString r.src) (run .compactNullableString r) :=
  sim_hdr (hdr_uvarint r) (fun m => ofO (m.bind _)) .fail fun x n hl _ => by
    simp only [Option.bind_some, Reader.uvm1]
    exact sim_ite (by omega) ofO (.ok hl rfl) (sim_payload_osome r hwf n hl _)

theorem sim_bytes (r : Reader) (hwf : WF r) : Sim r (read .bytes r.src) (run .bytes r) :=
  sim_hdr (hdr_int32 r) (fun m => ofO (m.bind _)) .fail fun x n hl hs => by
    obtain rfl := fixed_some hs
    simp only [Option.bind_some, signed_toNat (by decide : 0 < 32)]
    exact sim_ite Iff.rfl ofO (.ok hl rfl) (sim_payload_o r hwf 4 hl _)

theorem sim_nullableBytes (r : Reader) (hwf : WF r) : Sim r (read .nullableBytes r.src) (run .nullableBytes r) :=
  sim_hdr (hdr_int32 r) (fun m => ofO (m.bind _)) .fail fun x n hl hs => by
    obtain rfl := fixed_some hs
    simp only [Option.bind_some, signed_toNat (by decide : 0 < 32)]
    exact sim_ite Iff.rfl ofO (.ok hl rfl) (sim_payload_o r hwf 4 hl _)

theorem sim_compactBytes (r : Reader) (hwf : WF r) : Sim r (read .compactBytes r.src) (run .compactBytes r) :=
  sim_hdr (hdr_uvarint r) (fun m => ofO (m.bind _)) .fail fun x n hl _ => by
    simp only [Option.bind_some, Reader.uvm1]
    exact sim_ite (by omega) ofO (.ok hl rfl) (sim_payload_o r hwf n hl _)

theorem sim_compactNullableBytes (r : Reader) (hwf : WF r) :
    Sim r (read .compactNullableBytes r.src) (run .compactNullableBytes r) :=
  sim_hdr (hdr_uvarint r) (fun m => ofO (m.bind _)) .fail fun x n hl _ => by
    simp only [Option.bind_some, Reader.uvm1]
    exact sim_ite (by omega) ofO (.ok hl rfl) (sim_payload_o r hwf n hl _)

theorem sim_varintBytes (r : Reader) (hwf : WF r) : Sim r (read .varintBytes r.src) (run .varintBytes r) :=
  sim_hdr (hdr_varint r) (fun m => ofO (m.bind _)) .fail fun x n hl _ => by
    simp only [Option.bind_some, unzigzag32_spec]
    exact sim_ite Iff.rfl ofO (.ok hl rfl) (sim_payload_o r hwf n hl _)

/-- `VarintString` is `string(b.VarintBytes())`: the wrapper takes the conversion in -/
theorem sim_varintString (r : Reader) (hwf : WF r) : Sim r (read .varintString r.src) (run .varintString r) :=
  sim_hdr (hdr_varint r) (fun m => ofB ((m.bind _).map _)) .fail fun x n hl _ => by
    simp only [Option.bind_some, unzigzag32_spec]
    exact sim_ite Iff.rfl (fun y => ofB (y.map (Prod.map Reader.str id))) (.ok hl rfl) (sim_payload_str r hwf n hl _)

theorem sim_arrayTail (r : Reader) (n : Nat) (hn : n ≤ r.src.length) (x : BitVec 32) (c : Int) (hc : x.toInt = c) :
    Sim r (arr r.src n c) (ofS (some (Reader.arrayTail (adv r n) x))) := by
  unfold arr Reader.arrayTail
  rw [adv_src, List.length_drop, hc]
  by_cases h : ((r.src.length : Int) - n) < c
  · rw [if_pos h, if_pos (by omega)]; exact .fail
  · rw [if_neg h, if_neg (by omega)]
    exact .ok hn (hc ▸ beqInt _)

theorem sim_arrayLen (r : Reader) : Sim r (read .arrayLen r.src) (run .arrayLen r) :=
  sim_hdr (hdr_int32 r) (fun m => ofS (m.map _)) .fail fun x n hl hs => by
    obtain rfl := fixed_some hs
    exact sim_arrayTail r 4 hl _ _ (signed_toNat (by decide) x).symm

theorem sim_varintArrayLen (r : Reader) : Sim r (read .varintArrayLen r.src) (run .varintArrayLen r) :=
  sim_hdr (hdr_varint r) (fun m => ofS (m.map _)) .fail fun x n hl _ => sim_arrayTail r n hl _ _ (unzigzag32_spec x)

theorem sub1_toInt (x : BitVec 32) : (x - 1#32).toInt = signed 32 (pattern 32 ((x.toNat : Int) - 1)) := by
  have hp : pattern 32 ((x.toNat : Int) - 1) = (x - 1#32).toNat := by
    have := x.isLt
    rw [BitVec.toNat_sub]
    simp only [pattern, BitVec.toNat_ofNat, Nat.reducePow, Nat.reduceMod]
    omega
  rw [hp, signed_toNat (by decide)]

theorem sim_compactArrayLen (r : Reader) : Sim r (read .compactArrayLen r.src) (run .compactArrayLen r) :=
  sim_hdr (hdr_uvarint r) (fun m => ofS (m.map _)) .fail fun x n hl _ => sim_arrayTail r n hl _ _ (sub1_toInt x)

theorem sim_all (k : Kind) (r : Reader) (hwf : WF r) : Sim r (read k r.src) (run k r) := by
  cases k with
  | bool => exact sim_bool r
  | int8 => exact sim_signed (hdr_int8 r) (by decide)
  | int16 => exact sim_signed (hdr_int16 r) (by decide)
  | uint16 => exact sim_unsigned (hdr_int16 r)
  | int32 => exact sim_signed (hdr_int32 r) (by decide)
  | uint32 => exact sim_unsigned (hdr_int32 r)
  | int64 => exact sim_signed (hdr_int64 r) (by decide)
  | float64 => exact sim_unsigned (hdr_int64 r)
  | uvarint => exact sim_unsigned (hdr_uvarint r)
  | varint =>
    exact sim_int (hdr_varint r) (fun v => .int (unzz v)) (fun x => .i x.toInt) fun x => by
      rw [unzigzag32_spec]; exact beqInt _
  | varlong => exact sim_varlong r
  | uuid => exact sim_uuid r hwf
  | span l => exact sim_payload_o r hwf 0 (Nat.zero_le _) l
  | string => exact sim_string r hwf
  | compactString => exact sim_compactString r hwf
  | nullableString => exact sim_nullableString r hwf
  | compactNullableString => exact sim_compactNullableString r hwf
  | bytes => exact sim_bytes r hwf
  | compactBytes => exact sim_compactBytes r hwf
  | nullableBytes => exact sim_nullableBytes r hwf
  | compactNullableBytes => exact sim_compactNullableBytes r hwf
  | arrayLen => exact sim_arrayLen r
  | varintArrayLen => exact sim_varintArrayLen r
  | compactArrayLen => exact sim_compactArrayLen r
  | varintBytes => exact sim_varintBytes r hwf
  | varintString => exact sim_varintString r hwf

/-- the Spec's observable state of a model reader -/
def absR (r : Reader) : RState := { src := r.src, ok := !r.bad }

theorem step_some (k : Kind) (s : RState) (h : s.ok = true) {v : Val} {n : Nat} (hr : read k s.src = some (v, n)) :
    step k s = (some v, { src := s.src.drop n, ok := true }) := by
  simp [step, h, hr]
theorem step_none (k : Kind) (s : RState) (h : s.ok = true) (hr : read k s.src = none) :
    step k s = (none, { src := [], ok := false }) := by
  simp [step, h, hr]
theorem step_bad (k : Kind) (s : RState) (h : s.ok = false) : step k s = (none, { src := [], ok := false }) := by
  simp [step, h]

theorem wf_invalid : WF Reader.invalid := ⟨fun _ => rfl, fun _ => rfl⟩
theorem wf_adv (r : Reader) (hwf : WF r) (hb : r.bad = false) (n : Nat) : WF (adv r n) := by
  refine ⟨fun h => ?_, fun h => ?_⟩
  · have : r.bad = true := h
    rw [hb] at this; cases this
  · have : r.srcNil = true := h
    rw [adv_src, hwf.2 this]; simp

/-- the zero value of each kind, exactly as the Go code produces it on an invalidated reader (note
`CompactBytes` gives the empty non-nil slice and `NullableString` a non-nil pointer to "", where `Bytes` and
`CompactNullableString` give nil) -/
def zeroRes : Kind → MR
  | .bool => .b false
  | .int8 | .int16 | .uint16 | .int32 | .uint32 | .int64 | .float64 | .varint | .uvarint | .varlong => .i 0
  | .arrayLen | .varintArrayLen => .i 0
  | .compactArrayLen => .i (-1)   -- `int32(0) - 1`, and `len(nil) < -1` is false: the code returns -1 (null array), not 0
  | .uuid => .o (some (List.replicate 16 0#8))
  | .span _ => .o none
  | .string | .compactString | .varintString | .nullableString => .o (some [])
  | .compactNullableString | .bytes | .nullableBytes | .compactNullableBytes | .varintBytes => .o none
  | .compactBytes => .o (some [])

theorem run_invalid_zero (k : Kind) : run k Reader.invalid = some (zeroRes k, Reader.invalid) := by
  cases k with
  | span l => exact congrArg ofO (span_invalid l)
  | _ => rfl

/-- a sequence of reads (`none` = some read panicked) -/
def runAll : List Kind → Reader → Option (List MR × Reader)
  | [], r => some ([], r)
  | k :: ks, r => (run k r).bind fun (v, r') => (runAll ks r').map fun (vs, r'') => (v :: vs, r'')

def stepAll : List Kind → RState → RState
  | [], s => s
  | k :: ks, s => stepAll ks (step k s).2

end Proof.C17
