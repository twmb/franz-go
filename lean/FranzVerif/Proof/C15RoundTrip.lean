import FranzVerif.Proof.C15Width
/-! The generic round trip `dec (enc x ++ rest) = canon x` (mutual induction over `Ty` / `Fields`). -/
namespace Proof.C15
open Model.C15

/-- `0 ≤ c.ver`: below version 0 `emptyArr` turns the null array of a nullable kind into an empty one, which `canon` does not
(`emptyArr_null`). The cap covers the whole input because an array's `make` is checked against it (`goMake_ok`); a tagged field's
payload is decoded on its own, so there the cap has to cover the payload. -/
def DecEnc (t : Ty) : Prop :=
  ∀ (c : Cfg) (flex : Bool) (v : Val) (bs rest : Bytes),
    0 ≤ c.ver → schemaOK c.ver t = true → enc c.ver flex t v = some bs → bs.length + rest.length ≤ c.cap →
    dec c flex t (bs ++ rest) = .ok (canon c.ver t v) rest

/-- First conjunct: the body fields. Second: the tagged fields, applied from a raw tag list that contains exactly the struct's own
entries for every defined tag (so the unknown tags that follow them on the wire do not matter). -/
def DecEncF (fs : Fields) : Prop :=
  ∀ (c : Cfg) (flex : Bool), 0 ≤ c.ver → schemaOKF c.ver flex fs = true →
    (∀ (vals : Vals) (body rest : Bytes), encFields c.ver flex fs vals = some body → body.length + rest.length ≤ c.cap →
      decFields c flex fs (body ++ rest) = .ok (canonFields c.ver false fs vals) rest) ∧
    (∀ (vals : Vals) (tags raw : List (Nat × Bytes)), flex = true → encTags c.ver flex fs vals = some tags → tagsDistinct fs = true →
      (∀ k ∈ knownTags fs, raw.filter (fun e => e.1 == k) = tags.filter (fun e => e.1 == k)) →
      (∀ e ∈ tags, e.2.length ≤ c.cap) →
      applyTags c flex fs raw (canonFields c.ver false fs vals) = .ok (canonFields c.ver true fs vals) [])

theorem decList_encList (c : Cfg) (flex : Bool) (t : Ty) (ht : DecEnc t) (hv : 0 ≤ c.ver) (hs : schemaOK c.ver t = true) :
    ∀ (vs : Vals) (b rest : Bytes), encList c.ver flex t vs = some b → b.length + rest.length ≤ c.cap →
      decList c flex t vs.length (b ++ rest) = .ok (canonList c.ver t vs) rest
  | .nil, b, rest, h, _ => by
    cases h
    rw [Vals.length, decList]
    rfl
  | .cons v r, b, rest, h, hcap => by
    simp only [encList] at h
    split at h <;> cases h
    rename_i a b' ha hb'
    rw [List.length_append] at hcap
    rw [Vals.length, decList, List.append_assoc,
      ht c flex v a (b' ++ rest) hv hs ha (by rw [List.length_append]; omega), Res.andThen_ok,
      decList_encList c flex t ht hv hs r b' rest hb' (by omega)]
    rfl

theorem decEnc_arr {k : AKind} {t : Ty} (ht : DecEnc t) : DecEnc (.arr k t) := by
  intro c flex v bs rest hv hs h hcap
  simp only [schemaOK, Bool.and_eq_true, decide_eq_true_eq] at hs
  cases v <;> simp only [enc] at h <;> try contradiction
  · -- nil slice
    have hb : bs = encArrHdr c.ver flex k true 0 := by cases k <;> cases h <;> rfl
    rw [dec, hb, decArrLen_encArrHdr _ _ _ _ _ _ (by decide) (Nat.zero_le _), Res.andThen_ok, canon, Bool.and_true]
    cases hn : k.nullableAt c.ver
    · rfl
    · simp only [if_true, emptyArr_null c.ver k hv hn]
      rfl
  · -- a list
    rename_i vs
    split at h <;> try contradiction
    rename_i b hb
    obtain ⟨hlen, hs'⟩ := Option.ite_none_right_eq_some.1 h
    cases hs'
    -- every element occupies a byte, so the `ArrayLen` check lets the length through
    have hw := encList_len c.ver flex t (minW c.ver t) (fun v bs h => minW_le c.ver t flex v bs h) vs b hb
    have hfit : vs.length ≤ b.length := Nat.le_trans (Nat.le_mul_of_pos_right _ hs.1) hw
    rw [List.length_append] at hcap
    rw [dec, List.append_assoc, decArrLen_encArrHdr c.ver flex k false vs.length (b ++ rest) hlen (by rw [List.length_append]; omega),
      Bool.and_false, if_neg Bool.false_ne_true, Res.andThen_ok, canon]
    cases vs with
    | nil =>
      cases hb
      rfl
    | cons v r =>
      rw [if_pos (by simp only [Vals.length]; omega), goMake_ok _ c.cap (by omega), Res.andThen_ok,
        decList_encList c flex t ht hv hs.2 _ b rest hb (by omega)]
      rfl

theorem decEnc_struct {nullable : Bool} {ff : Option Int} {fs : Fields} (hf : DecEncF fs) : DecEnc (.struct nullable ff fs) := by
  intro c flex v bs rest hv hs h hcap
  simp only [schemaOK, Bool.and_eq_true] at hs
  obtain ⟨Q1, Q2⟩ := hf c (flexAt ff c.ver) hv hs.2
  cases v <;> simp only [enc] at h <;> try contradiction
  · -- nil pointer
    obtain ⟨rfl, hs'⟩ := Option.ite_none_right_eq_some.1 h
    cases hs'
    rw [dec_struct, List.singleton_append, structPre_nil]
    rfl
  · rename_i vals unk
    split at h <;> try contradiction
    rename_i body tags hbody htags
    cases hfl : flexAt ff c.ver <;> rw [hfl] at Q1 Q2 hbody htags <;>
      simp only [hfl, if_true, if_false, Bool.false_eq_true] at h
    · -- not flexible at this version
      cases h
      simp only [List.length_append] at hcap
      rw [dec_struct, List.append_assoc, structPre_pre]
      simp only [Res.andThen_ok, structBody, hfl, Bool.not_true, Bool.false_eq_true, if_false,
        Q1 vals body rest hbody (by omega), canon]
    · -- flexible: body, tag count, the struct's own tags followed by the unknown ones
      obtain ⟨hchk, hs'⟩ := Option.ite_none_right_eq_some.1 h
      cases hs'
      simp only [Bool.and_eq_true, decide_eq_true_eq] at hchk
      obtain ⟨⟨hunk, hent⟩, hcount⟩ := hchk
      simp only [List.length_append] at hcap
      have hraw := readRawTags_enc (tags ++ unk) rest hent
      rw [List.length_append] at hraw
      have hkeys := encTags_keys c.ver true fs vals tags htags
      have hunk' := hunk
      simp only [unkOK, Bool.and_eq_true] at hunk'
      have hQ2 := Q2 vals tags (tags ++ unk) rfl htags hs.1
        (fun k hk => by rw [List.filter_append, filter_unk_known (knownTags fs) unk hunk'.2 k hk, List.append_nil])
        (fun e he => by
          have := mem_encTagEntries_le (tags ++ unk) e (List.mem_append_left _ he)
          omega)
      rw [dec_struct, List.append_assoc, structPre_pre]
      simp only [Res.andThen_ok, structBody, hfl, Bool.not_true, Bool.false_eq_true, if_false, if_true, List.append_assoc]
      rw [Q1 vals body _ hbody (by simp only [List.length_append]; omega), Res.andThen_ok, readUvarint_enc _ _ hcount,
        Res.andThen_ok, readTagsOf, hraw]
      simp only [Res.andThen_ok, hQ2, unknownOf_eq (knownTags fs) tags unk hkeys hunk, canon, hfl, if_true]

theorem decEncF_cons {name : String} {minV : Int} {maxV : Option Int} {tag : Option Nat} {d : Dflt} {t : Ty} {rest : Fields}
    (ht : DecEnc t) (hr : DecEncF rest) : DecEncF (.cons name minV maxV tag d t rest) := by
  intro c flex hv hs
  simp only [schemaOKF, Bool.and_eq_true, Bool.or_eq_true] at hs
  obtain ⟨hst', hsr⟩ := hs
  obtain ⟨R1, R2⟩ := hr c flex hv hsr
  constructor
  · -- body fields
    intro vals body rest' h hcap
    obtain ⟨v, r, b', rfl, hb', ⟨hc, rfl⟩ | ⟨hc, a, ha, rfl⟩⟩ := encFields_cons_some h
    · rw [decFields, if_pos hc, R1 r body rest' hb' hcap, Res.map_ok]
      cases tag with
      | some k => rfl
      | none =>
        have : present minV maxV c.ver = false := by simpa using hc
        simp only [canonFields, this, Bool.false_eq_true, if_false]
    · rw [List.length_append] at hcap
      have hcc : tag = none ∧ present minV maxV c.ver = true := by
        cases tag <;> simp at hc ⊢
        exact hc
      have hst : schemaOK c.ver t = true := by simpa [hcc.1, hcc.2] using hst'
      rw [decFields, if_neg hc, List.append_assoc, ht c flex v a (b' ++ rest') hv hst ha (by rw [List.length_append]; omega),
        Res.andThen_ok, R1 r b' rest' hb' (by omega), Res.map_ok]
      simp only [canonFields, hcc.1, hcc.2, if_true]
  · -- tagged fields
    intro vals tags raw hflex h hd hraw hcapt
    subst hflex
    cases tag with
    | none =>
      obtain ⟨v, r, l, rfl, hl, rfl⟩ := encTags_cons_some h
      rw [canonFields, applyTags_cons, R2 r tags raw rfl hl hd hraw hcapt]
      rfl
    | some k =>
      obtain ⟨v, r, l, rfl, hl, hcase⟩ := encTags_cons_some h
      have hst : schemaOK c.ver t = true := by simpa using hst'
      simp only [tagsDistinct, Bool.and_eq_true, Bool.not_eq_true'] at hd
      have hkn : k ∉ knownTags rest := by simpa using hd.1
      -- the other fields carry other tags: among the struct's own entries only this field's has key `k`
      have hlk : l.filter (fun e => e.1 == k) = [] :=
        List.filter_eq_nil_iff.2 fun e he hek =>
          hkn (beq_iff_eq.1 hek ▸ encTags_keys c.ver true rest r l hl e he)
      have hrk := hraw k List.mem_cons_self
      simp only [canonFields, applyTags_cons]
      rcases hcase with ⟨hdef, rfl⟩ | ⟨hdef, a, ha, rfl⟩
      · -- at its default: not written, so no payload arrives
        rw [R2 r tags raw rfl hl hd.2 (fun k' hk' => hraw k' (List.mem_cons_of_mem _ hk')) hcapt, Res.andThen_ok, hrk, hlk]
        simp [decEach, hdef]
      · -- written: its payload is the one entry with key `k`, and decodes by the round trip of `t`
        have hraw' : ∀ k' ∈ knownTags rest, raw.filter (fun e => e.1 == k') = l.filter (fun e => e.1 == k') := by
          intro k' hk'
          have hne : (k == k') = false := beq_eq_false_iff_ne.2 fun e => hkn (e ▸ hk')
          simpa [List.filter_cons, hne] using hraw k' (List.mem_cons_of_mem _ hk')
        have hdec := ht c true v a [] hv hst ha (by simpa using hcapt (k, a) List.mem_cons_self)
        rw [List.append_nil] at hdec
        simp only [List.filter_cons, beq_self_eq_true, if_true, hlk] at hrk
        rw [R2 r l raw rfl hl hd.2 hraw' fun e he => hcapt e (List.mem_cons_of_mem _ he), Res.andThen_ok, hrk]
        simp [decEach, hdec, hdef]

mutual
theorem decEnc : ∀ t : Ty, DecEnc t
  | .prim p => fun c flex v bs rest _ _ h _ => by
    rw [enc] at h
    rw [dec, canon]
    exact decPrim_encPrim p v bs rest h
  | .str k => fun c flex v bs rest _ _ h _ => by
    rw [enc] at h
    rw [dec, canon]
    exact decStr_encStr c.ver flex k v bs rest h
  | .arr k t => decEnc_arr (decEnc t)
  | .struct nullable ff fs => decEnc_struct (decEncF fs)
theorem decEncF : ∀ fs : Fields, DecEncF fs
  | .nil => fun c flex _ _ =>
    ⟨fun vals body rest h _ => by cases vals <;> cases h; rw [decFields]; rfl,
     fun vals tags raw _ h _ _ _ => by cases vals <;> cases h; rw [applyTags_nil]; rfl⟩
  | .cons name minV maxV tag d t rest => decEncF_cons (decEnc t) (decEncF rest)
end

end Proof.C15
