import FranzVerif.Proof.C06Walk
/-! C06 — what `Props/C06.lean` needs besides `process_sim`: membership in the reference decoder's output, the hypotheses on
`whole ++ rest` restricted to `whole` (which transactions are open at a batch is decided by the batches before it), and the
concrete logs of the non-vacuity examples. -/
namespace Proof.C06
open Model.C06
open Spec.C06 (LRec LBatch ORec Req)

theorem mem_batchRecords {q : Req} {L : List LBatch} {full : Bool} {b : LBatch} {r : ORec} :
    r ∈ Spec.C06.batchRecords q L full b ↔
      (if b.control then q.keepControl else !(Spec.C06.inAborted q L b)) = true ∧
      ∃ x ∈ (if full then b.records else b.records.take b.present), q.offset ≤ x.offset ∧ Spec.C06.toORec b x = r := by
  unfold Spec.C06.batchRecords
  simp only
  generalize (if b.control then q.keepControl else !(Spec.C06.inAborted q L b)) = keep
  cases keep
  · simp
  · simp only [if_true, true_and, List.mem_map, List.mem_filter, decide_eq_true_eq]
    constructor
    · rintro ⟨x, ⟨hx, hq⟩, rfl⟩; exact ⟨x, hx, hq, rfl⟩
    · rintro ⟨x, hx, hq, rfl⟩; exact ⟨x, ⟨hx, hq⟩, rfl⟩

theorem wfLog_left {whole rest : List LBatch} (h : WfLog (whole ++ rest)) : WfLog whole :=
  ⟨fun b hb => h.batch b (by simp [hb]), (List.pairwise_append.mp h.ord).1⟩

theorem abortedConsistent_left {o : Opts} {A : List (Int × Int)} {whole rest : List LBatch} (hwf : WfLog (whole ++ rest))
    (h : AbortedConsistent o A (whole ++ rest)) : AbortedConsistent o A whole := by
  constructor
  · intro m hm hmark
    -- which listed transactions are open at `m` is decided by the batches before `m`
    obtain ⟨P, S, hPS⟩ := List.append_of_mem hm
    have e : (effA o A).filter (openAt whole m) = (effA o A).filter (openAt (whole ++ rest) m) :=
      List.filter_congr fun a _ => by
        rw [openAt_eq hPS (wfLog_left hwf) a, openAt_eq (L := whole ++ rest) (P := P) (S := S ++ rest) (by rw [hPS]; simp) hwf a]
    rw [e]
    exact h.sequential m (by simp [hm]) hmark
  · intro m hm hmark hlt a ha hpid
    exact h.overlaps m (by simp [hm]) hmark hlt a ha hpid

def exKey : Option Bytes := some [1]
def exVal (n : UInt8) : Option Bytes := some [n]

/-- 9: a v1 message (CreateTime) -/
def exMsg : Msg := ⟨true, 9, 1, 0, 1500, exKey, exVal 9⟩
/-- 10..12: producer 7, transactional; the transaction (7, 10) is aborted -/
def exB1 : Batch := ⟨10, 3, 2, 16, 2, 1000, 1002, 7, 0, 3, true, 30,
  [⟨0, 0, exKey, exVal 10, []⟩, ⟨1, 1, exKey, exVal 11, []⟩, ⟨2, 2, none, exVal 12, [⟨[104], some [1]⟩]⟩], .stop⟩
/-- 13..15: plain data with a compaction gap (14 is gone) and a preserved last offset, LogAppendTime -/
def exB2 : Batch := ⟨13, 3, 2, 8, 2, 2000, 2005, -1, -1, 1, true, 10, [⟨0, 0, exKey, exVal 13, []⟩], .stop⟩
/-- 16: the ABORT marker of producer 7 -/
def exB3 : Batch := ⟨16, 3, 2, 48, 0, 3000, 3000, 7, 0, 1, true, 10, [⟨0, 0, some [0, 0, 0, 0], some [0, 0, 0, 0, 0, 0], []⟩], .stop⟩
/-- 17..18: producer 7 again, a transaction that is not listed as aborted -/
def exB4 : Batch := ⟨17, 3, 2, 16, 1, 4000, 4001, 7, 0, 2, true, 20,
  [⟨0, 0, exKey, exVal 17, []⟩, ⟨1, 1, exKey, exVal 18, []⟩], .stop⟩
/-- 19..21: cut short inside: claims three records, the bytes hold one -/
def exB5 : Batch := ⟨19, 3, 2, 0, 2, 5000, 5002, -1, -1, 3, true, 15, [⟨0, 0, exKey, exVal 19, []⟩], .stop⟩

def exItems : List Item := [.msg exMsg ⟨true, [], none, false⟩, .batch exB1, .batch exB2, .batch exB3, .batch exB4, .batch exB5]

/-- the log batch 19..21 of which only the first record made it into the response -/
def exCutBatch : LBatch :=
  ⟨19, 21, -1, -1, 3, 0, [⟨19, some 5000, exKey, exVal 19, []⟩, ⟨20, some 5001, exKey, exVal 20, []⟩,
      ⟨21, some 5002, exKey, exVal 21, []⟩], 1⟩

def exLog : List LBatch := [
  ⟨9, 9, -1, -1, -1, 0, [⟨9, some 1500, exKey, exVal 9, []⟩], 1⟩,
  ⟨10, 12, 7, 0, 3, 16, [⟨10, some 1000, exKey, exVal 10, []⟩, ⟨11, some 1001, exKey, exVal 11, []⟩,
      ⟨12, some 1002, none, exVal 12, [([104], some [1])]⟩], 3⟩,
  ⟨13, 15, -1, -1, 3, 8, [⟨13, some 2005, exKey, exVal 13, []⟩], 1⟩,
  ⟨16, 16, 7, 0, 3, 48, [⟨16, some 3000, some [0, 0, 0, 0], some [0, 0, 0, 0, 0, 0], []⟩], 1⟩,
  ⟨17, 18, 7, 0, 3, 16, [⟨17, some 4000, exKey, exVal 17, []⟩, ⟨18, some 4001, exKey, exVal 18, []⟩], 2⟩,
  exCutBatch]

/-- the part of the log beyond the response -/
def exRest : List LBatch := [⟨22, 22, -1, -1, 3, 0, [⟨22, some 6000, exKey, exVal 22, []⟩], 1⟩]

/-- read_committed fetch at offset 11, inside the first transactional batch -/
def exOpts : Opts := ⟨false, true, 11⟩
def exAborted : List (Int × Int) := [(7, 10)]

theorem ex_rep : RepList exItems exLog := by
  refine .cons ?_ (.cons ?_ (.cons ?_ (.cons ?_ (.cons ?_ (.cons ?_ .nil)))))
  · show Rep (.msg exMsg _) _
    simp only [Rep]
    rw [if_pos (by decide)]
    exact ⟨by unfold validMsg; decide, rfl, rfl, rfl, rfl, rfl, rfl, by decide, rfl⟩
  all_goals exact ⟨rfl, by decide, rfl, rfl, rfl, rfl, by decide, rfl, rfl, rfl, by decide, rfl, by decide, by decide⟩

theorem ex_wf : WfLog (exLog ++ exRest) := by
  refine ⟨fun b hb => ?_, by decide⟩
  simp only [exLog, exRest, List.cons_append, List.nil_append, List.mem_cons, List.mem_nil_iff, or_false] at hb
  rcases hb with h | h | h | h | h | h | h <;> subst h <;> exact ⟨by decide, by decide, by decide, by decide⟩

theorem ex_wf_whole : WfLog exLog := wfLog_left ex_wf

theorem ex_cons : AbortedConsistent exOpts exAborted (exLog ++ exRest) := ⟨by decide, by decide⟩

theorem ex_cons_whole : AbortedConsistent exOpts exAborted exLog := abortedConsistent_left ex_wf ex_cons

theorem ex_complete : ∀ b ∈ exLog.dropLast, b.present = b.records.length := by decide

/-! a v1 gzip wrapper stamped LogAppendTime (the case repaired in /repo 581b089), then a v0 message -/

/-- wrapper at 41 (absolute offset of its last inner message), attributes gzip | LogAppendTime, broker time 5000 -/
def exWrap : Msg := ⟨true, 41, 1, 9, 5000, none, some [31, 139]⟩
/-- its inner messages: relative offsets 0 and 2 (1 was compacted away), producer timestamps 77 and 78 -/
def exWrapInner : Inner := ⟨true, [⟨true, 0, 1, 0, 77, exKey, exVal 0⟩, ⟨true, 2, 1, 0, 78, exKey, exVal 2⟩], none, false⟩
def exLog2 : List LBatch := [
  ⟨39, 41, -1, -1, -1, 9, [⟨39, some 5000, exKey, exVal 0, []⟩, ⟨41, some 5000, exKey, exVal 2, []⟩], 2⟩,
  ⟨42, 42, -1, -1, -1, 128, [⟨42, none, exKey, exVal 3, []⟩], 1⟩]
def exItems2 : List Item := [.msg exWrap exWrapInner, .msg ⟨false, 42, 0, 0, 0, exKey, exVal 3⟩ ⟨true, [], none, false⟩]
/-- read_uncommitted fetch at 40, inside the wrapper -/
def exOpts2 : Opts := ⟨false, false, 40⟩

theorem ex2_rep : RepList exItems2 exLog2 := by
  refine .cons ?_ (.cons ?_ .nil)
  · show Rep (.msg exWrap exWrapInner) _
    simp only [Rep]
    rw [if_neg (by decide)]
    refine ⟨by decide, rfl, rfl, rfl, ?_, by decide, by decide, by decide, rfl, by decide, rfl, rfl, rfl, by decide, rfl⟩
    intro i hi
    simp only [exWrapInner, List.mem_cons, List.mem_nil_iff, or_false] at hi
    rcases hi with rfl | rfl <;> exact ⟨by unfold validMsg; decide, by decide⟩
  · show Rep (.msg _ _) _
    simp only [Rep]
    rw [if_pos (by decide)]
    exact ⟨by unfold validMsg; decide, rfl, rfl, rfl, rfl, rfl, rfl, by decide, rfl⟩

theorem ex2_wf : WfLog exLog2 := by
  refine ⟨?_, by decide⟩
  intro b hb
  simp only [exLog2, List.mem_cons, List.mem_nil_iff, or_false] at hb
  rcases hb with h | h <;> subst h <;> exact ⟨by decide, by decide, by decide, by decide⟩

theorem ex2_cons : AbortedConsistent exOpts2 [] exLog2 :=
  ⟨fun _ _ _ => by simp [effA], fun _ _ _ _ a ha => by simp [effA] at ha⟩

end Proof.C06
