import FranzVerif.Proof.C16Reader
/-! `dec` is total and consumes what it decodes: `Reads c.cap (dec c flex t src) |src| (minW c.ver t)` for every type, by mutual
induction over `Ty` / `Fields`. Never-panics and the minimal width are its two halves. -/
namespace Proof.C16
open Model.C15 Proof.C15

def ReadsT (t : Ty) : Prop :=
  ∀ (c : Cfg) (flex : Bool) (src : Bytes), Reads c.cap (dec c flex t src) src.length (minW c.ver t)

/-- the body fields read like a type; applying a tag section whose payloads the cap covers does not panic. -/
def ReadsF (fs : Fields) : Prop :=
  ∀ (c : Cfg) (flex : Bool),
    (∀ (src : Bytes), Reads c.cap (decFields c flex fs src) src.length (minWF c.ver fs)) ∧
    (∀ (raw : List (Nat × Bytes)) (vals : Vals), (∀ e ∈ raw, e.2.length ≤ c.cap) → ∀ m, applyTags c flex fs raw vals ≠ .panic m)

/-- `make([]T, l)` after the `ArrayLen` check: `l` is positive and at most the bytes that remain, so within the cap whenever
the input is. -/
theorem reads_goMake {β : Type} {cap n w : Nat} {l : Int} {f : Nat → Res β} (h0 : 0 ≤ l) (hl : l ≤ n)
    (hf : Reads cap (f l.toNat) n w) : Reads cap ((goMake l cap).andThen fun k _ => f k) n w := by
  simp only [goMake, if_neg (Int.not_lt.2 h0)]
  split
  · exact ⟨fun hn => by omega, nofun⟩
  · exact hf

theorem reads_decList {c : Cfg} {flex : Bool} {t : Ty} (ht : ReadsT t) :
    ∀ (n : Nat) (src : Bytes), Reads c.cap (decList c flex t n src) src.length (n * minW c.ver t)
  | 0, src => by rw [decList, Nat.zero_mul]; exact reads_ok _ _
  | n+1, src => by
    rw [decList, Nat.succ_mul, Nat.add_comm]
    exact reads_andThen (ht c flex src) fun v r _ => reads_map (reads_decList ht n r) _

theorem decEach_no_panic {c : Cfg} {flex : Bool} {t : Ty} (ht : ReadsT t) :
    ∀ (ps : List Bytes) (v : Val), (∀ p ∈ ps, p.length ≤ c.cap) → ∀ m, decEach c flex t ps v ≠ .panic m
  | [], v, _, m => by rw [decEach]; exact nofun
  | p :: ps, v, hp, m => by
    rw [decEach]
    cases hd : dec c flex t p with
    | ok v' r => exact decEach_no_panic ht ps v' (fun q hq => hp q (List.mem_cons_of_mem _ hq)) m
    | err s => exact nofun
    | panic m' => exact absurd hd ((ht c flex p).1 (hp p (List.mem_cons_self ..)) m')

mutual
theorem readsT : ∀ t : Ty, ReadsT t
  | .prim p => fun c flex src => by rw [dec]; exact reads_decPrim p src
  | .str k => fun c flex src => by rw [dec]; exact reads_decStr c.ver flex k src
  | .arr k t => fun c flex src => by
    rw [dec]
    refine reads_andThen (w2 := 0) (reads_decArrLen flex k src) fun l r hl => ?_
    split
    · exact reads_goMake (by omega) (decArrLen_bounded flex k src l r hl)
        (reads_map ((reads_decList (readsT t) l.toNat r).weaken (Nat.zero_le _)) _)
    · exact reads_ok _ _
  | .struct nullable ff fs => fun c flex src => by
    obtain ⟨F1, F2⟩ := readsF fs c (flexAt ff c.ver)
    have body : ∀ r0, Reads c.cap (structBody c ff fs r0) r0.length (minWF c.ver fs + if flexAt ff c.ver then 1 else 0) := by
      intro r0
      rw [structBody]
      refine reads_andThen (F1 r0) fun vals r _ => ?_
      split
      · refine reads_andThen (w2 := 0) (reads_readUvarint r) fun num r1 _ => ?_
        -- the raw entries lie in the input, so the cap covers every payload `applyTags` decodes
        refine (reads_thenValue (reads_readTagsOf _ num r1) fun hcap raw r2 ht => F2 raw vals fun e he => ?_).weaken (Nat.zero_le _)
        have := ((readRawTags_ok num r1).2 raw r2 (readTagsOf_ok_inv ht)).2.2 e he
        omega
      · exact reads_ok _ _
    rw [dec_struct]
    cases nullable
    · exact body src
    · refine reads_andThen (w1 := 1) (w2 := 0) (reads_structPre true src) fun isP r0 _ => ?_
      split
      · exact reads_ok _ _
      · exact (body r0).weaken (Nat.zero_le _)
theorem readsF : ∀ fs : Fields, ReadsF fs
  | .nil => fun c flex =>
    ⟨fun src => by rw [decFields]; exact reads_ok _ _, fun raw vals _ m => by rw [applyTags_nil]; exact nofun⟩
  | .cons name minV maxV tag d t rest => fun c flex => by
    obtain ⟨R1, R2⟩ := readsF rest c flex
    refine ⟨fun src => ?_, fun raw vals hraw m h => ?_⟩
    · rw [decFields, minWF]
      split
      · rw [Nat.zero_add]; exact reads_map (R1 src) _
      · exact reads_andThen (readsT t c flex src) fun v r _ => reads_map (R1 r) _
    · cases vals with
      | nil => rw [applyTags_of_nil] at h; cases h
      | cons v r =>
        rw [applyTags_cons] at h
        rcases andThen_panic_inv h with hr | ⟨vs, x, _, h⟩
        · exact R2 raw r hraw m hr
        cases tag with
        | none => cases h
        | some k =>
          rcases andThen_panic_inv h with he | ⟨_, _, _, h⟩
          · refine decEach_no_panic (readsT t) _ v (fun p hp => ?_) m he
            obtain ⟨e, he, rfl⟩ := List.mem_map.1 hp
            exact hraw e (List.mem_filter.1 he).1
          · cases h
end

theorem consT (t : Ty) (c : Cfg) (flex : Bool) (src : Bytes) : Cons (dec c flex t src) src.length (minW c.ver t) :=
  (readsT t c flex src).2

theorem consF (fs : Fields) (c : Cfg) (flex : Bool) (src : Bytes) : Cons (decFields c flex fs src) src.length (minWF c.ver fs) :=
  ((readsF fs c flex).1 src).2

theorem consList (t : Ty) (c : Cfg) (flex : Bool) (n : Nat) (src : Bytes) :
    Cons (decList c flex t n src) src.length (n * minW c.ver t) :=
  (reads_decList (readsT t) n src).2

theorem noPanic (t : Ty) (c : Cfg) (flex : Bool) (src : Bytes) (hcap : src.length ≤ c.cap) : Safe (dec c flex t src) src.length :=
  (readsT t c flex src).safe hcap

def NoPanicF (fs : Fields) : Prop :=
  ∀ (c : Cfg) (flex : Bool),
    (∀ (src : Bytes), src.length ≤ c.cap → Safe (decFields c flex fs src) src.length) ∧
    (∀ (raw : List (Nat × Bytes)) (vals : Vals), (∀ e ∈ raw, e.2.length ≤ c.cap) → ∀ m, applyTags c flex fs raw vals ≠ .panic m)

theorem noPanicF : ∀ fs : Fields, NoPanicF fs :=
  fun fs c flex => ⟨fun src hcap => ((readsF fs c flex).1 src).safe hcap, (readsF fs c flex).2⟩

end Proof.C16
