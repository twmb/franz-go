import FranzVerif.Model.C26
import FranzVerif.Proof.C25
/-! A steal chain changes loads only at its two ends (`level_chain`, stated as `new + ind src n = old + ind dst n`
so that `omega` chains such equations without truncated subtraction; its users read the three inequalities after it),
and every edge it creates starts at a member that already reached the chain's source (`edge_after_chain`); so a member
that cannot improve and holds no more than the thief stays stuck (`stuck_after_chain`). The trace invariant `Inv` adds
that given-up members hold no more than any active one; with `doneOK` this gives `AllStuck`, which is the Spec's
`Optimal` read on states (`allStuck_iff_optimal`). Conversely, from a valid state with `AllStuck` every plan-changing
guard would exhibit an invalid plan or a member that can improve (`step_stable`). -/
namespace Proof.C26
open Model.C25 Model.C26 Proof.C25

theorem Reach.head {E : String → String → Prop} {a b c : String} (e : E a b) (h : Reach E b c) : Reach E a c := by
  induction h with
  | refl => exact .tail (.refl _) e
  | tail _ e' ih => exact .tail ih e'

theorem Reach.trans {E : String → String → Prop} {a b c : String} (h1 : Reach E a b) (h2 : Reach E b c) : Reach E a c := by
  induction h2 with
  | refl => exact h1
  | tail _ e ih => exact .tail ih e

theorem Reach.mem_of_closed {E : String → String → Prop} {S : List String} {a b : String}
    (ha : a ∈ S) (hc : ∀ x ∈ S, ∀ y, E x y → y ∈ S) (h : Reach E a b) : b ∈ S := by
  induction h with
  | refl => exact ha
  | tail _ e ih => exact hc _ ih _ e

theorem Reach.mono {E F : String → String → Prop} (hEF : ∀ x y, E x y → F x y) {a b : String} (h : Reach E a b) : Reach F a b := by
  induction h with
  | refl => exact .refl _
  | tail _ e ih => exact .tail ih (hEF _ _ e)

theorem subOf_iff (ms : List Member) (a t : String) :
    subOf ms a t = true ↔ ∃ x ∈ ms, x.id = a ∧ t ∈ x.topics := by
  simp [subOf, List.any_eq_true]

/-- the test both closure checks (`closedPlanB` on a plan, `closedB` on a state) make per topic. -/
theorem any_subscribes (ms : List Member) (S : List String) (a t : String) (ha : a ∈ S) (hs : subOf ms a t = true) :
    ((ms.filter fun x => S.contains x.id).any (·.topics.contains t)) = true := by
  obtain ⟨x, hx, hid, ht⟩ := (subOf_iff ms a t).1 hs
  exact List.any_eq_true.2 ⟨x, List.mem_filter.2 ⟨hx, List.contains_iff_mem.2 (hid ▸ ha)⟩, List.contains_iff_mem.2 ht⟩

theorem closedPlanB_closed (ms : List Member) (plan : List Triple) (S : List String)
    (h : closedPlanB ms plan S = true) : ∀ x ∈ S, ∀ y, CanTake ms plan x y → y ∈ S := by
  intro a ha b ⟨x, hx, hxb, hsub⟩
  simp only [closedPlanB, List.all_eq_true] at h
  have := h x hx
  simp only [Bool.or_eq_true, Bool.not_eq_true'] at this
  rcases this with hn | hs
  · rw [List.contains_iff_mem.2 (List.mem_filter.2
      ⟨(mem_dedup _ _).2 (List.mem_map.2 ⟨x, hx, rfl⟩), any_subscribes ms S a _ ha hsub⟩)] at hn
    cases hn
  · exact hxb ▸ List.contains_iff_mem.1 hs

/-- `Optimal` from closure certificates handed in as lists. `optimalB` computes them with `closurePlan`, whose
`Std.HashMap`s do not reduce in the kernel (`Props.C26.optimalB_sound` is this lemma at those certificates); this
hypothesis is all list computations, so `decide` settles it on a concrete instance. -/
theorem optimal_of_certs (ms : List Member) (plan : List Triple) (certs : List (String × List String))
    (h : ((ms.map (·.id)).all fun a => certs.any fun cs =>
        cs.1 == a && cs.2.contains a && closedPlanB ms plan cs.2 && cs.2.all fun b => load plan b < load plan a + 2) = true) :
    Optimal ms plan := by
  intro a ha b hr
  simp only [List.all_eq_true, List.any_eq_true, Bool.and_eq_true, beq_iff_eq, decide_eq_true_eq] at h
  obtain ⟨cs, _, ⟨⟨⟨rfl, hin⟩, hcl⟩, hall⟩⟩ := h a ha
  exact hall b (Reach.mem_of_closed (by simpa using hin) (closedPlanB_closed ms plan _ hcl) hr)

theorem optimal_of_perm (ms : List Member) (P Q : List Triple) (h : P.Perm Q) (ho : Optimal ms P) : Optimal ms Q := by
  intro a ha b hr
  have hl : ∀ m, load Q m = load P m := fun m => (List.Perm.countP_eq _ h).symm
  rw [hl, hl]
  refine ho a ha b (Reach.mono ?_ hr)
  rintro x y ⟨t, ht, h1, h2⟩
  exact ⟨t, h.mem_iff.2 ht, h1, h2⟩

theorem lookup_pos_mem (l : List (String × Nat)) (t : String) (h : 0 < cnt l t) : t ∈ l.map (·.1) := by
  apply Classical.byContradiction
  intro hn
  have : l.lookup t = none :=
    List.lookup_eq_none_iff.mpr fun p hp => bne_iff_ne.mpr fun e => hn (List.mem_map.mpr ⟨p, hp, e.symm⟩)
  rw [cnt, this] at h
  cases h

theorem mem_parts (c : Ctx) (p : TP) : p ∈ c.parts ↔ c.isPart p = true := by
  rw [Ctx.parts, ← tpsOf, mem_tpsOf, Ctx.isPart, decide_eq_true_eq, Ctx.topicNames, mem_dedup]
  exact ⟨fun h => h.2, fun h => ⟨lookup_pos_mem _ _ (Nat.lt_of_le_of_lt (Nat.zero_le _) h), h⟩⟩

theorem parts_nodup (c : Ctx) : c.parts.Nodup := nodup_tpsOf _ (nodup_dedup _) _

def ind (a b : String) : Nat := if a = b then 1 else 0
theorem ind_self (a : String) : ind a a = 1 := by simp [ind]
theorem ind_ne {a b : String} (h : a ≠ b) : ind a b = 0 := by simp [ind, h]
theorem ind_le (a b : String) : ind a b ≤ 1 := by unfold ind; split <;> omega

theorem countP_move (l : List TP) (hnd : l.Nodup) (f g : TP → Option String) (p : TP) (s d n : String)
    (hp : p ∈ l) (hf : f p = some s) (hg : g p = some d) (hother : ∀ q, q ≠ p → g q = f q) :
    l.countP (fun q => g q == some n) + ind s n = l.countP (fun q => f q == some n) + ind d n := by
  have hrest : (l.erase p).countP (fun q => g q == some n) = (l.erase p).countP (fun q => f q == some n) :=
    List.countP_congr fun q hq => by rw [hother q (hnd.mem_erase_iff.mp hq).1]
  rw [(List.perm_cons_erase hp).countP_eq, (List.perm_cons_erase hp).countP_eq, List.countP_cons, List.countP_cons,
    hrest, hf, hg]
  unfold ind
  by_cases h1 : s = n <;> by_cases h2 : d = n <;> simp [h1, h2] <;> omega

theorem get_insert_ne (o : Own) (p q : TP) (d : String) (h : p ≠ q) : (o.insert p d)[q]? = o[q]? := by
  rw [Std.HashMap.getElem?_insert, if_neg (by simpa using h)]

theorem level_move (c : Ctx) (o : Own) (p : TP) (s d n : String) (hp : c.isPart p = true) (ho : o[p]? = some s) :
    level c (o.insert p d) n + ind s n = level c o n + ind d n := by
  unfold level
  refine countP_move c.parts (parts_nodup c) (fun q => o[q]?) (fun q => (o.insert p d)[q]?) p s d n ((mem_parts c p).2 hp) ho ?_ ?_
  · simp
  · exact fun q hq => get_insert_ne o p q d (Ne.symm hq)

/-- the Spec's `CanTake` on a state instead of a plan (`canTake_iff_edge`). -/
def Edge (c : Ctx) (o : Own) (a b : String) : Prop :=
  ∃ p, c.isPart p = true ∧ o[p]? = some b ∧ c.sub a p.1 = true

/-- the negation of the Spec's `Optimal` at member `m`, on a state (`allStuck_iff_optimal`). -/
def CanImprove (c : Ctx) (o : Own) (m : String) : Prop :=
  ∃ b, Reach (Edge c o) m b ∧ level c o m + 2 ≤ level c o b

/-- what `validB` checks: every owner subscribes to its (existing) partition, and every partition of a topic
somebody subscribes to has an owner. -/
structure Valid (c : Ctx) (o : Own) : Prop where
  owner : ∀ p b, o[p]? = some b → c.isPart p = true ∧ c.sub b p.1 = true
  complete : ∀ p, c.isPart p = true → c.wanted p.1 = true → (o[p]?).isSome = true

theorem applyChain_get_notin (o : Own) (ch : List (TP × String)) (q : TP) (h : q ∉ ch.map (·.1)) :
    (applyChain o ch)[q]? = o[q]? := by
  induction ch generalizing o with
  | nil => rfl
  | cons x xs ih =>
    simp only [List.map_cons, List.mem_cons, not_or] at h
    rw [applyChain, ih _ h.2, get_insert_ne _ _ _ _ (Ne.symm h.1)]

theorem chainOK_cons (c : Ctx) (o : Own) (src : String) (p : TP) (d : String) (rest : List (TP × String)) :
    chainOK c o src ((p, d) :: rest) = true ↔
      (o[p]? = some src ∧ c.sub d p.1 = true ∧ c.isPart p = true ∧ p ∉ rest.map (·.1) ∧ chainOK c o d rest = true) := by
  simp [chainOK, and_assoc]

/-- `chainOK` checks every segment against the state before the steal, `applyChain` moves the state segment by
segment; the two meet because a chain names no partition twice. -/
theorem chainOK_insert (c : Ctx) (o : Own) (p : TP) (d src : String) (ch : List (TP × String))
    (h : p ∉ ch.map (·.1)) : chainOK c (o.insert p d) src ch = chainOK c o src ch := by
  induction ch generalizing src with
  | nil => rfl
  | cons x xs ih =>
    simp only [List.map_cons, List.mem_cons, not_or] at h
    simp only [chainOK]
    rw [get_insert_ne _ _ _ _ h.1, ih _ h.2]

theorem applyChain_valid (c : Ctx) (o : Own) (src : String) (ch : List (TP × String)) (hok : chainOK c o src ch = true)
    (hv : Valid c o) : Valid c (applyChain o ch) := by
  induction ch generalizing o src with
  | nil => exact hv
  | cons x xs ih =>
    obtain ⟨p, d⟩ := x
    obtain ⟨_, hsub, hp, hnot, hrest⟩ := (chainOK_cons c o src p d xs).1 hok
    refine ih (o.insert p d) d (by rw [chainOK_insert c o p d d xs hnot]; exact hrest) ⟨fun q b hqb => ?_, fun q hq hw => ?_⟩
    · rw [Std.HashMap.getElem?_insert] at hqb
      split at hqb
      · next e => cases hqb; exact eq_of_beq e ▸ ⟨hp, hsub⟩
      · exact hv.owner q b hqb
    · rw [Std.HashMap.getElem?_insert]
      split
      · rfl
      · exact hv.complete q hq hw

theorem level_chain (c : Ctx) (o : Own) (src : String) (ch : List (TP × String)) (hok : chainOK c o src ch = true) (n : String) :
    level c (applyChain o ch) n + ind src n = level c o n + ind (chainEnd src ch) n := by
  induction ch generalizing o src with
  | nil => rfl
  | cons x xs ih =>
    obtain ⟨p, d⟩ := x
    obtain ⟨ho, _, hp, hnot, hrest⟩ := (chainOK_cons c o src p d xs).1 hok
    have h1 := ih (o.insert p d) d (by rw [chainOK_insert c o p d d xs hnot]; exact hrest)
    have h2 := level_move c o p src d n hp ho
    simp only [applyChain, chainEnd]
    omega

section
variable {c : Ctx} {o : Own} {src : String} {ch : List (TP × String)} (hok : chainOK c o src ch = true) {n : String}
include hok

/-- Only the chain's end gains. -/
theorem level_chain_le (hn : chainEnd src ch ≠ n) : level c (applyChain o ch) n ≤ level c o n := by
  have := level_chain c o src ch hok n
  rw [ind_ne hn] at this
  omega

/-- Only the chain's source loses. -/
theorem le_level_chain (hn : src ≠ n) : level c o n ≤ level c (applyChain o ch) n := by
  have := level_chain c o src ch hok n
  rw [ind_ne hn] at this
  omega

/-- Nobody loses more than one. -/
theorem level_le_chain_succ : level c o n ≤ level c (applyChain o ch) n + 1 := by
  have := level_chain c o src ch hok n
  have := ind_le src n
  omega

end

/-- used with `X = src` (general `X` for the induction): each receiver has an edge to its giver, so the last receiver,
and the member on which any partition the chain moves sat before the steal, reach the source. -/
theorem chain_reach (c : Ctx) (o : Own) (src X : String) (ch : List (TP × String)) (hok : chainOK c o src ch = true)
    (hsrc : Reach (Edge c o) src X) :
    Reach (Edge c o) (chainEnd src ch) X ∧ ∀ p ∈ ch.map (·.1), ∃ s, o[p]? = some s ∧ Reach (Edge c o) s X := by
  induction ch generalizing src with
  | nil => exact ⟨hsrc, fun _ h => by cases h⟩
  | cons x xs ih =>
    obtain ⟨p0, d0⟩ := x
    obtain ⟨ho, hsub, hp, _, hrest⟩ := (chainOK_cons c o src p0 d0 xs).1 hok
    obtain ⟨h1, h2⟩ := ih d0 hrest (Reach.head ⟨p0, hp, ho, hsub⟩ hsrc)
    refine ⟨h1, fun p h => ?_⟩
    rcases List.mem_cons.1 h with rfl | e
    · exact ⟨src, ho, hsrc⟩
    · exact h2 p e

theorem edge_after_chain (c : Ctx) (o : Own) (X : String) (ch : List (TP × String)) (hok : chainOK c o X ch = true)
    (a b : String) (h : Edge c (applyChain o ch) a b) : Edge c o a b ∨ Reach (Edge c o) a X := by
  obtain ⟨q, hq, hob, hsub⟩ := h
  by_cases hin : q ∈ ch.map (·.1)
  · obtain ⟨s, hs, hsX⟩ := (chain_reach c o X X ch hok (.refl _)).2 q hin
    exact Or.inr (Reach.head ⟨q, hq, hs, hsub⟩ hsX)
  · rw [applyChain_get_notin _ _ _ hin] at hob
    exact Or.inl ⟨q, hq, hob, hsub⟩

theorem reach_after_chain (c : Ctx) (o : Own) (X : String) (ch : List (TP × String)) (hok : chainOK c o X ch = true)
    (g y : String) (h : Reach (Edge c (applyChain o ch)) g y) : Reach (Edge c o) g y ∨ Reach (Edge c o) g X := by
  induction h with
  | refl => exact Or.inl (.refl _)
  | tail _ e ih =>
    rcases ih with ih | ih
    · rcases edge_after_chain c o X ch hok _ _ e with e' | e'
      · exact Or.inl (.tail ih e')
      · exact Or.inr (Reach.trans ih e')
    · exact Or.inr ih

/-- Props/C26 `given_up_stays_stuck`. `g` does not reach `X` (which holds two more than `g`), so by
`reach_after_chain` it reaches after the steal only what it reached before, and not `m` (which reaches `X`); on
those members no load rose, and `g ≠ X` lost nothing. -/
theorem stuck_after_chain (c : Ctx) (o : Own) (X m g : String) (ch : List (TP × String))
    (hok : chainOK c o X ch = true) (hend : chainEnd X ch = m) (hlv : level c o m + 2 ≤ level c o X)
    (hg : ¬ CanImprove c o g) (hgm : level c o g ≤ level c o m) : ¬ CanImprove c (applyChain o ch) g := by
  rintro ⟨y, hr, hl⟩
  have hgX : ¬ Reach (Edge c o) g X := fun h => hg ⟨X, h, by omega⟩
  have hmX : Reach (Edge c o) m X := hend ▸ (chain_reach c o X X ch hok (.refl _)).1
  have hgy : Reach (Edge c o) g y := by
    rcases reach_after_chain c o X ch hok g y hr with h | h
    · exact h
    · exact absurd h hgX
  have hyX : y ≠ m := fun e => hgX (Reach.trans (e ▸ hgy) hmX)
  have hy := level_chain_le hok (n := y) (hend ▸ fun e => hyX e.symm)
  have hg' := le_level_chain hok (n := g) fun e => hgX (e ▸ .refl _)
  have hold : level c o y < level c o g + 2 := Nat.lt_of_not_le fun h => hg ⟨y, hgy, h⟩
  omega

structure Inv (c : Ctx) (s : St) : Prop where
  valid : ∀ p b, s.own[p]? = some b → c.isPart p = true ∧ c.sub b p.1 = true
  complete : ∀ p, c.isPart p = true → c.wanted p.1 = true → (s.own[p]?).isSome = true
  stuck : ∀ g ∈ s.given, ¬ CanImprove c s.own g
  low : ∀ g ∈ s.given, ∀ a ∈ c.ids, a ∉ s.given → level c s.own g ≤ level c s.own a

theorem Inv.own_valid {c : Ctx} {s : St} (hi : Inv c s) : Valid c s.own := ⟨hi.valid, hi.complete⟩

def AllStuck (c : Ctx) (o : Own) : Prop := ∀ a ∈ c.ids, ¬ CanImprove c o a

/-- What `step` keeps in every phase. The assignment phase (≤ 1) may pass through invalid plans, so `Inv` is only
claimed from phase 2 on, where `enter` has run `validB`; until then it is enough that nobody has given up, which makes
the two clauses of `Inv` about given-up members hold trivially at that moment (`enter_spec`). -/
structure Good (c : Ctx) (s : St) : Prop where
  early : s.phase ≤ 1 → s.given = []
  inv : 2 ≤ s.phase → Inv c s
  fin : s.phase = 3 → AllStuck c s.own

theorem sub_mem_ids (c : Ctx) (a t : String) (h : c.sub a t = true) : a ∈ c.ids := by
  obtain ⟨x, hx, hid, _⟩ := (subOf_iff c.members a t).1 h
  exact List.mem_map.2 ⟨x, hx, hid⟩

/-- an edge ends at an owner, and owners subscribe. -/
theorem reach_mem_ids (c : Ctx) (o : Own) (hv : Valid c o)
    {a b : String} (ha : a ∈ c.ids) (h : Reach (Edge c o) a b) : b ∈ c.ids := by
  cases h with
  | refl => exact ha
  | tail _ e =>
    obtain ⟨p, _, hob, _⟩ := e
    exact sub_mem_ids c b p.1 (hv.owner p b hob).2

theorem sub_wanted (c : Ctx) (a t : String) (h : c.sub a t = true) : c.wanted t = true := by
  obtain ⟨x, hx, _, ht⟩ := (subOf_iff c.members a t).1 h
  simp only [Ctx.wanted, List.any_eq_true]
  exact ⟨x, hx, by simpa using ht⟩

theorem validB_spec (c : Ctx) (o : Own) (h : validB c o = true) : Valid c o := by
  simp only [validB, Bool.and_eq_true, List.all_eq_true] at h
  constructor
  · intro p b hpb
    have := h.1 (p, b) (Std.HashMap.mem_toList_iff_getElem?_eq_some.2 hpb)
    simpa using this
  · intro p hp hw
    have := h.2 p ((mem_parts c p).2 hp)
    simpa [hw] using this

theorem enter_eq (c : Ctx) (s s1 : St) (h : enter c s = some s1) :
    s1 = { s with phase := 2 } ∧ (s.phase = 2 ∨ (s.phase = 1 ∧ validB c s.own = true)) := by
  revert h
  -- balancing already; coming from the assignment phase with a valid plan (the third case, `none`, goes by `cases h`)
  fun_cases enter c s <;> intro h <;> cases h
  next hp => exact ⟨congrArg (fun n => { s with phase := n }) (beq_iff_eq.mp hp), Or.inl (beq_iff_eq.mp hp)⟩
  next hp =>
    simp only [Bool.and_eq_true, beq_iff_eq] at hp
    exact ⟨rfl, Or.inr hp⟩

theorem enter_spec (c : Ctx) (s s1 : St) (h : enter c s = some s1) (hg : Good c s) :
    s1.phase = 2 ∧ Inv c s1 := by
  obtain ⟨rfl, h2 | ⟨h1, hv⟩⟩ := enter_eq c s s1 h
  · have hi := hg.inv (by omega)
    exact ⟨rfl, hi.valid, hi.complete, hi.stuck, hi.low⟩
  · have hv := validB_spec c s.own hv
    have hgiv : s.given = [] := hg.early (by omega)
    exact ⟨rfl, hv.owner, hv.complete, fun g hgm => by simp [hgiv] at hgm, fun g hgm => by simp [hgiv] at hgm⟩

theorem closedB_closed (c : Ctx) (o : Own) (S : List String) (h : closedB c o S = true) :
    ∀ a ∈ S, ∀ b, Edge c o a b → b ∈ S := by
  intro a ha b ⟨p, hp, hob, hsub⟩
  simp only [closedB, List.all_eq_true] at h
  have hp' : p.2 < cnt c.topics p.1 := by simpa [Ctx.isPart] using hp
  have htn : p.1 ∈ c.topicNames := (mem_dedup _ _).2 (lookup_pos_mem _ _ (Nat.lt_of_le_of_lt (Nat.zero_le _) hp'))
  have := h p.1 htn
  simp only [Bool.or_eq_true, Bool.not_eq_true', List.all_eq_true, List.mem_range] at this
  rcases this with hn | hall
  · rw [any_subscribes c.members S a p.1 ha hsub] at hn
    cases hn
  · have := hall p.2 hp'
    rw [show ((p.1, p.2) : TP) = p from rfl, hob] at this
    simpa using this

theorem stuckB_spec (c : Ctx) (o : Own) (m : String) (h : stuckB c o m = true) : ¬ CanImprove c o m := by
  rintro ⟨b, hr, hl⟩
  simp only [stuckB, Bool.and_eq_true, List.all_eq_true] at h
  obtain ⟨⟨hin, hcl⟩, hall⟩ := h
  have hb : b ∈ closure c o m := Reach.mem_of_closed (by simpa using hin) (closedB_closed c o _ hcl) hr
  have := hall b hb
  simp only [decide_eq_true_eq] at this
  omega

section Guards
variable {c : Ctx} {s : St} {m : String} {p : TP}

theorem initOK_phase {owns stl : List (String × TP)} (h : initOK c s owns stl = true) : s.phase = 0 := by
  simp only [initOK, Bool.and_eq_true, beq_iff_eq, and_assoc] at h
  exact h.1

theorem dropOK_iff : dropOK c s m p = true ↔ s.phase = 1 ∧ s.own[p]? = some m ∧ c.sub m p.1 = false := by
  simp only [dropOK, Bool.and_eq_true, beq_iff_eq, Bool.not_eq_true', and_assoc]

theorem restickOK_iff :
    restickOK c s m p = true ↔ s.phase = 1 ∧ (m, p) ∈ s.stale ∧ c.sub m p.1 = true ∧ c.isPart p = true ∧
      ∀ cur, s.own[p]? = some cur → level c s.own m + 1 < level c s.own cur := by
  simp only [restickOK, Bool.and_eq_true, beq_iff_eq, List.contains_iff_mem, and_assoc]
  cases s.own[p]? <;> simp

/-- the clause on `levelMap` (no theorem reads it) left out -/
theorem assignOK_spec (h : assignOK c s m p = true) :
    s.phase = 1 ∧ s.own[p]? = none ∧ c.sub m p.1 = true ∧ c.isPart p = true := by
  simp only [assignOK, Bool.and_eq_true, beq_iff_eq, Option.isNone_iff_eq_none, and_assoc] at h
  exact ⟨h.1, h.2.1, h.2.2.1, h.2.2.2.1⟩

theorem giveupOK_iff :
    giveupOK c s m = true ↔ m ∈ c.ids ∧ m ∉ s.given ∧ (∀ a ∈ active c s, level c s.own m ≤ level c s.own a) ∧
      stuckB c s.own m = true := by
  simp only [giveupOK, Bool.and_eq_true, decide_eq_true_eq, List.contains_eq_mem, Bool.not_eq_true',
    decide_eq_false_iff_not, List.all_eq_true, and_assoc]

theorem stealOK_iff {x : String} {ch : List (TP × String)} :
    stealOK c s m x ch = true ↔ m ∈ c.ids ∧ m ∉ s.given ∧ chainOK c s.own x ch = true ∧ chainEnd x ch = m ∧
      level c s.own m + 2 ≤ level c s.own x := by
  simp only [stealOK, Bool.and_eq_true, decide_eq_true_eq, List.contains_eq_mem, beq_iff_eq, Bool.not_eq_true',
    decide_eq_false_iff_not, and_assoc]

end Guards

theorem steal_inv (c : Ctx) (s : St) (m x : String) (ch : List (TP × String)) (hi : Inv c s)
    (hok : stealOK c s m x ch = true) : Inv c { s with own := applyChain s.own ch } := by
  obtain ⟨hmid, hmg, hch, hend, hlv⟩ := stealOK_iff.1 hok
  have hv := applyChain_valid c s.own x ch hch hi.own_valid
  refine ⟨hv.owner, hv.complete, ?_, ?_⟩
  · intro g hg
    exact stuck_after_chain c s.own x m g ch hch hend hlv (hi.stuck g hg) (hi.low g hg m hmid hmg)
  · intro g hg a ha hag
    have hgm := hi.low g hg m hmid hmg
    have hga := hi.low g hg a ha hag
    -- `g` gained nothing; `a` lost nothing unless it is the source, which had two more than `m` and lost one
    have hg' := level_chain_le hch (n := g) (hend ▸ fun e => hmg (e ▸ hg))
    simp only
    by_cases hax : x = a
    · have := level_le_chain_succ hch (n := x)
      subst hax
      omega
    · have := le_level_chain hch hax
      omega

theorem mem_active (c : Ctx) (s : St) (a : String) : a ∈ active c s ↔ a ∈ c.ids ∧ a ∉ s.given := by
  simp only [active, List.mem_filter, List.contains_eq_mem, Bool.not_eq_true', decide_eq_false_iff_not]

theorem giveup_inv (c : Ctx) (s : St) (m : String) (hi : Inv c s) (hok : giveupOK c s m = true) :
    Inv c { s with given := m :: s.given } := by
  obtain ⟨hmid, hmg, hmin, hst⟩ := giveupOK_iff.1 hok
  refine ⟨hi.valid, hi.complete, ?_, ?_⟩
  · intro g hg
    rcases List.mem_cons.1 hg with e | e
    · subst e; exact stuckB_spec c s.own _ hst
    · exact hi.stuck g e
  · intro g hg a ha hag
    simp only [List.mem_cons, not_or] at hag
    rcases List.mem_cons.1 hg with e | e
    · subst e
      exact hmin a ((mem_active c s a).mpr ⟨ha, hag.2⟩)
    · exact hi.low g e a ha hag.2

theorem done_allStuck (c : Ctx) (s : St) (hi : Inv c s) (hok : doneOK c s = true) : AllStuck c s.own := by
  intro a ha
  by_cases hag : a ∈ s.given
  · exact hi.stuck a hag
  · rintro ⟨b, hr, hl⟩
    have hb : b ∈ c.ids := reach_mem_ids c s.own hi.own_valid ha hr
    by_cases hbg : b ∈ s.given
    · have := hi.low b hbg a ha hag
      omega
    · simp only [doneOK, List.all_eq_true, List.mem_map, decide_eq_true_eq] at hok
      have := hok _ ⟨b, (mem_active c s b).mpr ⟨hb, hbg⟩, rfl⟩ _ ⟨a, (mem_active c s a).mpr ⟨ha, hag⟩, rfl⟩
      omega

theorem good_init (c : Ctx) : Good c {} :=
  ⟨fun _ => rfl, fun h => by simp at h, fun h => by simp at h⟩

theorem Good.of_inv {c : Ctx} {s : St} (hp : s.phase = 2) (hi : Inv c s) : Good c s :=
  ⟨fun h => by omega, fun _ => hi, fun h => by omega⟩

theorem step_good (c : Ctx) (s s' : St) (e : Ev) (h : step c s e = some s') (hg : Good c s) : Good c s' := by
  revert h
  fun_cases step c s e <;> intro h <;> cases h
  -- init, drop, restick, assign: accepted in phase 0 or 1 only, and leave the phase at 1 and `given` alone
  iterate 4
    next hok =>
      simp only [initOK, dropOK, restickOK, assignOK, Bool.and_eq_true, beq_iff_eq, and_assoc] at hok
      have hp := hok.1
      exact ⟨fun _ => hg.early (by omega), fun h2 => by simp only [] at h2; omega, fun h3 => by simp only [] at h3; omega⟩
  next m x ch s1 hent hok =>
    obtain ⟨hp, hi⟩ := enter_spec c s s1 hent hg
    exact .of_inv hp (steal_inv c s1 m x ch hi hok)
  next m s1 hent hok =>
    obtain ⟨hp, hi⟩ := enter_spec c s s1 hent hg
    exact .of_inv hp (giveup_inv c s1 m hi hok)
  next s1 hent hok =>
    have hi := (enter_spec c s s1 hent hg).2
    exact ⟨fun h1 => by simp at h1, fun _ => ⟨hi.valid, hi.complete, hi.stuck, hi.low⟩, fun _ => done_allStuck c s1 hi hok⟩

theorem run_inv (c : Ctx) (P : St → Prop) (hP : ∀ s s' e, step c s e = some s' → P s → P s') (s s' : St) (i : Nat)
    (es : List Ev) (h : run c s i es = .ok s') (hs : P s) : P s' := by
  induction es generalizing s i with
  | nil => cases h; exact hs
  | cons e es ih =>
    rw [run] at h
    split at h
    · cases h
    · next s1 hs1 => exact ih s1 (i + 1) h (hP s s1 e hs1 hs)

theorem run_good (c : Ctx) (s s' : St) (i : Nat) (es : List Ev) (h : run c s i es = .ok s') (hg : Good c s) : Good c s' :=
  run_inv c (Good c) (step_good c) s s' i es h hg

theorem load_planOf (c : Ctx) (o : Own) (m : String) : load (planOf c o) m = level c o m := by
  unfold load planOf level
  rw [List.countP_filterMap]
  refine List.countP_congr fun p _ => ?_
  cases o[p]? <;> simp

theorem mem_planOf (c : Ctx) (o : Own) (x : Triple) :
    x ∈ planOf c o ↔ c.isPart (x.2.1, x.2.2) = true ∧ o[(x.2.1, x.2.2)]? = some x.1 := by
  simp only [planOf, List.mem_filterMap, Option.map_eq_some_iff]
  constructor
  · rintro ⟨p, hp, m, hm, rfl⟩
    exact ⟨(mem_parts c p).1 hp, hm⟩
  · rintro ⟨hp, ho⟩
    exact ⟨(x.2.1, x.2.2), (mem_parts c _).2 hp, x.1, ho, rfl⟩

theorem validPlan_planOf (c : Ctx) (o : Own) (hv : Valid c o) :
    validPlan (subsOf c.members) (cnt c.topics) (planOf c o) = true := by
  -- the plan hands out the partitions that have an owner: those of the wanted topics
  have htp : (planOf c o).map Triple.tp = tpsOf (c.topicNames.filter c.wanted) (cnt c.topics) := by
    have h1 : (planOf c o).map Triple.tp = c.parts.filter fun p => (o[p]?).isSome := by
      rw [← List.filterMap_eq_filter, planOf, List.map_filterMap]
      congr 1; funext p
      cases h : o[p]? <;> simp [Option.guard, h, Triple.tp]
    rw [h1, ← filter_tpsOf]
    refine List.filter_congr fun p hp => ?_
    cases h : o[p]? with
    | none =>
      cases hw : c.wanted p.1 with
      | false => rfl
      | true => exact absurd (hv.complete p ((mem_parts c p).1 hp) hw) (by simp [h])
    | some b => exact (sub_wanted c b p.1 (hv.owner p b h).2).symm
  refine validPlan_of_tps _ _ _ _ ((nodup_dedup _).sublist List.filter_sublist) (fun t ht hn => ?_) (fun x hx => ?_)
    (List.Perm.of_eq htp)
  · obtain ⟨m, hm, htm⟩ := List.mem_flatMap.mp (flatMap_subs Member.id Member.topics c.members ▸ ht)
    have hw : c.wanted t = true := List.any_eq_true.mpr ⟨m, hm, List.contains_iff_mem.mpr htm⟩
    exact Nat.eq_zero_of_not_pos fun h =>
      hn (List.mem_filter.mpr ⟨(mem_dedup _ _).mpr (lookup_pos_mem _ _ h), hw⟩)
  · obtain ⟨m, hm, hid, ht⟩ := (subOf_iff c.members x.1 x.2.1).1 (hv.owner _ _ ((mem_planOf c o x).1 hx).2).2
    exact ⟨(m.id, m.topics), List.mem_map.2 ⟨m, hm, rfl⟩, hid, ht⟩

theorem canTake_iff_edge (c : Ctx) (o : Own) (a b : String) : CanTake c.members (planOf c o) a b ↔ Edge c o a b := by
  constructor
  · rintro ⟨x, hx, rfl, hsub⟩
    obtain ⟨hp, ho⟩ := (mem_planOf c o x).1 hx
    exact ⟨(x.2.1, x.2.2), hp, ho, hsub⟩
  · rintro ⟨p, hp, ho, hsub⟩
    exact ⟨(b, p.1, p.2), (mem_planOf c o _).2 ⟨hp, ho⟩, rfl, hsub⟩

theorem allStuck_iff_optimal (c : Ctx) (o : Own) : AllStuck c o ↔ Optimal c.members (planOf c o) := by
  constructor
  · intro h a ha b hr
    have hr' : Reach (Edge c o) a b := Reach.mono (fun x y => (canTake_iff_edge c o x y).1) hr
    rw [load_planOf, load_planOf]
    apply Nat.lt_of_not_le
    intro hl
    exact h a ha ⟨b, hr', hl⟩
  · intro h a ha ⟨b, hr, hl⟩
    have hr' : Reach (CanTake c.members (planOf c o)) a b := Reach.mono (fun x y => (canTake_iff_edge c o x y).2) hr
    have := h a ha b hr'
    rw [load_planOf, load_planOf] at this
    omega

theorem step_stable (c : Ctx) (s s' : St) (e : Ev) (h : step c s e = some s') (hph : 1 ≤ s.phase) (hv : Valid c s.own)
    (hs : AllStuck c s.own) : s'.own = s.own ∧ 1 ≤ s'.phase := by
  revert h
  fun_cases step c s e <;> intro h <;> cases h
  -- init: only in phase 0
  next hok =>
    have := initOK_phase hok
    omega
  -- drop: the owner would not subscribe
  next m p hok =>
    obtain ⟨_, ho, hsub⟩ := dropOK_iff.1 hok
    rw [(hv.owner p m ho).2] at hsub
    cases hsub
  -- restick: the partition would be unassigned, or its owner two above the stale claimant
  next m p hok =>
    obtain ⟨_, _, hsub, hp, hm⟩ := restickOK_iff.1 hok
    exfalso
    cases hcur : s.own[p]? with
    | none =>
      have := hv.complete p hp (sub_wanted c m p.1 hsub)
      rw [hcur] at this
      cases this
    | some cur =>
      exact hs m (sub_mem_ids c m p.1 hsub) ⟨cur, .tail (.refl _) ⟨p, hp, hcur, hsub⟩, hm cur hcur⟩
  -- assign: the partition would be unassigned
  next m p hok =>
    obtain ⟨_, hnone, hsub, hp⟩ := assignOK_spec hok
    have := hv.complete p hp (sub_wanted c m p.1 hsub)
    rw [hnone] at this
    cases this
  -- steal: `m` would reach `x`, which holds two more
  next m x ch s1 hent hok =>
    obtain ⟨rfl, _⟩ := enter_eq c s s1 hent
    obtain ⟨hmid, _, hch, hend, hlv⟩ := stealOK_iff.1 hok
    exact absurd ⟨x, hend ▸ (chain_reach c s.own x x ch hch (.refl _)).1, hlv⟩ (hs m hmid)
  -- giveup, done: the plan is not touched
  next m s1 hent hok =>
    obtain ⟨rfl, _⟩ := enter_eq c s s1 hent
    exact ⟨rfl, by simp⟩
  next s1 hent hok =>
    obtain ⟨rfl, _⟩ := enter_eq c s s1 hent
    exact ⟨rfl, by simp⟩

theorem run_stable (c : Ctx) (s s' : St) (i : Nat) (es : List Ev) (h : run c s i es = .ok s') (hph : 1 ≤ s.phase)
    (hv : Valid c s.own) (hs : AllStuck c s.own) : s'.own = s.own :=
  (run_inv c (fun s1 => s1.own = s.own ∧ 1 ≤ s1.phase) (fun s1 s2 e h1 ⟨ho, hp⟩ =>
    have ⟨ho2, hp2⟩ := step_stable c s1 s2 e h1 hp (ho ▸ hv) (ho ▸ hs)
    ⟨ho2.trans ho, hp2⟩) s s' i es h ⟨rfl, hph⟩).1

end Proof.C26
