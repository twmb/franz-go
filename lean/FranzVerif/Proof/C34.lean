import FranzVerif.Model.C34
/-! kfake's loops and Kafka's rules are brought to one form, a Boolean expression in `List.any` over the ACL list.
`allowed`: the four per-entry matchers are Kafka's (`matches*_eq`), so the loop is "no matching DENY and some matching
ALLOW" (`allowedLoop_eq`). `anyAllowed`: both sides are rewritten over the bindings themselves with `denyLit`/`denyPre`
(`byTypeAcls_eq` for Kafka's name sets; `collect_eq`, `scan_eq`, `dominated_denies` for kfake's two loops) and meet in
the per-entry identity `counts_eq`. `principal_inj`/`supers_contains` are the super-user glue (user names against
principals). `probe_implies_byType`: for an operation nothing implies, a successful `authorize` on one resource name
exhibits an ALLOW that the by-type rule counts. -/
namespace Proof.C34
open Model.C34

/-- The two pattern codes and the two permission codes are distinct: what the proofs below use of their values. -/
theorem pat_ne : (patLiteral == patPrefixed) = false ∧ (patPrefixed == patLiteral) = false := ⟨rfl, rfl⟩
theorem perm_ne : (permDeny == permAllow) = false ∧ (permAllow == permDeny) = false := ⟨rfl, rfl⟩

theorem matchesOp_eq (a : Acl) (op : Nat) : matchesOp a op = Spec.opMatches a op := by
  unfold matchesOp Spec.opMatches Spec.impliesDescribe Spec.impliesDescribeConfigs
  simp only [opAll, opRead, opWrite, opDelete, opAlter, opDescribe, opDescribeConfigs, opAlterConfigs, permAllow]
  rw [Bool.eq_iff_iff]
  by_cases h1 : a.op = 2
  · simp [h1]
  by_cases h3 : a.perm = 3
  · by_cases h4 : op = 8
    · subst h4
      simp [h1, h3, or_assoc]
    · by_cases h5 : op = 10
      · subst h5
        simp [h1, h3]
      · simp [h1, h3, h4, h5]
        exact eq_comm
  · simp [h1, h3]
    exact eq_comm

theorem matchesPrincipal_eq (a : Acl) (p : Str) : matchesPrincipal a p = Spec.principalMatches a p := by
  simp [matchesPrincipal, Spec.principalMatches, Bool.beq_eq_decide_eq]

theorem matchesHost_eq (a : Acl) (h : Str) : matchesHost a h = Spec.hostMatches a h := by
  simp [matchesHost, Spec.hostMatches, Bool.or_comm]

theorem matchesResource_eq (a : Acl) (rt : Nat) (n : Str) : matchesResource a rt n = Spec.resourceMatches a rt n := by
  unfold matchesResource Spec.resourceMatches
  by_cases h1 : a.rtype = rt
  · by_cases h2 : a.pattern = patLiteral
    · simp [h1, h2, pat_ne]
    · simp [h1, h2, Bool.beq_eq_decide_eq]
  · simp [h1]

/-- the `continue` test of `allowed` -/
theorem skip_eq (a : Acl) (q : Req) :
    (!matchesResource a q.rtype q.name || !matchesPrincipal a q.principal || !matchesHost a q.host || !matchesOp a q.op)
      = !Spec.aclMatches a q := by
  rw [matchesResource_eq, matchesPrincipal_eq, matchesHost_eq, matchesOp_eq]
  simp [Spec.aclMatches, Bool.not_and]

theorem allowedLoop_eq (acls : List Acl) (q : Req) (h : Bool)
    (wf : ∀ a ∈ acls, a.perm = permAllow ∨ a.perm = permDeny) :
    allowedLoop acls q h =
      (!((acls.filter (Spec.aclMatches · q)).any (·.perm == permDeny)) &&
        (h || (acls.filter (Spec.aclMatches · q)).any (·.perm == permAllow))) := by
  induction acls generalizing h with
  | nil => simp [allowedLoop]
  | cons a rest ih =>
    have wf' : ∀ a ∈ rest, a.perm = permAllow ∨ a.perm = permDeny := fun x hx => wf x (by simp [hx])
    unfold allowedLoop
    rw [skip_eq]
    by_cases hm : Spec.aclMatches a q = true
    · rcases wf a (by simp) with hp | hp
      · simp [hm, hp, ih _ wf', perm_ne]
      · simp [hm, hp, perm_ne]
    · simp [hm, ih _ wf']

theorem any_or {α} (l : List α) (f g : α → Bool) : (l.any fun x => f x || g x) = (l.any f || l.any g) := by
  induction l with
  | nil => rfl
  | cons x l ih => simp only [List.any_cons, ih, Bool.or_assoc, Bool.or_left_comm]

/-- Some binding relevant to `q` is a DENY on the literal `n`. -/
def denyLit (acls : List Acl) (q : Req) (n : Str) : Bool :=
  acls.any fun d => Spec.byTypeRelevant d q && d.perm == permDeny && d.pattern == patLiteral && d.name == n

/-- Some binding relevant to `q` is a DENY on a non-empty prefix of `n`. -/
def denyPre (acls : List Acl) (q : Req) (n : Str) : Bool :=
  acls.any fun d => Spec.byTypeRelevant d q && d.perm == permDeny && d.pattern == patPrefixed &&
    (d.name != [] && d.name.isPrefixOf n)

theorem names_any (acls : List Acl) (q : Req) (perm pat : Nat) (f : Str → Bool) :
    (Spec.names acls q perm pat).any f =
      acls.any fun a => Spec.byTypeRelevant a q && a.perm == perm && a.pattern == pat && f a.name := by
  simp only [Spec.names, List.any_map, List.any_filter, Function.comp_def]

theorem names_contains (acls : List Acl) (q : Req) (n : Str) :
    (Spec.names acls q permDeny patLiteral).contains n = denyLit acls q n := by
  rw [List.contains_eq_any_beq, names_any]
  simp only [BEq.comm (a := n), denyLit]

theorem mem_nonEmptyPrefixes (x s : Str) : x ∈ Spec.nonEmptyPrefixes s ↔ x ≠ [] ∧ x <+: s := by
  simp only [Spec.nonEmptyPrefixes, List.mem_map, List.mem_range]
  constructor
  · rintro ⟨i, hi, rfl⟩
    refine ⟨?_, List.take_prefix _ _⟩
    intro h
    have := congrArg List.length h
    simp only [List.length_take, List.length_nil] at this
    omega
  · rintro ⟨hne, hp⟩
    have hl : x.length ≤ s.length := hp.length_le
    have hx : 0 < x.length := List.length_pos_iff.2 hne
    refine ⟨x.length - 1, by omega, ?_⟩
    have : x.length - 1 + 1 = x.length := by omega
    rw [this]
    exact (List.prefix_iff_eq_take.1 hp).symm

theorem hasDom_eq_any (name : Str) (L : List Str) :
    Spec.hasDominantPrefixedDeny name L = L.any fun p => p != [] && p.isPrefixOf name := by
  rw [Bool.eq_iff_iff]
  simp only [Spec.hasDominantPrefixedDeny, List.any_eq_true, List.contains_iff_mem, mem_nonEmptyPrefixes,
    Bool.and_eq_true, bne_iff_ne, ne_eq, List.isPrefixOf_iff_prefix]
  exact ⟨fun ⟨x, h, hL⟩ => ⟨x, hL, h⟩, fun ⟨x, hL, h⟩ => ⟨x, h, hL⟩⟩

theorem hasDom_names (acls : List Acl) (q : Req) (n : Str) :
    Spec.hasDominantPrefixedDeny n (Spec.names acls q permDeny patPrefixed) = denyPre acls q n := by
  rw [hasDom_eq_any, names_any, denyPre]

theorem byTypeAcls_eq (acls : List Acl) (q : Req) :
    Spec.byTypeAcls acls q =
      if denyLit acls q star then false
      else acls.any fun a => Spec.byTypeRelevant a q && a.perm == permAllow &&
        (a.pattern == patLiteral && (a.name == star || (!denyLit acls q a.name && !denyPre acls q a.name)) ||
          a.pattern == patPrefixed && !denyPre acls q a.name) := by
  simp only [Spec.byTypeAcls, names_contains, hasDom_names, names_any, ← any_or, Bool.and_assoc,
    ← Bool.and_or_distrib_left]

/-- kfake's relevance test of `anyAllowed` (first loop) -/
theorem skip2_eq (a : Acl) (q : Req) :
    (a.rtype != q.rtype || !matchesPrincipal a q.principal || !matchesHost a q.host || (a.op != q.op && a.op != opAll))
      = !Spec.byTypeRelevant a q := by
  rw [matchesPrincipal_eq, matchesHost_eq]
  unfold Spec.byTypeRelevant
  simp only [bne]
  generalize (a.rtype == q.rtype) = b1
  generalize Spec.principalMatches a q.principal = b2
  generalize Spec.hostMatches a q.host = b3
  generalize (a.op == q.op) = b4
  generalize (a.op == opAll) = b5
  cases b1 <;> cases b2 <;> cases b3 <;> cases b4 <;> cases b5 <;> rfl

theorem collect_eq (acls : List Acl) (q : Req) (al dn : List Acl) :
    anyAllowedCollect acls q al dn =
      if denyLit acls q star then none
      else some (al ++ (acls.filter (Spec.byTypeRelevant · q)).filter (·.perm == permAllow),
                 dn ++ (acls.filter (Spec.byTypeRelevant · q)).filter (·.perm == permDeny)) := by
  induction acls generalizing al dn with
  | nil => simp [anyAllowedCollect, denyLit]
  | cons a rest ih =>
    unfold anyAllowedCollect
    rw [skip2_eq]
    simp only [denyLit, List.any_cons] at ih ⊢
    by_cases hr : Spec.byTypeRelevant a q = true
    · by_cases hd : a.perm = permDeny
      · by_cases hs : (a.pattern == patLiteral && a.name == star) = true
        · simp [hr, hd, hs]
        · simp [hr, hd, hs, perm_ne, ih]
      · have hd' : (a.perm == permDeny) = false := by simpa using hd
        by_cases ha : a.perm = permAllow
        · simp [hr, ha, ih, perm_ne]
        · have ha' : (a.perm == permAllow) = false := by simpa using ha
          simp [hr, hd', ha', ih]
    · simp [hr, ih]

/-- What one DENY `d` assigns to `dominated` in the body of `dominatedLoop` (a `d` of another pattern type leaves the
`false` it had); the loop is `any` of this because it breaks at the first `true`. -/
def domF (al : Acl) (literal : Bool) (d : Acl) : Bool :=
  (d.pattern == patLiteral && (literal && d.name == al.name)) ||
  (d.pattern == patPrefixed && (d.name != [] && d.name.isPrefixOf al.name))

theorem dominatedLoop_eq (al : Acl) (literal : Bool) (ds : List Acl) :
    dominatedLoop al literal ds false = ds.any (domF al literal) := by
  induction ds with
  | nil => simp [dominatedLoop]
  | cons d ds ih =>
    unfold dominatedLoop
    by_cases h3 : d.pattern = patLiteral
    · by_cases hx : (literal && d.name == al.name) = true
      · simp [h3, hx, domF]
      · simp [h3, hx, domF, pat_ne, ih]
    · have h3' : (d.pattern == patLiteral) = false := by simpa using h3
      by_cases h4 : d.pattern = patPrefixed
      · by_cases hx : (d.name != [] && d.name.isPrefixOf al.name) = true
        · simp [h4, hx, domF, pat_ne]
        · simp [h4, hx, domF, ih, pat_ne]
      · have h4' : (d.pattern == patPrefixed) = false := by simpa using h4
        simp [h3', h4', domF, ih]

theorem dominated_denies (acls : List Acl) (q : Req) (al : Acl) (literal : Bool) :
    dominatedLoop al literal ((acls.filter (Spec.byTypeRelevant · q)).filter (·.perm == permDeny)) false =
      (literal && denyLit acls q al.name || denyPre acls q al.name) := by
  rw [dominatedLoop_eq]
  cases literal <;>
    simp only [domF, List.any_filter, Bool.and_or_distrib_left, any_or, denyLit, denyPre, Bool.and_assoc,
      Bool.true_and, Bool.false_and, Bool.and_false, Bool.false_or]

/-- The body of `anyAllowedScan` for one ALLOW `al`: does it make the loop return `true`? Its three tests are kept in the
code's form; with `dominated_denies` for the inner loop it is the left-hand side of `counts_eq`. -/
def scanG (denies : List Acl) (al : Acl) : Bool :=
  if (al.pattern == patLiteral && al.name == star) = true then true
  else if (!(al.pattern == patLiteral) && al.pattern != patPrefixed) = true then false
  else !dominatedLoop al (al.pattern == patLiteral) denies false

theorem scan_eq (denies allows : List Acl) : anyAllowedScan denies allows = allows.any (scanG denies) := by
  induction allows with
  | nil => rfl
  | cons al rest ih =>
    rw [anyAllowedScan, List.any_cons, scanG, ← ih]
    split
    · rfl
    · split
      · rfl
      · cases dominatedLoop al (al.pattern == patLiteral) denies false <;> rfl

/-- `x`: a relevant DENY has the entry's literal name; `y`: one has a non-empty prefix of its name. -/
theorem counts_eq (al : Acl) (x y : Bool) :
    (if (al.pattern == patLiteral && al.name == star) = true then true
      else if (!(al.pattern == patLiteral) && al.pattern != patPrefixed) = true then false
      else !((al.pattern == patLiteral) && x || y)) =
    (al.pattern == patLiteral && (al.name == star || (!x && !y)) || al.pattern == patPrefixed && !y) := by
  by_cases hL : al.pattern = patLiteral
  · simp only [hL, pat_ne, bne, beq_self_eq_true]
    cases (al.name == star) <;> cases x <;> cases y <;> rfl
  · have hL' : (al.pattern == patLiteral) = false := by simpa using hL
    simp only [hL', bne]
    cases (al.pattern == patPrefixed) <;> cases y <;> rfl

theorem principal_inj (u v : Str) (h : principal u = principal v) :
    u = v ∨ (u = [] ∧ v = anonymous) ∨ (u = anonymous ∧ v = []) := by
  unfold principal at h
  by_cases hu : u = [] <;> by_cases hv : v = [] <;> simp_all [List.append_cancel_left_eq]

theorem supers_contains (supers : List Str) (user : Str)
    (h1 : anonymous ∉ supers) (h2 : ([] : Str) ∉ supers) :
    (supers.map principal).contains (principal user) = supers.contains user := by
  rw [Bool.eq_iff_iff]
  simp only [List.contains_iff_mem, List.mem_map]
  constructor
  · rintro ⟨s, hs, he⟩
    rcases principal_inj s user he with h | ⟨h, _⟩ | ⟨h, _⟩
    · exact h ▸ hs
    · exact absurd (h ▸ hs) h2
    · exact absurd (h ▸ hs) h1
  · intro h; exact ⟨user, h, rfl⟩

theorem opMatches_notImplied (a : Acl) (op : Nat) (h : notImplied op) :
    Spec.opMatches a op = (a.op == op || a.op == opAll) := by
  obtain ⟨h1, h2⟩ := h
  unfold Spec.opMatches
  by_cases h3 : a.op = opAll
  · simp [h3]
  · have h3' : (a.op == opAll) = false := beq_false_of_ne h3
    simp only [h1, h2, h3', beq_iff_eq, if_false, ite_self, Bool.or_false]
    exact BEq.comm

theorem authorizeAcls_true_iff (acls : List Acl) (q : Req) :
    Spec.authorizeAcls acls q = true ↔
      (∀ d ∈ acls, Spec.aclMatches d q = true → d.perm ≠ permDeny) ∧
      (∃ a ∈ acls, Spec.aclMatches a q = true ∧ a.perm = permAllow) := by
  simp only [Spec.authorizeAcls, Bool.if_false_left, Bool.and_eq_true, Bool.not_eq_true', List.any_eq_true,
    List.mem_filter, beq_iff_eq, and_assoc, decide_eq_false_iff_not, not_exists, not_and]

theorem relevant_aclMatches (a : Acl) (q : Req) (n : Str) (hr : Spec.byTypeRelevant a q = true)
    (hres : (a.pattern = patPrefixed ∧ a.name <+: n) ∨ (a.pattern = patLiteral ∧ (a.name = n ∨ a.name = star))) :
    Spec.aclMatches a { q with name := n } = true := by
  simp only [Spec.byTypeRelevant, Bool.and_eq_true, Bool.or_eq_true, beq_iff_eq] at hr
  obtain ⟨⟨⟨h1, h2⟩, h3⟩, h4⟩ := hr
  have hop : Spec.opMatches a q.op = true := by
    rw [← matchesOp_eq, matchesOp]
    rcases h4 with h4 | h4 <;> simp [h4]
  simp only [Spec.aclMatches, Spec.resourceMatches, Bool.and_eq_true, Bool.or_eq_true, beq_iff_eq,
    List.isPrefixOf_iff_prefix]
  exact ⟨⟨⟨⟨h1, hres⟩, h3⟩, h2⟩, hop⟩

theorem probe_implies_byType (acls : List Acl) (q : Req) (n : Str) (hop : notImplied q.op)
    (h : Spec.authorizeAcls acls { q with name := n } = true) : Spec.byTypeAcls acls q = true := by
  obtain ⟨hno, a, ha, hm, hp⟩ := (authorizeAcls_true_iff _ _).1 h
  have hm' := hm
  simp only [Spec.aclMatches, Spec.resourceMatches, Bool.and_eq_true, Bool.or_eq_true, beq_iff_eq,
    List.isPrefixOf_iff_prefix] at hm'
  obtain ⟨⟨⟨⟨h1, hres⟩, h2⟩, h3⟩, h4⟩ := hm'
  have hr : Spec.byTypeRelevant a q = true := by
    rw [opMatches_notImplied a q.op hop] at h4
    simp only [Spec.byTypeRelevant, Bool.and_eq_true, beq_iff_eq]
    exact ⟨⟨⟨h1, h3⟩, h2⟩, h4⟩
  have hdeny : ∀ d ∈ acls, Spec.byTypeRelevant d q = true → d.perm = permDeny →
      ¬ ((d.pattern = patPrefixed ∧ d.name <+: n) ∨ (d.pattern = patLiteral ∧ (d.name = n ∨ d.name = star))) :=
    fun d hd hrd hpd hres => hno d hd (relevant_aclMatches d q n hrd hres) hpd
  have hpre : ∀ m : Str, m <+: n → denyPre acls q m = false := by
    intro m hmn
    simp only [denyPre, List.any_eq_false, Bool.and_eq_true, beq_iff_eq, List.isPrefixOf_iff_prefix]
    intro d hd ⟨⟨⟨hrd, hpd⟩, hpat⟩, _, hpre⟩
    exact hdeny d hd hrd hpd (Or.inl ⟨hpat, hpre.trans hmn⟩)
  have hlit : ∀ m : Str, (m = n ∨ m = star) → denyLit acls q m = false := by
    intro m hmn
    simp only [denyLit, List.any_eq_false, Bool.and_eq_true, beq_iff_eq]
    intro d hd ⟨⟨⟨hrd, hpd⟩, hpat⟩, hname⟩
    exact hdeny d hd hrd hpd (Or.inr ⟨hpat, hname ▸ hmn⟩)
  rw [byTypeAcls_eq, hlit star (Or.inr rfl)]
  simp only [Bool.false_eq_true, if_false, List.any_eq_true]
  refine ⟨a, ha, ?_⟩
  rw [hr, hp]
  rcases hres with ⟨hpat, hpre'⟩ | ⟨hpat, hname | hname⟩
  · simp [hpat, hpre a.name hpre']
  · simp [hpat, hlit a.name (Or.inl hname), hpre a.name (hname ▸ List.prefix_refl _)]
  · simp [hpat, hname]

end Proof.C34
