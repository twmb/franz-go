import FranzVerif.Model.C35
import FranzVerif.Spec.C35
import FranzVerif.Proof.AssocList
/-! The three passes are lists of map writes run by `exec`, so the result is characterised by what every instruction
keeps (`exec_inv`): `Good` (rows carry their key, keys and topic keys are distinct, every row's topic is a topic key,
every row has an `Origin`) and `Cov` (every assigned or committed partition is present). The lag sentences are read off
a row's `Origin`: passes one and two write `mkRow`, which obeys them (`rowLaw_mkRow`); pass three writes `rowListed`,
which obeys them under the hypotheses of `rowLaw_rowListed`, and only for partitions neither assigned nor committed —
those are present after pass two, so the guard of `putNew` skips them (`pass3_inv`). Totals are an exchange of two sums
over the duplicate-free topic keys (`sum_by_topic`). -/
namespace Proof.C35
open Model.C35 Spec.C35 Proof.AssocList

theorem alook_eq {κ α : Type} [DecidableEq κ] (k : κ) (m : List (κ × α)) : alook k m = look k m := by
  induction m with
  | nil => rfl
  | cons x m ih => simp only [alook, look, ih]

theorem ains_eq {κ α : Type} [DecidableEq κ] (k : κ) (v : α) (m : List (κ × α)) :
    ains k v m = alter k (fun _ => v) m := by
  induction m with
  | nil => rfl
  | cons x m ih => simp only [ains, alter, ih]

theorem mem_of_alook {κ α : Type} [DecidableEq κ] (k : κ) (v : α) (m : List (κ × α))
    (h : alook k m = some v) : (k, v) ∈ m :=
  mem_of_look k v m (alook_eq k m ▸ h)

theorem mem_keys_of_alook {κ α : Type} [DecidableEq κ] (k : κ) (v : α) (m : List (κ × α))
    (h : alook k m = some v) : k ∈ keys m :=
  List.mem_map.2 ⟨(k, v), mem_of_alook k v m h, rfl⟩

theorem get2_some {α : Type} (m : List (Nat × List (Int × α))) (t : Nat) (p : Int) (v : α)
    (h : get2 m t p = some v) : ∃ ps, alook t m = some ps ∧ alook p ps = some v := by
  unfold get2 at h
  cases hm : alook t m with
  | none => rw [hm] at h; cases h
  | some ps => rw [hm] at h; exact ⟨ps, rfl, h⟩

theorem nodupB_iff {α : Type} [DecidableEq α] (l : List α) : nodupB l = true ↔ l.Nodup := by
  induction l with
  | nil => simp [nodupB]
  | cons x xs ih => simp [nodupB, ih]

theorem prime_rows (l : LagMap) (t : Nat) : (prime l t).rows = l.rows := by
  unfold prime; split <;> rfl

theorem prime_topics (l : LagMap) (t : Nat) :
    (prime l t).topics = if t ∈ l.topics then l.topics else l.topics ++ [t] := by
  unfold prime; split <;> rfl

theorem put_rows (l : LagMap) (t : Nat) (p : Int) (r : Row) :
    (put l t p r).rows = alter (t, p) (fun _ => r) l.rows :=
  ains_eq (t, p) r l.rows

theorem has_iff (l : LagMap) (t : Nat) (p : Int) : has l t p = true ↔ (t, p) ∈ keys l.rows := by
  rw [has, alook_eq]
  exact look_isSome _ _

theorem has_put (l : LagMap) (t t' : Nat) (p p' : Int) (r : Row) :
    has (put l t p r) t' p' = true ↔ (t', p') = (t, p) ∨ has l t' p' = true := by
  rw [has_iff, has_iff, put_rows]
  exact mem_keys_alter _ _ _ _

theorem exec_inv (I : LagMap → Prop) (ins : List Ins) (l : LagMap) (h0 : I l)
    (hs : ∀ l i, I l → i ∈ ins → I (step l i)) : I (exec l ins) := by
  induction ins generalizing l with
  | nil => exact h0
  | cons i is ih =>
    exact ih _ (hs l i h0 List.mem_cons_self) (fun l' i' hl hi => hs l' i' hl (List.mem_cons_of_mem _ hi))

theorem has_step_mono (l : LagMap) (i : Ins) (t : Nat) (p : Int) (h : has l t p = true) : has (step l i) t p = true := by
  have hput (t' p' r) : has (put l t' p' r) t p = true := (has_put l t' t p' p r).2 (Or.inr h)
  cases i with
  | prime t' => simpa [step, has, prime_rows] using h
  | put t' p' r => exact hput t' p' r
  | putNew t' p' r =>
    simp only [step]; split
    · exact h
    · exact hput t' p' r

theorem has_exec_mono (ins : List Ins) (l : LagMap) (t : Nat) (p : Int) (h : has l t p = true) :
    has (exec l ins) t p = true :=
  exec_inv (fun l => has l t p = true) ins l h (fun l' i hl _ => has_step_mono l' i t p hl)

theorem has_exec_of_mem (ins : List Ins) (l : LagMap) (t : Nat) (p : Int) (r : Row)
    (h : Ins.put t p r ∈ ins ∨ Ins.putNew t p r ∈ ins) : has (exec l ins) t p = true := by
  have hself (l) : has (put l t p r) t p = true := (has_put l t t p p r).2 (Or.inl rfl)
  induction ins generalizing l with
  | nil => simp at h
  | cons i is ih =>
    simp only [List.mem_cons] at h
    simp only [exec]
    rcases h with (rfl | h) | (rfl | h)
    · exact has_exec_mono _ _ t p (hself l)
    · exact ih _ (Or.inl h)
    · apply has_exec_mono
      simp only [step]; split
      · assumption
      · exact hself l
    · exact ih _ (Or.inr h)

theorem mkRow_keyed (inp : Input) (mem : Int) (t : Nat) (p : Int) (pc : Commit) :
    (mkRow inp mem t p pc).topic = t ∧ (mkRow inp mem t p pc).part = p := ⟨rfl, rfl⟩

/-- The commit the code has in hand is the entry of the commit map, or the error-free `At: -1` default when there is none. -/
theorem perrOf_eq_zero (inp : Input) (t : Nat) (p : Int) :
    perrOf ((get2 inp.commit t p).getD noCommit1) (get2 inp.end_ t p) = 0 ↔ bad inp t p = false := by
  unfold perrOf bad
  cases get2 inp.end_ t p with
  | none => simp [errMissing]
  | some e =>
    cases get2 inp.commit t p with
    | none => simp [noCommit1]
    | some c => by_cases hc : c.err = 0 <;> simp [hc]

/-- A missing start offset reads as errored, the default commit as uncommitted. -/
theorem calcLag_eq (inp : Input) (t : Nat) (p : Int) :
    calcLag ((get2 inp.commit t p).getD noCommit1) ((get2 inp.start t p).getD missing)
      ((get2 inp.end_ t p).getD missing) 0 = expectLag inp t p := by
  unfold calcLag expectLag
  simp only [if_true]
  generalize ((get2 inp.end_ t p).getD missing).off = e
  cases get2 inp.commit t p <;> cases get2 inp.start t p <;> rfl

theorem rowLaw_mkRow (inp : Input) (mem : Int) (t : Nat) (p : Int) :
    rowLaw inp (mkRow inp mem t p ((get2 inp.commit t p).getD noCommit1)) = true := by
  have hz := perrOf_eq_zero inp t p
  unfold rowLaw mkRow
  simp only
  cases hb : bad inp t p with
  | false => rw [hz.2 hb, calcLag_eq]; simp
  | true =>
    have : perrOf ((get2 inp.commit t p).getD noCommit1) (get2 inp.end_ t p) ≠ 0 := fun h => by simp [hz.1 h] at hb
    simp [calcLag, this]

/-- `hc`: pass three never looks at commits; `hnn`: it does not floor the bare end offset. -/
theorem rowLaw_rowListed (inp : Input) (t : Nat) (p : Int) (pe : Listed)
    (he : get2 inp.end_ t p = some pe) (hc : get2 inp.commit t p = none)
    (hnn : pe.err = 0 → pe.off ≥ 0)
    (hx : ¬ (pe.err ≠ 0 ∧ ∃ s, get2 inp.start t p = some s ∧ s.err = 0)) :
    rowLaw inp (rowListed inp t p pe) = true := by
  unfold rowLaw bad expectLag rowListed
  simp only
  rw [hc, he]
  cases hs : get2 inp.start t p with
  | none =>
    by_cases h1 : pe.err = 0
    · have := hnn h1; simp [h1]; omega
    · simp [h1]
  | some st =>
    by_cases h1 : pe.err = 0
    · have := hnn h1
      by_cases h4 : st.err = 0 <;> simp [h1, h4] <;> omega
    · by_cases h4 : st.err = 0
      · exact absurd ⟨h1, st, hs, h4⟩ hx
      · simp [h1, h4]

/-- `r` obeys the lag sentences and its partition is assigned or committed: what every write of passes one and two carries
(`Lawful`), hence the first way a reported row arises (`Origin`). -/
def LawRow (inp : Input) (r : Row) : Prop := rowLaw inp r = true ∧ inScope inp r.topic r.part = true

/-- Where a reported row comes from: passes one and two write rows that obey the sentences, for assigned or committed
partitions; pass three writes the listed end offset of a partition that is neither (its guard skips the others). -/
def Origin (inp : Input) (r : Row) : Prop :=
  LawRow inp r ∨ ∃ t p pe, r = rowListed inp t p pe ∧ get2 inp.end_ t p = some pe ∧ inScope inp t p = false

theorem assignedIn_iff (inp : Input) (t : Nat) (p : Int) :
    assignedIn inp t p = true ↔
      ∃ m ∈ inp.members, m.assignedConsumer = true ∧ ∃ tp ∈ m.assigned, tp.1 = t ∧ p ∈ tp.2 := by
  simp only [assignedIn, List.any_eq_true, Bool.and_eq_true, beq_iff_eq, List.contains_eq_mem, decide_eq_true_eq]

theorem inScope_of_assigned (inp : Input) {m : Member} (hm : m ∈ inp.members) (hac : m.assignedConsumer = true)
    {tp : Nat × List Int} (htp : tp ∈ m.assigned) {p : Int} (hp : p ∈ tp.2) : inScope inp tp.1 p = true := by
  rw [inScope, (assignedIn_iff inp tp.1 p).2 ⟨m, hm, hac, tp, htp, rfl, hp⟩]; rfl

/-- What passes one and two write: the row carries its key, obeys the lag sentences, and its partition is assigned or
committed. -/
def Lawful (inp : Input) : Ins → Prop
  | .prime _ => True
  | .put t p r | .putNew t p r => (r.topic = t ∧ r.part = p) ∧ LawRow inp r

theorem insMember1_lawful (inp : Input) (j : Nat) (m : Member) (hm : m ∈ inp.members) (i : Ins)
    (h : i ∈ insMember1 inp j m) : Lawful inp i := by
  unfold insMember1 at h
  split at h
  · next hac =>
    simp only [List.mem_append, List.mem_flatMap] at h
    rcases h with ⟨tp, htp, h⟩ | h
    · simp only [insTopic1, List.mem_cons, List.mem_map] at h
      rcases h with h | ⟨p, hp, h⟩
      · subst h; trivial
      · subst h
        exact ⟨⟨rfl, rfl⟩, rowLaw_mkRow inp j tp.1 p, inScope_of_assigned inp hm hac htp hp⟩
    · split at h
      · simp only [List.mem_map] at h; obtain ⟨t, _, h⟩ := h; subst h; trivial
      · cases h
  · cases h

theorem ins1From_lawful (inp : Input) (ms : List Member) (hms : ∀ m ∈ ms, m ∈ inp.members) (j : Nat) (i : Ins)
    (h : i ∈ ins1From inp j ms) : Lawful inp i := by
  induction ms generalizing j with
  | nil => cases h
  | cons m ms ih =>
    simp only [ins1From, List.mem_append] at h
    rcases h with h | h
    · exact insMember1_lawful inp j m (hms m (by simp)) i h
    · exact ih (fun m' hm' => hms m' (by simp [hm'])) (j + 1) h

theorem ins2_lawful (inp : Input) (i : Ins) (h : i ∈ ins2 inp) : Lawful inp i := by
  simp only [ins2, List.mem_flatMap] at h
  obtain ⟨t, _, h⟩ := h
  simp only [insTopic2, List.mem_cons, List.mem_flatMap] at h
  rcases h with h | ⟨p, _, h⟩
  · subst h; trivial
  · split at h
    · next pc hpc =>
      simp only [List.mem_singleton] at h; subst h
      have := rowLaw_mkRow inp (-1) t p
      rw [hpc] at this
      exact ⟨⟨rfl, rfl⟩, this, by simp [mkRow, inScope, committedIn, hpc]⟩
    · cases h

theorem ins3_shape (inp : Input) (ts : List Nat) (i : Ins) (h : i ∈ ins3 inp ts) :
    ∃ t p pe, i = .putNew t p (rowListed inp t p pe) ∧ get2 inp.end_ t p = some pe := by
  simp only [ins3, List.mem_flatMap] at h
  obtain ⟨t, _, h⟩ := h
  simp only [insTopic3, List.mem_flatMap] at h
  obtain ⟨p, _, h⟩ := h
  split at h
  · next pe hpe =>
    simp only [List.mem_singleton] at h
    exact ⟨t, p, pe, h, hpe⟩
  · cases h

theorem ins1From_has_put (inp : Input) (ms : List Member) (j : Nat) (m : Member) (hm : m ∈ ms)
    (hac : m.assignedConsumer = true) (tp : Nat × List Int) (htp : tp ∈ m.assigned) (p : Int) (hp : p ∈ tp.2) :
    ∃ r, Ins.put tp.1 p r ∈ ins1From inp j ms := by
  induction ms generalizing j with
  | nil => simp at hm
  | cons m' ms ih =>
    simp only [ins1From, List.mem_append]
    rcases List.mem_cons.1 hm with e | hm'
    · subst e
      refine ⟨rowAssigned inp j tp.1 p, Or.inl ?_⟩
      simp only [insMember1, hac, if_true, List.mem_append, List.mem_flatMap]
      refine Or.inl ⟨tp, htp, ?_⟩
      simp only [insTopic1, List.mem_cons, List.mem_map]
      exact Or.inr ⟨p, hp, rfl⟩
    · obtain ⟨r, hr⟩ := ih (j + 1) hm'
      exact ⟨r, Or.inr hr⟩

theorem ins2_has_putNew (inp : Input) (t : Nat) (p : Int) (h : committedIn inp t p = true) :
    ∃ r, Ins.putNew t p r ∈ ins2 inp := by
  obtain ⟨pc, hpc⟩ := Option.isSome_iff_exists.1 h
  obtain ⟨ps, hps, hp⟩ := get2_some _ t p pc hpc
  refine ⟨mkRow inp (-1) t p pc, ?_⟩
  simp only [ins2, List.mem_flatMap]
  refine ⟨t, mem_keys_of_alook t ps _ hps, ?_⟩
  simp only [insTopic2, List.mem_cons, List.mem_flatMap]
  refine Or.inr ⟨p, ?_, ?_⟩
  · simp only [partsOf, hps]; exact mem_keys_of_alook p pc ps hp
  · rw [hpc]; simp

/-- Representation invariant of the result. -/
structure Good (inp : Input) (l : LagMap) : Prop where
  keyok : ∀ kr ∈ l.rows, kr.2.topic = kr.1.1 ∧ kr.2.part = kr.1.2
  nodup : (keys l.rows).Nodup
  tnodup : l.topics.Nodup
  tcover : ∀ kr ∈ l.rows, kr.1.1 ∈ l.topics
  origin : ∀ kr ∈ l.rows, Origin inp kr.2

theorem good_empty (inp : Input) : Good inp {} := ⟨by simp, by simp [keys], by simp, by simp, by simp⟩

theorem good_prime (inp : Input) (l : LagMap) (t : Nat) (h : Good inp l) : Good inp (prime l t) := by
  refine ⟨?_, ?_, prime_topics l t ▸ nodup_snocNew t _ h.tnodup, ?_, ?_⟩
  · rw [prime_rows]; exact h.keyok
  · rw [prime_rows]; exact h.nodup
  · rw [prime_rows, prime_topics]
    exact fun kr hkr => (mem_snocNew _ _ _).2 (Or.inr (h.tcover kr hkr))
  · rw [prime_rows]; exact h.origin

theorem good_put (inp : Input) (l : LagMap) (t : Nat) (p : Int) (r : Row) (h : Good inp l)
    (hk : r.topic = t ∧ r.part = p) (ho : Origin inp r) : Good inp (put l t p r) := by
  have all (Q : (Nat × Int) × Row → Prop) (hr : Q ((t, p), r)) (hl : ∀ kr ∈ l.rows, Q kr) :
      ∀ kr ∈ (put l t p r).rows, Q kr :=
    fun kr hkr => (mem_alter _ _ _ kr (put_rows l t p r ▸ hkr)).elim (fun e => e ▸ hr) (hl kr)
  refine ⟨all _ hk h.keyok, put_rows l t p r ▸ nodup_keys_alter _ _ _ h.nodup,
    prime_topics l t ▸ nodup_snocNew t _ h.tnodup, ?_, all _ ho h.origin⟩
  show ∀ kr ∈ (put l t p r).rows, kr.1.1 ∈ (prime l t).topics
  rw [prime_topics]
  exact all _ ((mem_snocNew _ _ _).2 (Or.inl rfl)) (fun kr hkr => (mem_snocNew _ _ _).2 (Or.inr (h.tcover kr hkr)))

theorem step_lawful (inp : Input) (l : LagMap) (i : Ins) (h : Good inp l) (hi : Lawful inp i) :
    Good inp (step l i) := by
  cases i with
  | prime t => exact good_prime inp l t h
  | put t p r => exact good_put inp l t p r h hi.1 (Or.inl hi.2)
  | putNew t p r =>
    simp only [step]; split
    · exact h
    · exact good_put inp l t p r h hi.1 (Or.inl hi.2)

/-- The map after passes one and two: the `let l2` of `Model.C35.run`. -/
def l2 (inp : Input) : LagMap := exec (exec {} (ins1 inp)) (ins2 inp)

theorem run_eq (inp : Input) : run inp = exec (l2 inp) (ins3 inp (l2 inp).topics) := rfl

theorem l2_good (inp : Input) : Good inp (l2 inp) := by
  refine exec_inv _ _ _ (exec_inv _ _ _ (good_empty inp) ?_) ?_
  · exact fun l i hl hi => step_lawful inp l i hl (ins1From_lawful inp inp.members (fun _ h => h) 0 i hi)
  · exact fun l i hl hi => step_lawful inp l i hl (ins2_lawful inp i hi)

def Cov (inp : Input) (l : LagMap) : Prop := ∀ t p, inScope inp t p = true → has l t p = true

theorem l2_cov (inp : Input) : Cov inp (l2 inp) := by
  intro t p h
  simp only [inScope, Bool.or_eq_true] at h
  rcases h with h | h
  · obtain ⟨m, hm, hac, tp, htp, rfl, hp⟩ := (assignedIn_iff inp t p).1 h
    obtain ⟨r, hr⟩ := ins1From_has_put inp inp.members 0 m hm hac tp htp p hp
    exact has_exec_mono _ _ _ p (has_exec_of_mem _ _ _ p r (Or.inl hr))
  · obtain ⟨r, hr⟩ := ins2_has_putNew inp t p h
    exact has_exec_of_mem _ _ t p r (Or.inr hr)

/-- Assigned and committed partitions are present already, so the guard of `putNew` skips their writes. -/
theorem pass3_inv (inp : Input) (ts : List Nat) (l : LagMap) (h : Good inp l ∧ Cov inp l) :
    Good inp (exec l (ins3 inp ts)) ∧ Cov inp (exec l (ins3 inp ts)) := by
  apply exec_inv (fun l => Good inp l ∧ Cov inp l) _ _ h
  intro l' i hl hi
  obtain ⟨t, p, pe, rfl, hpe⟩ := ins3_shape inp ts i hi
  simp only [step]
  split
  · exact hl
  · next hhas =>
    have hs : inScope inp t p = false := by
      cases hs : inScope inp t p with
      | false => rfl
      | true => exact absurd (hl.2 t p hs) hhas
    exact ⟨good_put inp l' t p _ hl.1 ⟨rfl, rfl⟩ (Or.inr ⟨t, p, pe, rfl, hpe, hs⟩),
      fun t' p' hs' => (has_put l' t t' p p' _).2 (Or.inr (hl.2 t' p' hs'))⟩

theorem run_good_cov (inp : Input) : Good inp (run inp) ∧ Cov inp (run inp) :=
  run_eq inp ▸ pass3_inv inp _ _ ⟨l2_good inp, l2_cov inp⟩

theorem origin_law_scope (inp : Input) (r : Row) (ho : Origin inp r) (hs : inScope inp r.topic r.part = true) :
    rowLaw inp r = true := by
  rcases ho with h | ⟨t, p, pe, rfl, _, hs'⟩
  · exact h.1
  · exact absurd (hs'.symm.trans hs) (by decide)

theorem endsNonNeg_get (inp : Input) (h : endsNonNeg inp = true) (t : Nat) (p : Int) (pe : Listed)
    (hpe : get2 inp.end_ t p = some pe) (he : pe.err = 0) : pe.off ≥ 0 := by
  obtain ⟨ps, hps, hp⟩ := get2_some _ t p pe hpe
  simp only [endsNonNeg, List.all_eq_true, Bool.or_eq_true, bne_iff_ne, decide_eq_true_eq] at h
  exact (h (t, ps) (mem_of_alook t ps _ hps) (p, pe) (mem_of_alook p pe _ hp)).resolve_left (fun hne => hne he)

theorem origin_law_all (inp : Input) (hnn : endsNonNeg inp = true) (r : Row) (ho : Origin inp r)
    (hx : thirdPassErrStart inp r.topic r.part = false) : rowLaw inp r = true := by
  rcases ho with h | ⟨t, p, pe, rfl, hpe, hs⟩
  · exact h.1
  · have hc : get2 inp.commit t p = none := by
      simp only [inScope, committedIn, Bool.or_eq_false_iff] at hs
      exact Option.not_isSome_iff_eq_none.1 (by simp [hs.2])
    apply rowLaw_rowListed inp t p pe hpe hc (endsNonNeg_get inp hnn t p pe hpe)
    rintro ⟨h1, st, hst, h4⟩
    have hx : thirdPassErrStart inp t p = false := hx
    simp [thirdPassErrStart, hs, hpe, hst, h1, h4] at hx

theorem origin_excluded (inp : Input) (r : Row) (ho : Origin inp r)
    (hx : thirdPassErrStart inp r.topic r.part = true) : r.err ≠ 0 ∧ 0 ≤ r.lag := by
  rcases ho with h | ⟨t, p, pe, rfl, hpe, hs⟩
  · simp [thirdPassErrStart, h.2] at hx
  · have hx : thirdPassErrStart inp t p = true := hx
    simp only [thirdPassErrStart, hs, hpe, Bool.not_false, Bool.true_and, Bool.and_eq_true, bne_iff_ne] at hx
    obtain ⟨h1, h2⟩ := hx
    cases hst : get2 inp.start t p with
    | none => rw [hst] at h2; cases h2
    | some st =>
      rw [hst] at h2
      have h4 : st.err = 0 := by simpa using h2
      unfold rowListed
      simp only [hst, h4, if_true]
      refine ⟨h1, ?_⟩
      split <;> omega

theorem sumBy_add {α : Type} (f g : α → Int) (xs : List α) :
    sumBy (fun x => f x + g x) xs = sumBy f xs + sumBy g xs := by
  induction xs with
  | nil => rfl
  | cons x xs ih => simp only [sumBy, ih]; omega

theorem sumBy_zero {α : Type} (xs : List α) : sumBy (fun _ => (0 : Int)) xs = 0 := by
  induction xs with
  | nil => rfl
  | cons x xs ih => simp [sumBy, ih]

theorem sumBy_congr {α : Type} (f g : α → Int) (xs : List α) (h : ∀ x ∈ xs, f x = g x) : sumBy f xs = sumBy g xs := by
  induction xs with
  | nil => rfl
  | cons x xs ih =>
    simp only [sumBy]
    rw [h x (by simp), ih (fun y hy => h y (by simp [hy]))]

theorem sumBy_map {α β : Type} (f : β → Int) (g : α → β) (xs : List α) : sumBy f (xs.map g) = sumBy (fun x => f (g x)) xs := by
  induction xs with
  | nil => rfl
  | cons x xs ih => simp [sumBy, ih]

theorem sumBy_indicator (ts : List Nat) (a : Nat) (v : Int) (hn : ts.Nodup) :
    sumBy (fun t => if a = t then v else 0) ts = if a ∈ ts then v else 0 := by
  induction ts with
  | nil => rfl
  | cons t ts ih =>
    rw [List.nodup_cons] at hn
    simp only [sumBy, ih hn.2, List.mem_cons]
    by_cases hat : a = t
    · subst hat; simp [hn.1]
    · simp [hat]

theorem lagTerm_eq (a t : Nat) (r : Row) : (if a = t ∧ r.lag > 0 then r.lag else 0) = if a = t then nonneg r else 0 := by
  unfold nonneg
  by_cases h : a = t <;> by_cases h' : r.lag > 0 <;> simp [h, h'] <;> omega

theorem sum_by_topic (ts : List Nat) (hn : ts.Nodup) (R : List ((Nat × Int) × Row)) (hc : ∀ kr ∈ R, kr.1.1 ∈ ts) :
    sumBy (fun t => sumBy (fun kr : (Nat × Int) × Row => if kr.1.1 = t ∧ kr.2.lag > 0 then kr.2.lag else 0) R) ts
      = sumBy (fun kr => nonneg kr.2) R := by
  induction R with
  | nil => exact sumBy_zero ts
  | cons x R ih =>
    simp only [sumBy, lagTerm_eq]
    rw [sumBy_add, sumBy_indicator ts x.1.1 _ hn, if_pos (hc x (by simp)), ← ih (fun kr hkr => hc kr (by simp [hkr]))]
    simp only [lagTerm_eq]

theorem total_eq (l : LagMap) (hn : l.topics.Nodup) (hc : ∀ kr ∈ l.rows, kr.1.1 ∈ l.topics) :
    total l = sumBy nonneg (l.rows.map (·.2)) := by
  unfold total totalByTopic
  rw [sumBy_map, sumBy_map]
  exact sum_by_topic l.topics hn l.rows hc

theorem topicLag_eq (l : LagMap) (hk : ∀ kr ∈ l.rows, kr.2.topic = kr.1.1) (t : Nat) :
    topicLag l t = sumBy (fun r => if r.topic = t then nonneg r else 0) (l.rows.map (·.2)) := by
  unfold topicLag
  rw [sumBy_map]
  exact sumBy_congr _ _ _ (fun kr hkr => by rw [hk kr hkr, lagTerm_eq])

theorem runOut_eq (inp : Input) :
    runOut inp = ⟨(run inp).rows.map (·.2), totalByTopic (run inp), total (run inp)⟩ := rfl

theorem keys_totalByTopic (l : LagMap) : keys (totalByTopic l) = l.topics := by
  rw [keys, totalByTopic, List.map_map]
  exact List.map_id _

theorem hasRow_of_has (inp : Input) (t : Nat) (p : Int) (h : has (run inp) t p = true) :
    hasRow (runOut inp) t p = true := by
  obtain ⟨kr, hm, e⟩ := List.mem_map.1 ((has_iff _ t p).1 h)
  have hk := (run_good_cov inp).1.keyok _ hm
  simp only [hasRow, runOut, List.any_eq_true, List.mem_map, Bool.and_eq_true, beq_iff_eq]
  exact ⟨kr.2, ⟨kr, hm, rfl⟩, hk.1.trans (congrArg (·.1) e), hk.2.trans (congrArg (·.2) e)⟩

theorem row_keys_eq (inp : Input) :
    (runOut inp).rows.map (fun r => (r.topic, r.part)) = keys (run inp).rows := by
  simp only [runOut, keys, List.map_map]
  apply List.map_congr_left
  intro kr hkr
  have hk := (run_good_cov inp).1.keyok kr hkr
  simp [hk.1, hk.2]

theorem row_origin (inp : Input) (r : Row) (hr : r ∈ (runOut inp).rows) : Origin inp r := by
  obtain ⟨kr, hkr, rfl⟩ := List.mem_map.1 (runOut_eq inp ▸ hr)
  exact (run_good_cov inp).1.origin kr hkr

end Proof.C35
