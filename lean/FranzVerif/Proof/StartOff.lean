import FranzVerif.Model.StartOff
import FranzVerif.Proof.Monitor
/-! C40. `clamp` is cutting off at both ends; `leastOr d l` is core's `List.min?` of `d :: l` and `firstAtOrAfter ret p` that of the
elements of `ret` from `p` on, so their laws are `List.min?_eq_some_iff` read off. The `off` monitor only
records until `quiesce`: list ledgers are appended to, and a once-only event (`shape`, `groupCommit`, `offset`, `first`) is
refused the second time, so the option fields hold the first such event of the history (`Inv`); `quiesce_check` is the one
rule that judges. -/
namespace Proof.StartOff
open Model.StartOff Proof.Monitor

theorem clamp_eq {lo hi : Nat} (h : lo ≤ hi) (v : Int) : clamp lo hi v = max lo (min hi v.toNat) := by
  unfold clamp
  split
  · omega
  · split <;> omega

theorem clamp_ge {lo hi : Nat} (h : lo ≤ hi) (v : Int) : lo ≤ clamp lo hi v := by
  rw [clamp_eq h]; omega

theorem clamp_le {lo hi : Nat} (h : lo ≤ hi) (v : Int) : clamp lo hi v ≤ hi := by
  rw [clamp_eq h]; omega

theorem clamp_id {lo hi : Nat} {v : Int} (h1 : (lo : Int) ≤ v) (h2 : v ≤ (hi : Int)) : (clamp lo hi v : Int) = v := by
  rw [clamp_eq (by omega)]; omega

theorem clamp_mono {lo hi : Nat} (h : lo ≤ hi) {v w : Int} (hvw : v ≤ w) : clamp lo hi v ≤ clamp lo hi w := by
  rw [clamp_eq h, clamp_eq h]; omega

theorem foldl_min_mono (l : List Nat) {d e : Nat} (h : d ≤ e) : l.foldl min d ≤ l.foldl min e := by
  induction l generalizing d e with
  | nil => exact h
  | cons b l ih =>
    apply ih
    omega

theorem leastOr_mem (d : Nat) (l : List Nat) : leastOr d l = d ∨ leastOr d l ∈ l :=
  List.mem_cons.1 (List.min?_eq_some_iff.1 List.min?_cons').1
theorem leastOr_le (d : Nat) (l : List Nat) : leastOr d l ≤ d :=
  (List.min?_eq_some_iff.1 List.min?_cons').2 d List.mem_cons_self
theorem leastOr_le_mem (d : Nat) (l : List Nat) : ∀ a ∈ l, leastOr d l ≤ a :=
  fun a ha => (List.min?_eq_some_iff.1 List.min?_cons').2 a (List.mem_cons_of_mem d ha)

theorem le_leastOr {d : Nat} {l : List Nat} {b : Nat} (hd : b ≤ d) (hl : ∀ a ∈ l, b ≤ a) : b ≤ leastOr d l := by
  rcases leastOr_mem d l with h | h
  · rw [h]; exact hd
  · exact hl _ h

theorem leastOr_anti {d : Nat} {l l' : List Nat} (h : ∀ a ∈ l', a ∈ l) : leastOr d l ≤ leastOr d l' :=
  le_leastOr (leastOr_le d l) (fun a ha => leastOr_le_mem d l a (h a ha))

theorem firstAtOrAfter_eq (ret : List Nat) (p : Nat) :
    firstAtOrAfter ret p = (ret.filter (fun o => decide (p ≤ o))).min? := by
  unfold firstAtOrAfter
  split <;> simp only [*, List.min?]

theorem firstAtOrAfter_some {ret : List Nat} {p f : Nat} (h : firstAtOrAfter ret p = some f) :
    f ∈ ret ∧ p ≤ f ∧ ∀ o ∈ ret, p ≤ o → f ≤ o := by
  rw [firstAtOrAfter_eq, List.min?_eq_some_iff] at h
  simp only [List.mem_filter, decide_eq_true_eq] at h
  exact ⟨h.1.1, h.1.2, fun o ho hpo => h.2 o ⟨ho, hpo⟩⟩

theorem firstAtOrAfter_none {ret : List Nat} {p : Nat} (h : firstAtOrAfter ret p = none) : ∀ o ∈ ret, o < p := by
  rw [firstAtOrAfter_eq, List.min?_eq_none_iff, List.filter_eq_nil_iff] at h
  exact fun o ho => by simpa using h o ho

theorem mem_milliCands {s : Shape} {hi t o : Nat} :
    o ∈ milliCands s hi t ↔ ∃ ts, (o, ts) ∈ s.recs ∧ s.start ≤ o ∧ o < hi ∧ t ≤ ts := by
  unfold milliCands
  simp only [List.mem_map, List.mem_filter, Bool.and_eq_true, decide_eq_true_eq]
  constructor
  · rintro ⟨⟨o', ts⟩, ⟨hm, ⟨h1, h2⟩, h3⟩, rfl⟩
    exact ⟨ts, hm, h1, h2, h3⟩
  · rintro ⟨ts, hm, h1, h2, h3⟩
    exact ⟨(o, ts), ⟨hm, ⟨h1, h2⟩, h3⟩, rfl⟩

def ackedEv : Ev → Option (Nat × Nat × Nat × Nat)
  | .acked a b c d => some (a, b, c, d) | _ => none
def txnEv : Ev → Option (Nat × Bool)
  | .txnEnd k c => some (k, c) | _ => none
def logEv : Ev → Option (Nat × Nat × Bool)
  | .logRec o t c => some (o, t, c) | _ => none
def shapeEv : Ev → Option (Nat × Nat × Nat)
  | .shape a b c => some (a, b, c) | _ => none
def groupEv : Ev → Option Nat
  | .groupCommit o => some o | _ => none
def offsetEv : Ev → Option Offset
  | .offset o => some o | _ => none
def firstEv : Ev → Option (Option Nat)
  | .first f => some f | _ => none

/-- acknowledged records `(off, ts, batch, txn)` in order -/
def ackedOf (h : List Ev) := h.filterMap ackedEv
/-- transaction decisions `(txn, commit)` -/
def txnsOf (h : List Ev) := h.filterMap txnEv
/-- the final log as read back `(off, ts, ctl)` -/
def logOf (h : List Ev) := h.filterMap logEv
/-- the partition `(start, lso, hwm)` when the consumer started -/
def shapeOf (h : List Ev) := h.findSome? shapeEv
/-- the committed group offset -/
def groupOf (h : List Ev) := h.findSome? groupEv
/-- the `Offset` the consumer was given -/
def offsetOf (h : List Ev) := h.findSome? offsetEv
/-- the first record the consumer returned (`some none`: it returned nothing) -/
def firstOf (h : List Ev) := h.findSome? firstEv

structure Inv (h : List Ev) (s : St) : Prop where
  acked : s.acked = ackedOf h
  txns : s.txns = txnsOf h
  log : s.log = logOf h
  shape : s.shape = shapeOf h
  group : s.group = groupOf h
  offset : s.offset = offsetOf h
  first : s.first = firstOf h

theorem apply_acked (c : Cfg) (s : St) (e : Ev) : (apply c s e).acked = s.acked ++ (ackedEv e).toList := by
  cases e <;> first | rfl | exact (List.append_nil _).symm
theorem apply_txns (c : Cfg) (s : St) (e : Ev) : (apply c s e).txns = s.txns ++ (txnEv e).toList := by
  cases e <;> first | rfl | exact (List.append_nil _).symm
theorem apply_log (c : Cfg) (s : St) (e : Ev) : (apply c s e).log = s.log ++ (logEv e).toList := by
  cases e <;> first | rfl | exact (List.append_nil _).symm

theorem apply_shape {c : Cfg} {s : St} {e : Ev} (hc : check c s e = none) : (apply c s e).shape = s.shape.or (shapeEv e) := by
  cases e with
  | shape a b cc =>
    simp only [check, ite_some_eq_none, Option.not_isSome_iff_eq_none] at hc
    rw [hc.1]; rfl
  | _ => exact (Option.or_none ..).symm
theorem apply_group {c : Cfg} {s : St} {e : Ev} (hc : check c s e = none) : (apply c s e).group = s.group.or (groupEv e) := by
  cases e with
  | groupCommit o =>
    simp only [check, ite_some_eq_none, Bool.or_eq_true, not_or, Option.not_isSome_iff_eq_none] at hc
    rw [hc.1.1]; rfl
  | _ => exact (Option.or_none ..).symm
theorem apply_offset {c : Cfg} {s : St} {e : Ev} (hc : check c s e = none) : (apply c s e).offset = s.offset.or (offsetEv e) := by
  cases e with
  | offset o =>
    simp only [check, ite_some_eq_none, Option.not_isSome_iff_eq_none] at hc
    rw [hc.1]; rfl
  | _ => exact (Option.or_none ..).symm
theorem apply_first {c : Cfg} {s : St} {e : Ev} (hc : check c s e = none) : (apply c s e).first = s.first.or (firstEv e) := by
  cases e with
  | first f =>
    simp only [check, ite_some_eq_none, Option.not_isSome_iff_eq_none] at hc
    rw [hc.1]; rfl
  | _ => exact (Option.or_none ..).symm

theorem isMonitor (c : Cfg) : IsMonitor (check c) (apply c) (step c) (run c) :=
  ⟨⟨fun _ => rfl, fun s e es => by rw [run]; cases step c s e <;> rfl⟩, fun s e => by rw [step]; cases check c s e <;> rfl⟩

theorem inv_of_run {c : Cfg} {h : List Ev} {s : St} (hr : run c {} h = some s) : Inv h s :=
  have M := isMonitor c
  ⟨M.ledger (apply_acked c) rfl hr, M.ledger (apply_txns c) rfl hr, M.ledger (apply_log c) rfl hr,
    M.first (fun _ _ => apply_shape) rfl hr, M.first (fun _ _ => apply_group) rfl hr,
    M.first (fun _ _ => apply_offset) rfl hr, M.first (fun _ _ => apply_first) rfl hr⟩

theorem quiesce_check {c : Cfg} {h : List Ev} {s : St} (hi : Inv h s) (hq : check c s .quiesce = none) :
    ∃ o sh f, offsetOf h = some o ∧ shapeOf h = some sh ∧ firstOf h = some f ∧
      (f = firstAtOrAfter (returnable c (ackedOf h) (txnsOf h) (logOf h)) (resolve o (mkShape c sh (groupOf h) (logOf h))) ∨
       (ambiguous o (mkShape c sh (groupOf h) (logOf h)) = true ∧
        f = firstAtOrAfter (returnable c (ackedOf h) (txnsOf h) (logOf h)) (resolveLit o (mkShape c sh (groupOf h) (logOf h))))) := by
  rw [← hi.acked, ← hi.txns, ← hi.log, ← hi.shape, ← hi.group, ← hi.offset, ← hi.first]
  simp only [check] at hq
  split at hq
  · rename_i o sh f ho hsh hf
    refine ⟨o, sh, f, ho, hsh, hf, ?_⟩
    split at hq
    · rename_i heq
      exact Or.inl (by simpa using heq)
    · split at hq
      · rename_i heq
        simp only [Bool.and_eq_true, beq_iff_eq] at heq
        exact Or.inr heq
      · cases hq
  · cases hq

theorem first_eq_of_unambiguous {c : Cfg} {h : List Ev} {s : St} (hacc : run c {} (h ++ [Ev.quiesce]) = some s)
    {o : Offset} {sh : Nat × Nat × Nat} {f : Option Nat} (ho : offsetOf h = some o) (hsh : shapeOf h = some sh)
    (hf : firstOf h = some f) (hamb : ambiguous o (mkShape c sh (groupOf h) (logOf h)) = false) :
    firstAtOrAfter (returnable c (ackedOf h) (txnsOf h) (logOf h)) (resolve o (mkShape c sh (groupOf h) (logOf h))) = f := by
  obtain ⟨s₁, hr, hchk, -⟩ := (isMonitor c).snoc hacc
  obtain ⟨o', sh', f', ho', hsh', hf', hres⟩ := quiesce_check (inv_of_run hr) hchk
  cases ho.symm.trans ho'
  cases hsh.symm.trans hsh'
  cases hf.symm.trans hf'
  exact (hres.resolve_right fun ha => Bool.false_ne_true (hamb ▸ ha.1)).symm

end Proof.StartOff
