import FranzVerif.Model.C30
/-! The ring buffer against its abstraction `Ring.abs` (the FIFO contents read through `head`/`l`/`cap`): on a
well-formed ring `resize` keeps `abs` and re-linearises at head 0, `pushTail` appends to it, `dropPeek` takes its tail
(each result a `Rebuf` of the ring it started from), and none of the index, slice or modulo sites panics. Element `i` of `abs` is slot `(head + i) % cap` (`abs_get`); the
in-place updates are compared with `abs` pointwise through it. -/
namespace Proof.C30
open Model.C30

/-- Representation invariant: no buffer yet (zero value), or `cap ≥ 8 = minRingCap` (`resize` is only ever called with
    `max (2·cap) minRingCap` or `minRingCap`), `head < cap`, `l ≤ cap`. -/
def WF (r : Ring) : Prop :=
  (r.elems.length = 0 ∧ r.l = 0 ∧ r.head = 0) ∨ (8 ≤ r.elems.length ∧ r.head < r.elems.length ∧ r.l ≤ r.elems.length)

theorem wf_len {r : Ring} (h : WF r) : r.l ≤ r.elems.length := by
  rcases h with ⟨_, h, _⟩ | ⟨_, _, h⟩ <;> omega

theorem wf_nonempty {r : Ring} (h : WF r) (hn : 0 < r.elems.length) :
    8 ≤ r.elems.length ∧ r.head < r.elems.length ∧ r.l ≤ r.elems.length := by
  rcases h with ⟨h0, _⟩ | h
  · omega
  · exact h

theorem abs_length (r : Ring) (h : r.l ≤ r.elems.length) : r.abs.length = r.l := by
  simp [Ring.abs]; omega

theorem wrap_eq (a c : Nat) (h : a < 2 * c) : a % c = if a < c then a else a - c := by
  split
  · exact Nat.mod_eq_of_lt (by assumption)
  · rw [Nat.mod_eq_sub_mod (by omega)]; exact Nat.mod_eq_of_lt (by omega)

theorem add_mod_inj {h i j n : Nat} (hh : h < n) (hi : i < n) (hj : j < n) (e : (h + i) % n = (h + j) % n) : i = j := by
  rw [wrap_eq _ _ (by omega), wrap_eq _ _ (by omega)] at e
  split at e <;> split at e <;> omega

theorem abs_get (r : Ring) (hh : r.head < r.elems.length) (hl : r.l ≤ r.elems.length) (i : Nat) :
    r.abs[i]? = if i < r.l then r.elems[(r.head + i) % r.elems.length]? else none := by
  simp only [Ring.abs, List.getElem?_take, List.getElem?_append, List.getElem?_drop, List.length_drop]
  split
  · by_cases hw : r.head + i < r.elems.length
    · rw [if_pos (by omega), Nat.mod_eq_of_lt hw]
    · rw [if_neg (by omega), if_pos (by omega), wrap_eq _ _ (by omega), if_neg hw]
      congr 1; omega
  · rfl

theorem abs_isEmpty (r : Ring) (hwf : WF r) : r.abs.isEmpty = (r.l == 0) := by
  rw [Bool.eq_iff_iff, List.isEmpty_iff_length_eq_zero, abs_length r (wf_len hwf), beq_iff_eq]

theorem abs_ne_nil (r : Ring) (hwf : WF r) (h : 0 < r.l) : ∃ a t, r.abs = a :: t :=
  List.exists_cons_of_length_pos (by rw [abs_length r (wf_len hwf)]; exact h)

theorem slice_ok (s : List Nat) (a b : Nat) (h1 : a ≤ b) (h2 : b ≤ s.length) :
    slice s a b = .ok ((s.drop a).take (b - a)) := by
  simp [slice, h1, h2]

theorem goCopy_fit (c : Nat) (src : List Nat) (h : src.length ≤ c) :
    goCopy (List.replicate c 0) src = (src ++ List.replicate (c - src.length) 0, src.length) := by
  simp only [goCopy, List.length_replicate, Nat.min_eq_right h, List.take_length, List.drop_replicate]

/-- `resize`'s second copy: `s2` lands behind `s1` in the fresh buffer -/
theorem copy_behind (c a : Nat) (s1 s2 : List Nat) (ha : s1.length = a) (h : a + s2.length ≤ c) :
    (slice (s1 ++ List.replicate (c - a) 0) a (s1 ++ List.replicate (c - a) 0).length).map
        (fun tail => (s1 ++ List.replicate (c - a) 0).take a ++ (goCopy tail s2).1)
      = .ok (s1 ++ s2 ++ List.replicate (c - (a + s2.length)) 0) := by
  subst ha
  rw [slice_ok _ _ _ (by simp) (Nat.le_refl _), List.drop_left, List.take_left, List.take_of_length_le (by simp),
    Except.map, goCopy_fit _ s2 (by omega), Nat.sub_sub, List.append_assoc]

theorem resize_spec (r : Ring) (c : Nat) (hwf : WF r) (hc : r.l ≤ c) :
    r.resize c = .ok { r with elems := r.abs ++ List.replicate (c - r.l) 0, head := 0 } := by
  by_cases hlz : r.l = 0
  · simp [Ring.resize, hlz, Ring.abs, Except.map]
  · obtain ⟨_, hh, hl⟩ := wf_nonempty hwf (by have := wf_len hwf; omega)
    obtain ⟨E, h, l, _⟩ := r
    -- the buffer is `t ++ s`, cut at `head`
    obtain ⟨t, s, rfl, rfl⟩ : ∃ t s, E = t ++ s ∧ h = t.length :=
      ⟨_, _, (List.take_append_drop h E).symm, (List.length_take_of_le (Nat.le_of_lt hh)).symm⟩
    simp only [List.length_append] at hh hl
    dsimp only at hc hlz
    simp only [Ring.resize, Ring.abs, gt_iff_lt, Nat.pos_of_ne_zero hlz, if_true, List.drop_left, List.take_left,
      List.length_append]
    by_cases hw : l ≤ s.length
    · rw [if_pos (by omega), slice_ok _ _ _ (by omega) (by simp; omega), List.drop_left, Nat.add_sub_cancel_left,
        List.take_append_of_le_length hw]
      simp only [Except.map]
      rw [goCopy_fit c _ (by simp; omega), List.length_take, Nat.min_eq_left hw]
    · rw [if_neg (by omega), slice_ok _ _ _ (by omega) (by simp), List.drop_left, List.take_of_length_le (by simp)]
      simp only [Except.bind, goCopy_fit c s (by omega)]
      rw [if_neg (by omega), slice_ok _ _ _ (Nat.zero_le _) (by simp; omega)]
      simp only [List.drop_zero, Nat.sub_zero]
      rw [copy_behind c _ s _ rfl (by simp; omega), List.take_append_of_le_length (l₁ := t) (by omega), List.take_append,
        List.take_of_length_le (Nat.le_of_not_le hw), List.length_take, Nat.min_eq_left (by omega)]
      simp only [Except.map]
      congr 4
      omega

theorem push_abs (r : Ring) (e : Nat) (hh : r.head < r.elems.length) (hl : r.l < r.elems.length) :
    ({ r with elems := r.elems.set ((r.head + r.l) % r.elems.length) e, l := r.l + 1 } : Ring).abs = r.abs ++ [e] := by
  apply List.ext_getElem?
  intro i
  have hm : (r.head + r.l) % r.elems.length < r.elems.length := Nat.mod_lt _ (by omega)
  rw [abs_get _ (by simpa using hh) (by simp; omega), List.getElem?_append, abs_length r (by omega),
    abs_get r hh (by omega)]
  simp only [List.length_set, List.getElem?_set, hm, if_true]
  by_cases h1 : i < r.l
  · rw [if_pos (by omega), if_pos h1, if_pos h1, if_neg]
    intro e
    have := add_mod_inj hh hl (by omega) e
    omega
  · rw [if_neg h1]
    by_cases h2 : i = r.l
    · subst h2; simp
    · rw [if_neg (by omega)]; simp; omega

theorem drop_abs (r : Ring) (hh : r.head < r.elems.length) (hl : r.l ≤ r.elems.length) (hp : 0 < r.l) :
    ({ r with elems := r.elems.set r.head 0, head := (r.head + 1) % r.elems.length, l := r.l - 1 } : Ring).abs = r.abs.tail := by
  apply List.ext_getElem?
  intro i
  have hm : (r.head + 1) % r.elems.length < r.elems.length := Nat.mod_lt _ (by omega)
  rw [abs_get _ (by simpa using hm) (by simp; omega), List.getElem?_tail, abs_get r hh hl]
  simp only [List.length_set, List.getElem?_set, Nat.mod_add_mod]
  by_cases h1 : i < r.l - 1
  · have hne : ¬ r.head = (r.head + 1 + i) % r.elems.length := by
      intro e
      have := add_mod_inj (i := 0) hh (by omega) (show 1 + i < r.elems.length by omega)
        (by rw [Nat.add_zero, Nat.mod_eq_of_lt hh, ← Nat.add_assoc]; exact e)
      omega
    rw [if_pos h1, if_neg hne, if_pos (by omega), Nat.add_assoc, Nat.add_comm 1 i]
  · rw [if_neg h1, if_neg (by omega)]

/-- fields of the ring other than the buffer are the same -/
structure SameCtl (r r' : Ring) : Prop where
  maxLen : r'.maxLen = r.maxLen
  hasCond : r'.hasCond = r.hasCond
  dead : r'.dead = r.dead
  parked : r'.parked = r.parked
  woken : r'.woken = r.woken

theorem SameCtl.refl (r : Ring) : SameCtl r r := ⟨rfl, rfl, rfl, rfl, rfl⟩

theorem SameCtl.update {r r' : Ring} (h : SameCtl r r') (es : List Nat) (hd n : Nat) :
    SameCtl r { r' with elems := es, head := hd, l := n } := ⟨h.1, h.2, h.3, h.4, h.5⟩

/-- `r'` is `r` with another buffer: well formed, holding the queue `q` of `n` elements. -/
structure Rebuf (r r' : Ring) (q : List Nat) (n : Nat) : Prop where
  wf : WF r'
  abs : r'.abs = q
  l : r'.l = n
  ctl : SameCtl r r'

theorem resize_wf (r : Ring) (c : Nat) (hwf : WF r) (hc : r.l ≤ c) (h8 : 8 ≤ c) :
    ∃ r', r.resize c = .ok r' ∧ Rebuf r r' r.abs r.l ∧ r'.elems.length = c ∧ r'.head = 0 := by
  have hal := abs_length r (wf_len hwf)
  have hlen : (r.abs ++ List.replicate (c - r.l) 0).length = c := by
    rw [List.length_append, List.length_replicate, hal]; omega
  refine ⟨_, resize_spec r c hwf hc, ⟨Or.inr ?_, ?_, rfl, (SameCtl.refl r).update _ _ _⟩, hlen, rfl⟩
  · show 8 ≤ (r.abs ++ List.replicate (c - r.l) 0).length ∧ 0 < (r.abs ++ List.replicate (c - r.l) 0).length ∧
      r.l ≤ (r.abs ++ List.replicate (c - r.l) 0).length
    rw [hlen]; omega
  · generalize r.abs = q at hal ⊢
    simp only [Ring.abs, List.drop_zero, List.take_zero, List.append_nil]
    rw [← hal, List.take_left]

theorem pushTail_spec (r : Ring) (e : Nat) (hwf : WF r) (hd : r.dead = false) :
    ∃ r', r.pushTail e = .ok (r', r.l == 0, false) ∧ Rebuf r r' (r.abs ++ [e]) (r.l + 1) := by
  have hl := wf_len hwf
  -- after the optional grow there is a free slot
  have hex : ∃ r1, (if r.l = r.elems.length then r.resize (max (r.elems.length * 2) minRingCap) else .ok r) = .ok r1 ∧
      Rebuf r r1 r.abs r.l ∧ r1.l < r1.elems.length := by
    split
    · have h8 : 8 ≤ max (r.elems.length * 2) minRingCap := Nat.le_max_right _ _
      obtain ⟨r1, h1, hb, hlen1, _⟩ := resize_wf r _ hwf (by omega) h8
      exact ⟨r1, h1, hb, by have := hb.l; omega⟩
    · exact ⟨r, rfl, ⟨hwf, rfl, rfl, .refl r⟩, by omega⟩
  obtain ⟨r1, h1, ⟨hwf1, ha1, hl1, hc1⟩, hlt⟩ := hex
  obtain ⟨h8, hh, _⟩ := wf_nonempty hwf1 (by omega)
  unfold Ring.pushTail
  rw [hd, if_neg Bool.false_ne_true, h1]
  simp only [Except.bind]
  rw [if_neg (by omega), if_pos (Nat.mod_lt _ (by omega))]
  refine ⟨{ r1 with elems := r1.elems.set ((r1.head + r1.l) % r1.elems.length) e, l := r1.l + 1 }, ?_, Or.inr ⟨?_, ?_, ?_⟩,
    by rw [push_abs r1 e hh hlt, ha1], by rw [← hl1], hc1.update _ _ _⟩
  · rw [hl1]; simp
  · simpa using h8
  · simpa using hh
  · simp only [List.length_set]; omega

/-- the cond-variable effect of `dropPeek` -/
def afterSignal (r : Ring) (k : Nat) : Ring := if r.hasCond then r.signal k else r

theorem sameCtl_afterSignal {r r' : Ring} {k : Nat} (h : SameCtl (afterSignal r k) r') :
    r'.maxLen = r.maxLen ∧ r'.hasCond = r.hasCond ∧ r'.dead = r.dead := by
  rw [h.maxLen, h.hasCond, h.dead]
  unfold afterSignal Ring.signal
  split
  · split <;> simp
  · simp

theorem afterSignal_update (r : Ring) (k : Nat) (es : List Nat) (h n : Nat) :
    afterSignal { r with elems := es, head := h, l := n } k = { afterSignal r k with elems := es, head := h, l := n } := by
  obtain ⟨_, _, _, _, c, _, _, _⟩ := r
  unfold afterSignal Ring.signal
  cases c <;> simp only [Bool.false_eq_true, if_false, if_true]
  split <;> rfl

theorem abs_congr (r r' : Ring) (h1 : r'.elems = r.elems) (h2 : r'.head = r.head) (h3 : r'.l = r.l) : r'.abs = r.abs := by
  simp [Ring.abs, h1, h2, h3]

theorem head_read (r : Ring) (hwf : WF r) (hp : 0 < r.l) : r.elems[r.head]? = some (r.abs.headD 0) := by
  have hl := wf_len hwf
  obtain ⟨_, hh, _⟩ := wf_nonempty hwf (by omega)
  obtain ⟨a, t, hat⟩ := abs_ne_nil r hwf hp
  have h := abs_get r hh hl 0
  rw [if_pos hp, Nat.add_zero, Nat.mod_eq_of_lt hh, hat] at h
  rw [hat, ← h]; rfl

theorem dropPeek_spec (r : Ring) (k : Nat) (hwf : WF r) (hp : 0 < r.l) :
    ∃ r', r.dropPeek k = .ok (r', r'.abs.headD 0, decide (0 < r'.l), r.dead) ∧
      Rebuf (afterSignal r k) r' r.abs.tail (r.l - 1) := by
  have hl := wf_len hwf
  obtain ⟨h8, hh, _⟩ := wf_nonempty hwf (by omega)
  -- the ring after the in-place update and the Signal
  let r2 : Ring := { afterSignal r k with elems := r.elems.set r.head 0, head := (r.head + 1) % r.elems.length, l := r.l - 1 }
  have habs2 : r2.abs = r.abs.tail := drop_abs r hh hl hp
  have hwf2 : WF r2 := Or.inr ⟨by simpa [r2] using h8, by simpa [r2] using Nat.mod_lt _ (by omega), by simp [r2]; omega⟩
  have hunf : r.dropPeek k = ((if r2.l ≤ minRingCap / 2 ∧ r2.elems.length > minRingCap then r2.resize minRingCap else .ok r2).bind fun r =>
      if r.l > 0 then
        match r.elems[r.head]? with
        | some x => .ok (r, x, true, r.dead)
        | none => .error "index-out-of-range"
      else .ok (r, 0, false, r.dead)) := by
    unfold Ring.dropPeek
    rw [if_neg (by omega), if_neg (by omega), show r2 = _ from (afterSignal_update r k _ _ _).symm]
    rfl
  -- the ring after the optional shrink
  have hex : ∃ r3, (if r2.l ≤ minRingCap / 2 ∧ r2.elems.length > minRingCap then r2.resize minRingCap else .ok r2) = .ok r3 ∧
      Rebuf (afterSignal r k) r3 r2.abs r2.l := by
    split
    · rename_i hc
      obtain ⟨r3, h3, hb, _⟩ := resize_wf r2 minRingCap hwf2 (Nat.le_trans hc.1 (by decide)) (Nat.le_refl _)
      exact ⟨r3, h3, hb.wf, hb.abs, hb.l, ⟨hb.ctl.maxLen, hb.ctl.hasCond, hb.ctl.dead, hb.ctl.parked, hb.ctl.woken⟩⟩
    · exact ⟨r2, rfl, hwf2, rfl, rfl, (SameCtl.refl _).update _ _ _⟩
  obtain ⟨r3, h3, hwf3, ha3, hl3, hc3⟩ := hex
  have hd3' : r3.dead = r.dead := (sameCtl_afterSignal hc3).2.2
  refine ⟨r3, ?_, hwf3, ha3.trans habs2, hl3, hc3⟩
  rw [hunf, h3]
  simp only [Except.bind]
  by_cases hpos : r3.l > 0
  · rw [if_pos hpos, head_read r3 hwf3 hpos, hd3']
    simp [hpos]
  · have hnil : r3.abs = [] := List.isEmpty_iff.mp (by rw [abs_isEmpty r3 hwf3]; simp; omega)
    rw [if_neg hpos, hd3', hnil]
    simp [hpos]
end Proof.C30
