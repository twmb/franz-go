import FranzVerif.Model.C38
import FranzVerif.Proof.AssocList
/-! The `prepareNext` index machine against the nested-list view. `rem s` is the list of records still to be visited from
state `s`, read off the indexes; a `goto` keeps `rem` — under `Inv`, since the code resets one index per `goto` only —
and decreases `mu`, which the structural size bounds, so the fuel suffices; `Next` returns the head of `rem` and settles
on its tail (`next_spec`). The partition-wise accessors are maps and filters of the triple loop `inputParts`.
`EachTopic`'s two Go maps are `AssocList.alter`s (`upsert_eq`, `setId_eq`); a lookup after the fold of writes gives a
name's partitions in input order (`mergeParts_look`) and its last non-zero ID (`mergeIds_lookup`). -/
namespace Proof.C38
open Model.C38 Proof.AssocList

theorem drop_of_some {α : Type} (l : List α) (i : Nat) (x : α) (h : l[i]? = some x) :
    l.drop i = x :: l.drop (i + 1) := by
  obtain ⟨hi, rfl⟩ := List.getElem?_eq_some_iff.mp h
  exact List.drop_eq_getElem_cons hi

theorem drop_of_none {α : Type} (l : List α) (i : Nat) (h : l[i]? = none) : l.drop i = [] := by
  rw [List.getElem?_eq_none_iff] at h
  exact List.drop_eq_nil_of_le h

def remP (ps : List Part) (pi ri : Nat) : List Int :=
  match ps.drop pi with
  | [] => []
  | p :: ps' => p.recs.drop ri ++ ps'.flatMap precs

def remT (ts : List Topic) (ti pi ri : Nat) : List Int :=
  match ts.drop ti with
  | [] => []
  | t :: ts' => remP t.parts pi ri ++ ts'.flatMap trecs

/-- the records still to be visited from state `s` -/
def rem (s : It) : List Int :=
  match s.fetches with
  | [] => []
  | f0 :: rest => remT f0 s.ti s.pi s.ri ++ flatten rest

/-- indexes past a list's end are only reached with the inner indexes reset -/
def Inv (s : It) : Prop :=
  match s.fetches with
  | [] => True
  | f0 :: _ =>
    match f0[s.ti]? with
    | none => s.pi = 0 ∧ s.ri = 0
    | some t => t.parts[s.pi]? = none → s.ri = 0

theorem remP_zero (ps : List Part) (i : Nat) : remP ps i 0 = (ps.drop i).flatMap precs := by
  unfold remP
  cases h : ps.drop i with
  | nil => simp
  | cons p ps' => simp [precs]

theorem remT_zero (ts : List Topic) (i : Nat) : remT ts i 0 0 = (ts.drop i).flatMap trecs := by
  unfold remT
  cases h : ts.drop i with
  | nil => simp
  | cons t ts' => simp [remP_zero, trecs]

theorem rem_init (fs : Fetches) : rem ⟨fs, 0, 0, 0⟩ = flatten fs := by
  cases fs with
  | nil => simp [rem, flatten]
  | cons f rest => simp [rem, remT_zero, flatten, frecs]

theorem inv_init (fs : Fetches) : Inv ⟨fs, 0, 0, 0⟩ := by
  cases fs with
  | nil => simp [Inv]
  | cons f rest =>
    simp only [Inv]
    split <;> simp

theorem remT_some (f : List Topic) (i pi ri : Nat) (t : Topic) (h : f[i]? = some t) :
    remT f i pi ri = remP t.parts pi ri ++ (f.drop (i + 1)).flatMap trecs := by
  simp [remT, drop_of_some _ _ _ h]

theorem remT_none (f : List Topic) (i pi ri : Nat) (h : f[i]? = none) : remT f i pi ri = [] := by
  simp [remT, drop_of_none _ _ h]

theorem remP_some (ps : List Part) (i ri : Nat) (p : Part) (h : ps[i]? = some p) :
    remP ps i ri = p.recs.drop ri ++ (ps.drop (i + 1)).flatMap precs := by
  simp [remP, drop_of_some _ _ _ h]

theorem remP_none (ps : List Part) (i ri : Nat) (h : ps[i]? = none) : remP ps i ri = [] := by
  simp [remP, drop_of_none _ _ h]

/-- The cases of `prepStep`: no fetch left (return), pop the fetch, next topic, next partition, a record is ready
(return). -/
theorem prepStep_rem (s s' : It) (h : prepStep s = some s') (hi : Inv s) : rem s' = rem s ∧ Inv s' := by
  revert h
  fun_cases prepStep s with
  | case1 | case5 => nofun
  | case2 f0 rest hf ht =>
    rintro ⟨⟩
    simp only [Inv, hf, ht] at hi
    obtain ⟨hp, hr⟩ := hi
    constructor
    · simp only [rem, hf, remT_none _ _ _ _ ht, List.nil_append]
      cases rest with
      | nil => rfl
      | cons f1 r' => simp only [hp, hr, remT_zero, flatten, frecs, List.drop_zero, List.flatMap_cons]
    · cases rest with
      | nil => trivial
      | cons f1 r' =>
        simp only [Inv, hp, hr]
        split <;> simp
  | case3 f0 rest hf t ht hp =>
    rintro ⟨⟩
    simp only [Inv, hf, ht] at hi
    have hr := hi hp
    constructor
    · simp only [rem, hf, hr, remT_some _ _ _ _ _ ht, remP_none _ _ _ hp, List.nil_append, remT_zero]
    · simp only [Inv, hf]
      split
      · exact ⟨trivial, hr⟩
      · exact fun _ => hr
  | case4 f0 rest hf t ht p hp hge =>
    rintro ⟨⟩
    constructor
    · simp only [rem, hf, remT_some _ _ _ _ _ ht, remP_some _ _ _ _ hp,
        List.drop_eq_nil_of_le hge, List.nil_append, remP_zero]
    · simp only [Inv, hf, ht]
      exact fun _ => trivial

def muT (t : Option Topic) (pi : Nat) : Nat :=
  match t with
  | none => 0
  | some t => 1 + (t.parts.length - pi)

/-- number of `goto`s `prepareNext` can still take from `s` (an upper bound) -/
def mu (s : It) : Nat :=
  match s.fetches with
  | [] => 0
  | f0 :: rest => 1 + sizeT (f0.drop (s.ti + 1)) + muT f0[s.ti]? s.pi + sizeFs rest

theorem sizeT_cons (t : Topic) (ts : List Topic) : sizeT (t :: ts) = 1 + t.parts.length + sizeT ts := by
  simp [sizeT]

theorem sizeFs_cons (f : Fetch) (fs : List Fetch) : sizeFs (f :: fs) = 1 + sizeT f + sizeFs fs := by
  simp [sizeFs]

theorem size_drop (f : List Topic) (i pi : Nat) :
    sizeT (f.drop (i + 1)) + muT f[i]? pi ≤ sizeT (f.drop i) := by
  induction f generalizing i with
  | nil => simp [sizeT, muT]
  | cons t f' ih =>
    cases i with
    | zero => simp [sizeT_cons, muT]; omega
    | succ j => simpa using ih j

theorem sizeT_drop_le (f : List Topic) (i : Nat) : sizeT (f.drop i) ≤ sizeT f := by
  induction f generalizing i with
  | nil => simp
  | cons t f' ih =>
    cases i with
    | zero => simp
    | succ j => simp only [List.drop_succ_cons, sizeT_cons]; have := ih j; omega

theorem mu_le (s : It) : mu s ≤ sizeFs s.fetches := by
  unfold mu
  cases hf : s.fetches with
  | nil => simp
  | cons f0 rest =>
    simp only [sizeFs_cons]
    have h1 := size_drop f0 s.ti s.pi
    have h2 := sizeT_drop_le f0 s.ti
    omega

theorem prepStep_mu (s s' : It) (h : prepStep s = some s') : mu s' < mu s := by
  revert h
  fun_cases prepStep s with
  | case1 | case5 => nofun
  | case2 f0 rest hf ht =>
    rintro ⟨⟩
    have h1 := mu_le { s with fetches := rest, ti := 0 }
    simp only [mu, hf, ht, muT] at h1 ⊢
    omega
  | case3 f0 rest hf t ht hp =>
    rintro ⟨⟩
    have := size_drop f0 (s.ti + 1) 0
    simp only [mu, hf, ht, muT] at this ⊢
    omega
  | case4 f0 rest hf t ht p hp hr =>
    rintro ⟨⟩
    have hlt : s.pi < t.parts.length := (List.getElem?_eq_some_iff.mp hp).1
    simp only [mu, hf, ht, muT]
    omega

theorem prepareNext_stops (n : Nat) (s : It) (h : mu s < n) : ∃ s', prepareNext n s = some s' ∧ prepStep s' = none := by
  fun_induction prepareNext n s with
  | case1 => omega
  | case2 n s hs => exact ⟨s, rfl, hs⟩
  | case3 n s s1 hs ih => exact ih (by have := prepStep_mu s s1 hs; omega)

theorem prepareNext_keeps (n : Nat) (s s' : It) (h : prepareNext n s = some s') (hi : Inv s) : Inv s' ∧ rem s' = rem s := by
  fun_induction prepareNext n s with
  | case1 => cases h
  | case2 n s hs => cases h; exact ⟨hi, rfl⟩
  | case3 n s s1 hs ih =>
    obtain ⟨hr, hi1⟩ := prepStep_rem s s1 hs hi
    exact hr ▸ ih h hi1

theorem fuel_ok (s : It) : mu s < fuelOf s := by
  have := mu_le s
  simp only [fuelOf]; omega

theorem ready_of_prepStep_none (s : It) (h : prepStep s = none) :
    s.fetches = [] ∨ ∃ f0 rest t p, s.fetches = f0 :: rest ∧ f0[s.ti]? = some t ∧ t.parts[s.pi]? = some p ∧
      s.ri < p.recs.length := by
  revert h
  fun_cases prepStep s with
  | case1 hf => exact fun _ => Or.inl hf
  | case2 | case3 | case4 => nofun
  | case5 f0 rest hf t ht p hp hr => exact fun _ => Or.inr ⟨f0, rest, t, p, hf, ht, hp, Nat.lt_of_not_le hr⟩

theorem next_spec (s : It) (hs : prepStep s = none) (hne : s.fetches ≠ []) :
    ∃ r s'', next s = .ok (r, s'') ∧ rem s = r :: rem s'' ∧ prepStep s'' = none ∧ Inv s'' := by
  rcases ready_of_prepStep_none s hs with h | ⟨f0, rest, t, p, hf, ht, hp, hr⟩
  · exact absurd h hne
  · obtain ⟨fetches, ti, pi, ri⟩ := s
    simp only at hf ht hp hr
    subst hf
    have hget : p.recs[ri]? = some p.recs[ri] := List.getElem?_eq_getElem hr
    have hi1 : Inv ⟨f0 :: rest, ti, pi, ri + 1⟩ := by
      simp only [Inv, ht, hp]; intro h; simp at h
    obtain ⟨s2, h1, h2⟩ := prepareNext_stops (fuelOf ⟨f0 :: rest, ti, pi, ri + 1⟩) ⟨f0 :: rest, ti, pi, ri + 1⟩ (fuel_ok _)
    obtain ⟨hi2, hr2⟩ := prepareNext_keeps _ _ s2 h1 hi1
    refine ⟨p.recs[ri], s2, ?_, ?_, h2, hi2⟩
    · simp only [next, ht, hp, hget, h1]
    · rw [hr2]
      simp only [rem, remT_some _ _ _ _ _ ht, remP_some _ _ _ _ hp, drop_of_some _ _ _ hget,
        List.cons_append]

theorem drain_spec (n lim : Nat) (s : It) (hs : prepStep s = none) (hn : (rem s).length < n) :
    drain n lim s = .ok (if lim = 0 then rem s else (rem s).take lim) := by
  induction n generalizing lim s with
  | zero => omega
  | succ n ih =>
    rw [drain]
    cases hf : s.fetches with
    | nil => simp [done, hf, rem]
    | cons f0 rest =>
      obtain ⟨r, s2, h1, h2, h3, _⟩ := next_spec s hs (by rw [hf]; exact List.cons_ne_nil _ _)
      have hlen : (rem s2).length < n := by rw [h2] at hn; exact Nat.lt_of_succ_lt_succ hn
      simp only [done, hf, List.isEmpty_cons, Bool.false_eq_true, if_false, h1, h2, ih _ s2 h3 hlen]
      -- the loop body tests `lim = 1` (break after this record) and goes on with `lim - 1`, which is `0` (never break)
      -- for `lim = 0` and stays positive for `lim ≥ 2`
      match lim with
      | 0 => rfl
      | 1 => rfl
      | k + 2 => rfl

theorem recordIter_spec (fs : Fetches) :
    ∃ s, recordIter fs = .ok s ∧ prepStep s = none ∧ rem s = flatten fs := by
  obtain ⟨s', h1, h2⟩ := prepareNext_stops (fuelOf ⟨fs, 0, 0, 0⟩) ⟨fs, 0, 0, 0⟩ (fuel_ok _)
  obtain ⟨_, hr⟩ := prepareNext_keeps _ _ s' h1 (inv_init fs)
  refine ⟨s', ?_, h2, by rw [hr, rem_init]⟩
  simp only [recordIter, h1]

theorem recordsAll_spec (fs : Fetches) (lim : Nat) :
    recordsAll fs lim = .ok (if lim = 0 then flatten fs else (flatten fs).take lim) := by
  obtain ⟨s, h1, h2, h3⟩ := recordIter_spec fs
  simp only [recordsAll, h1]
  rw [drain_spec _ lim s h2 (by rw [h3]; simp [loopFuel]), h3]

theorem iterRecords_eq (fs : Fetches) : iterRecords fs = recordsAll fs 0 := rfl

theorem tparts_eq (f : List Topic) : tparts f = f.flatMap fun t => t.parts.map fun p => (t.name, p) := by
  induction f with
  | nil => rfl
  | cons t ts ih => rw [tparts, ih, List.flatMap_cons]

theorem inputParts_eq (fs : Fetches) :
    inputParts fs = fs.flatMap fun f => f.flatMap fun t => t.parts.map fun p => (t.name, p) := by
  induction fs with
  | nil => rfl
  | cons f fs ih => rw [inputParts, ih, tparts_eq, List.flatMap_cons]

theorem eachPartition_eq (fs : Fetches) : eachPartition fs = inputParts fs := (inputParts_eq fs).symm

theorem inputParts_recs (fs : Fetches) : (inputParts fs).flatMap (·.2.recs) = flatten fs := by
  simp only [inputParts_eq, List.flatMap_assoc, List.flatMap_map]
  rfl

theorem records_eq (fs : Fetches) : records fs = flatten fs := by
  rw [records, ← List.flatMap_eq_foldl, eachPartition_eq, inputParts_recs]

theorem numRecords_eq (fs : Fetches) : numRecords fs = (flatten fs).length := by
  rw [← inputParts_recs, List.length_flatMap, List.sum_eq_foldl_nat, List.foldl_map, numRecords, eachPartition_eq]

theorem empty_iff (fs : Fetches) : empty fs = true ↔ flatten fs = [] := by
  simp only [empty, flatten, frecs, trecs, precs, List.all_eq_true, List.flatMap_eq_nil_iff,
    Bool.not_eq_true', decide_eq_false_iff_not, Nat.not_lt, Nat.le_zero, List.length_eq_zero_iff]

theorem empty_eq (fs : Fetches) : empty fs = (numRecords fs == 0) := by
  rw [Bool.eq_iff_iff, empty_iff, numRecords_eq, beq_iff_eq, List.length_eq_zero_iff]

theorem eachError_eq (fs : Fetches) : eachError fs = errParts fs := by
  simp only [errParts, inputParts_eq, List.filterMap_flatMap, List.filterMap_map, eachError, Function.comp_def,
    bne_iff_ne]

theorem errors_eq (fs : Fetches) : errors fs = errParts fs := by
  rw [errors, ← List.flatMap_eq_foldl, List.flatMap_singleton', eachError_eq]

theorem upsert_eq (m : List (String × List Part)) (k : String) (ps : List Part) :
    upsert m k ps = alter k (fun o => o.getD [] ++ ps) m := by
  induction m with
  | nil => rfl
  | cons x m ih =>
    simp only [upsert, alter, ih]
    split <;> simp [*]

theorem setId_eq (m : List (String × Nat)) (k : String) (id : Nat) : setId m k id = alter k (fun _ => id) m := by
  induction m with
  | nil => rfl
  | cons x m ih =>
    simp only [setId, alter, ih]
    split <;> simp [*]

theorem lookupId_eq (m : List (String × Nat)) (k : String) : lookupId m k = (look k m).getD 0 := by
  induction m with
  | nil => rfl
  | cons x m ih =>
    simp only [lookupId, look, ih]
    split <;> rfl

theorem partsOf_cons (n : String) (t : Topic) (ts : List Topic) :
    partsOf n (t :: ts) = if t.name = n then t.parts ++ partsOf n ts else partsOf n ts := by
  by_cases h : t.name = n <;> simp [partsOf, h]

theorem partsOf_absent (n : String) (ts : List Topic) (h : n ∉ ts.map (·.name)) : partsOf n ts = [] := by
  induction ts with
  | nil => rfl
  | cons t ts ih =>
    simp only [List.map_cons, List.mem_cons, not_or] at h
    rw [partsOf_cons, if_neg (Ne.symm h.1)]; exact ih h.2

theorem mergeParts_cons (t : Topic) (ts : List Topic) (m : List (String × List Part)) :
    mergeParts (t :: ts) m = mergeParts ts (upsert m t.name t.parts) := rfl

theorem mergeParts_look (ts : List Topic) (m : List (String × List Part)) (n : String) :
    (look n (mergeParts ts m)).getD [] = (look n m).getD [] ++ partsOf n ts := by
  induction ts generalizing m with
  | nil => simp [mergeParts, partsOf]
  | cons t ts ih =>
    rw [mergeParts_cons, ih, upsert_eq, look_alter, partsOf_cons]
    by_cases hn : n = t.name
    · simp [hn]
    · simp [hn, Ne.symm hn]

theorem mergeParts_keys (ts : List Topic) (m : List (String × List Part)) (n : String) :
    n ∈ (mergeParts ts m).map (·.1) ↔ n ∈ m.map (·.1) ∨ n ∈ ts.map (·.name) := by
  induction ts generalizing m with
  | nil => simp [mergeParts]
  | cons t ts ih => rw [mergeParts_cons, ih, upsert_eq, mem_keys_alter, List.map_cons, List.mem_cons, or_comm (a := n = _), or_assoc]

theorem mergeParts_nodup (ts : List Topic) (m : List (String × List Part))
    (h : (m.map (·.1)).Nodup) : ((mergeParts ts m).map (·.1)).Nodup := by
  induction ts generalizing m with
  | nil => exact h
  | cons t ts ih => rw [mergeParts_cons, upsert_eq]; exact ih _ (nodup_keys_alter _ _ _ h)

/-- the `FetchTopic{topic, ids[topic], partitions}` literal -/
def mkT (g : String → Nat) (kv : String × List Part) : Topic := ⟨kv.1, g kv.1, kv.2⟩

theorem partsOf_map (g : String → Nat) (M : List (String × List Part)) (n : String)
    (hnd : (M.map (·.1)).Nodup) : partsOf n (M.map (mkT g)) = (look n M).getD [] := by
  induction M with
  | nil => rfl
  | cons kv M' ih =>
    obtain ⟨k, v⟩ := kv
    simp only [List.map_cons, List.nodup_cons] at hnd
    rw [List.map_cons, partsOf_cons]
    by_cases hk : k = n
    · subst hk
      have : partsOf k (M'.map (mkT g)) = [] := by
        apply partsOf_absent
        simpa [mkT] using hnd.1
      simp [mkT, look, this]
    · simp [mkT, look, hk, ih hnd.2]

theorem eachTopic_multi (f1 f2 : Fetch) (rest : Fetches) :
    eachTopic (f1 :: f2 :: rest) =
      (mergeParts (allTopics (f1 :: f2 :: rest)) []).map
        (mkT (lookupId (mergeIds (allTopics (f1 :: f2 :: rest)) []))) := rfl

theorem eachTopic_names (f1 f2 : Fetch) (rest : Fetches) :
    (eachTopic (f1 :: f2 :: rest)).map (·.name) = (mergeParts (allTopics (f1 :: f2 :: rest)) []).map (·.1) := by
  rw [eachTopic_multi]; simp [mkT]

theorem eachTopic_parts (fs : Fetches) (n : String) :
    partsOf n (eachTopic fs) = partsOf n (allTopics fs) := by
  match fs with
  | [] => rfl
  | [f] => simp [eachTopic, allTopics]
  | f1 :: f2 :: rest =>
    rw [eachTopic_multi, partsOf_map _ _ _ (mergeParts_nodup _ [] List.nodup_nil), mergeParts_look]
    rfl

theorem cands_cons (t : Topic) (ts : List Topic) (n : String) :
    cands (t :: ts) n = (if t.name = n ∧ t.id ≠ 0 then [t.id] else []) ++ cands ts n := by
  by_cases h1 : t.name = n <;> by_cases h2 : t.id = 0 <;> simp [cands, h1, h2]

theorem mergeIds_cons (t : Topic) (ts : List Topic) (m : List (String × Nat)) :
    mergeIds (t :: ts) m = mergeIds ts (if t.id ≠ 0 then setId m t.name t.id else m) := rfl

theorem mergeIds_lookup (ts : List Topic) (m : List (String × Nat)) (n : String) :
    lookupId (mergeIds ts m) n = (cands ts n).getLast?.getD (lookupId m n) := by
  induction ts generalizing m with
  | nil => rfl
  | cons t ts ih =>
    rw [mergeIds_cons, ih, cands_cons, List.getLast?_append, Option.getD_or]
    congr 1
    by_cases hid : t.id = 0
    · simp [hid]
    · by_cases hn : t.name = n
      · simp [hid, hn, lookupId_eq, setId_eq, look_alter]
      · simp [hid, hn, lookupId_eq, setId_eq, look_alter, Ne.symm hn]

theorem nodupB_iff (l : List String) : nodupB l = true ↔ l.Nodup := by
  induction l with
  | nil => simp [nodupB]
  | cons x xs ih => simp [nodupB, ih, List.nodup_cons]

theorem count_tparts (n : String) (p : Part) (ts : List Topic) :
    (tparts ts).count (n, p) = (partsOf n ts).count p := by
  induction ts with
  | nil => rfl
  | cons t ts ih =>
    rw [tparts, List.count_append, ih, partsOf_cons]
    have hm : (t.parts.map fun q => (t.name, q)).count (n, p) = if t.name = n then t.parts.count p else 0 := by
      induction t.parts with
      | nil => simp
      | cons q qs ihq =>
        simp only [List.map_cons, List.count_cons, ihq]
        by_cases h : t.name = n
        · subst h; simp
        · simp [h]
    rw [hm]
    split
    · rw [List.count_append]
    · simp

end Proof.C38
