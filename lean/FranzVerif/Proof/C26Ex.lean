import FranzVerif.Proof.C26
/-! Concrete accepted traces for the non-vacuity examples of Props/C26. `Std.HashMap` terms do not reduce in the
kernel, so an owner function is written as the list of its insertions (`ofL`), through which every lookup becomes a
list computation that `decide` evaluates. -/
namespace Proof.C26.Ex
open Model.C25 Model.C26 Std Proof.C26

/-- an owner function written as the list of its insertions, the last one first. -/
def ofL (l : List (TP × String)) : Own := l.foldr (fun e o => o.insert e.1 e.2) ∅

theorem get_ofL (l : List (TP × String)) (q : TP) : (ofL l)[q]? = l.lookup q := by
  induction l with
  | nil => exact HashMap.getElem?_empty
  | cons e l ih =>
    rw [ofL, List.foldr_cons, HashMap.getElem?_insert, ← ofL, ih, List.lookup, BEq.comm]
    cases q == e.1 <;> rfl

theorem level_ofL (c : Ctx) (l : List (TP × String)) :
    level c (ofL l) = fun m => c.parts.countP fun p => l.lookup p == some m := by
  funext m
  simp only [level, get_ofL]

theorem validB_ofL (c : Ctx) (l : List (TP × String)) (h1 : (l.all fun e => c.isPart e.1 && c.sub e.2 e.1.1) = true)
    (h2 : (c.parts.all fun p => !c.wanted p.1 || (l.lookup p).isSome) = true) : validB c (ofL l) = true := by
  simp only [validB, Bool.and_eq_true, List.all_eq_true, get_ofL] at h1 h2 ⊢
  refine ⟨fun e he => ?_, h2⟩
  have := HashMap.mem_toList_iff_getElem?_eq_some.mp he
  rw [get_ofL] at this
  exact h1 _ (List.mem_of_lookup_eq_some this)

theorem parse_no_owned (c : Ctx) (h : ∀ m ∈ c.members, m.owned = []) : parse c = ∅ := by
  unfold parse
  generalize c.members = ms at h
  induction ms with
  | nil => rfl
  | cons m ms ih =>
    rw [List.foldl_cons, claimsOf, h m List.mem_cons_self]
    exact ih fun x hx => h x (List.mem_cons_of_mem _ hx)

theorem step_init (c : Ctx) (h : ∀ m ∈ c.members, m.owned = []) :
    step c {} (.init [] []) = some { own := ∅, phase := 1 } := by
  simp [step, initOK, initOwn, stales, parse_no_owned c h, HashMap.fold_eq_foldl_toList, sameSet]

theorem run_assign (c : Ctx) (l : List (TP × String)) (m : String) (p : TP) (i : Nat) (rest : List Ev)
    (h : ((l.lookup p).isNone && c.sub m p.1 && c.isPart p && c.racks) = true) :
    run c { own := ofL l, phase := 1 } i (.assign m p :: rest) = run c { own := ofL ((p, m) :: l), phase := 1 } (i + 1) rest := by
  simp only [Bool.and_eq_true] at h
  simp only [run, step, assignOK, get_ofL, h.1.1.1, h.1.1.2, h.1.2, h.2, beq_self_eq_true, Bool.and_self, Bool.true_or,
    if_true]
  rfl

theorem step_steal_first (c : Ctx) (o : Own) (m x : String) (ch : List (TP × String)) (hv : validB c o = true)
    (hok : stealOK c { own := o, phase := 2 } m x ch = true) :
    step c { own := o, phase := 1 } (.steal m x ch) = some { own := applyChain o ch, phase := 2 } := by
  simp [step, enter, hv, hok]

theorem step_giveup_first (c : Ctx) (o : Own) (m : String) (hv : validB c o = true)
    (hok : giveupOK c { own := o, phase := 2 } m = true) :
    step c { own := o, phase := 1 } (.giveup m) = some { own := o, phase := 2, given := [m] } := by
  simp [step, enter, hv, hok]

theorem step_done (c : Ctx) (o : Own) (g : List String) (hok : doneOK c { own := o, phase := 2, given := g } = true) :
    step c { own := o, phase := 2, given := g } .done = some { own := o, phase := 3, given := g } := by
  simp [step, enter, hok]

/-- m0 consumes t1, m1 consumes t0 and t1, m2 consumes t0: balancing needs the chain m2 <- m1 <- m0. -/
def exCtx : Ctx := { members := [{ id := "m0", topics := ["t1"] }, { id := "m1", topics := ["t0", "t1"] }, { id := "m2", topics := ["t0"] }],
                     topics := [("t0", 1), ("t1", 2)], racks := true }
def exTrace : List Ev := [.init [] [], .assign "m0" ("t1", 0), .assign "m0" ("t1", 1), .assign "m1" ("t0", 0),
  .steal "m2" "m0" [(("t1", 0), "m1"), (("t0", 0), "m2")], .done]

def o3 : Own := (((∅ : Own).insert ("t1", 0) "m0").insert ("t1", 1) "m0").insert ("t0", 0) "m1"
def o5 : Own := (o3.insert ("t1", 0) "m1").insert ("t0", 0) "m2"

theorem o3_eq : o3 = ofL [(("t0", 0), "m1"), (("t1", 1), "m0"), (("t1", 0), "m0")] := rfl
theorem o5_eq : o5 = ofL [(("t0", 0), "m2"), (("t1", 0), "m1"), (("t0", 0), "m1"), (("t1", 1), "m0"), (("t1", 0), "m0")] := rfl

theorem ex_assigns (rest : List Ev) :
    run exCtx { own := ∅, phase := 1 } 1 (.assign "m0" ("t1", 0) :: .assign "m0" ("t1", 1) :: .assign "m1" ("t0", 0) :: rest)
      = run exCtx { own := o3, phase := 1 } 4 rest := by
  rw [show (∅ : Own) = ofL [] from rfl, run_assign _ _ _ _ _ _ (by decide), run_assign _ _ _ _ _ _ (by decide),
    run_assign _ _ _ _ _ _ (by decide)]
  rfl

theorem ex_steal : step exCtx { own := o3, phase := 1 } (.steal "m2" "m0" [(("t1", 0), "m1"), (("t0", 0), "m2")])
    = some { own := o5, phase := 2 } := by
  refine step_steal_first _ _ _ _ _ ?_ ?_
  · rw [o3_eq]; exact validB_ofL _ _ (by decide) (by decide)
  · simp only [stealOK, chainOK, o3_eq, get_ofL, level_ofL]
    decide

theorem ex_done : step exCtx { own := o5, phase := 2 } .done = some { own := o5, phase := 3 } := by
  refine step_done _ _ _ ?_
  simp only [doneOK, o5_eq, level_ofL]
  decide

theorem ex_run : run exCtx {} 0 exTrace = .ok { own := o5, phase := 3 } := by
  rw [exTrace, run, step_init exCtx (by decide)]
  simp only []
  rw [ex_assigns, run, ex_steal]
  simp only []
  rw [run, ex_done]
  rfl

/-- `a` only consumes t0 (3 partitions), `b` only t1 (1 partition): loads 3 and 1 are optimal. -/
def gCtx : Ctx := { members := [{ id := "a", topics := ["t0"] }, { id := "b", topics := ["t1"] }],
                     topics := [("t0", 3), ("t1", 1)], racks := true }
def gTrace : List Ev := [.init [] [], .assign "a" ("t0", 0), .assign "a" ("t0", 1), .assign "a" ("t0", 2), .assign "b" ("t1", 0),
  .giveup "b", .done]
def og : Own := ((((∅ : Own).insert ("t0", 0) "a").insert ("t0", 1) "a").insert ("t0", 2) "a").insert ("t1", 0) "b"

theorem og_eq : og = ofL [(("t1", 0), "b"), (("t0", 2), "a"), (("t0", 1), "a"), (("t0", 0), "a")] := rfl

theorem g_assigns (rest : List Ev) :
    run gCtx { own := ∅, phase := 1 } 1 (.assign "a" ("t0", 0) :: .assign "a" ("t0", 1) :: .assign "a" ("t0", 2) :: .assign "b" ("t1", 0) :: rest)
      = run gCtx { own := og, phase := 1 } 5 rest := by
  rw [show (∅ : Own) = ofL [] from rfl, run_assign _ _ _ _ _ _ (by decide), run_assign _ _ _ _ _ _ (by decide),
    run_assign _ _ _ _ _ _ (by decide), run_assign _ _ _ _ _ _ (by decide)]
  rfl

theorem g_valid : validB gCtx og = true := by
  rw [og_eq]; exact validB_ofL _ _ (by decide) (by decide)

theorem g_levels : level gCtx og "a" = 3 ∧ level gCtx og "b" = 1 := by
  rw [og_eq, level_ofL]; decide

theorem g_closure : closure gCtx og "b" = ["b"] := by
  simp [closure, closure.go, og_eq, get_ofL, gCtx, Ctx.parts, Ctx.topicNames, cnt, List.lookup]

theorem g_tail : run gCtx { own := og, phase := 1 } 5 [.giveup "b", .done] = .ok { own := og, phase := 3, given := ["b"] } := by
  have hg : giveupOK gCtx { own := og, phase := 2 } "b" = true := by
    simp only [giveupOK, stuckB, g_closure, closedB]
    simp only [og_eq, get_ofL, level_ofL]
    decide
  have hd : doneOK gCtx { own := og, phase := 2, given := ["b"] } = true := by
    simp only [doneOK, og_eq, level_ofL]
    decide
  rw [run, step_giveup_first _ _ _ g_valid hg]
  simp only []
  rw [run, step_done _ _ _ hd]
  rfl

theorem g_run : run gCtx {} 0 gTrace = .ok { own := og, phase := 3, given := ["b"] } := by
  rw [gTrace, run, step_init gCtx (by decide)]
  simp only []
  rw [g_assigns, g_tail]
end Proof.C26.Ex
