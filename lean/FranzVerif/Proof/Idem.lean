import FranzVerif.Model.Idem
import FranzVerif.Proof.Monitor
import FranzVerif.Proof.Ledger
/-! History-level observables for the idempotent-producing monitor (C02): what a history shows of calls,
returns, promises, the log read back and the batches on the wire, and how each grows with one more event (read by
the invariant in `Proof/IdemInv.lean`). -/
namespace Proof.Idem
open Model.Idem

/-- the log as read back: `(partition, offset, id)` entries of the history, in order -/
def logOf (h : List Ev) : List (Nat × Nat × Id) :=
  h.filterMap (fun e => match e with | .logEntry p o i => some (p, o, i) | _ => none)
/-- all promise events `(id, ok, partition, offset)` -/
def promisesOf (h : List Ev) : List (Id × Bool × Nat × Int) :=
  h.filterMap (fun e => match e with | .promise i ok p o => some (i, ok, p, o) | _ => none)
def calledIds (h : List Ev) : List Id :=
  h.filterMap (fun e => match e with | .call i _ => some i | _ => none)
/-- `a`'s produce call returned before `b`'s began -/
def returnedBefore (h : List Ev) (a b : Id) : Prop :=
  ∃ h₁ h₂ h₃ p, h = h₁ ++ Ev.ret a :: h₂ ++ Ev.call b p :: h₃

/-- ids whose produce call has returned -/
def retsOf (h : List Ev) : List Id :=
  h.filterMap (fun e => match e with | .ret i => some i | _ => none)

def logEv : Ev → Option (Nat × Nat × Id)
  | .logEntry p o i => some (p, o, i) | _ => none
def promEv : Ev → Option (Id × Bool × Nat × Int)
  | .promise i ok p o => some (i, ok, p, o) | _ => none
def callEv : Ev → Option Id
  | .call i _ => some i | _ => none
def retEv : Ev → Option Id
  | .ret i => some i | _ => none
/-- the batch of a `wreq` event of the stream `(part, pid, epoch)` with sequence number `seq` -/
def batchEv (part pid : Nat) (epoch : Int) (seq : Nat) : Ev → Option Batch
  | .wreq _ _ p pi ep sq cnt ids =>
    if p = part ∧ pi = pid ∧ ep = epoch ∧ sq = seq then some ⟨p, pi, ep, sq, cnt, ids⟩ else none
  | _ => none

/-- the batch carried by the most recent `wreq` of the stream `(part, pid, epoch)` with number `seq` -/
def lastBatch (part pid : Nat) (epoch : Int) (seq : Nat) (h : List Ev) : Option Batch :=
  (h.filterMap (batchEv part pid epoch seq)).getLast?

/-- `b` is a batch of the stream `(part, pid, epoch)` with sequence number `seq` -/
def isKey (part pid : Nat) (epoch : Int) (seq : Nat) (b : Batch) : Bool :=
  sameStream b part pid epoch && b.seq == seq

theorem logOf_eq (h : List Ev) : logOf h = h.filterMap logEv := rfl
theorem promisesOf_eq (h : List Ev) : promisesOf h = h.filterMap promEv := rfl
theorem calledIds_eq (h : List Ev) : calledIds h = h.filterMap callEv := rfl
theorem retsOf_eq (h : List Ev) : retsOf h = h.filterMap retEv := rfl

theorem logOf_append (h₁ h₂ : List Ev) : logOf (h₁ ++ h₂) = logOf h₁ ++ logOf h₂ :=
  List.filterMap_append
theorem promisesOf_append (h₁ h₂ : List Ev) : promisesOf (h₁ ++ h₂) = promisesOf h₁ ++ promisesOf h₂ :=
  List.filterMap_append
theorem retsOf_append (h₁ h₂ : List Ev) : retsOf (h₁ ++ h₂) = retsOf h₁ ++ retsOf h₂ :=
  List.filterMap_append

theorem isMonitor : Proof.Monitor.IsMonitor check apply step run :=
  ⟨⟨fun _ => rfl, fun s e es => by rw [run]; cases step s e <;> rfl⟩, fun s e => by rw [step]; cases check s e <;> rfl⟩

theorem logOf_snoc (h : List Ev) (ev : Ev) : logOf (h ++ [ev]) = logOf h ++ (logEv ev).toList :=
  List.filterMap_snoc logEv h ev
theorem promisesOf_snoc (h : List Ev) (ev : Ev) : promisesOf (h ++ [ev]) = promisesOf h ++ (promEv ev).toList :=
  List.filterMap_snoc promEv h ev
theorem calledIds_snoc (h : List Ev) (ev : Ev) : calledIds (h ++ [ev]) = calledIds h ++ (callEv ev).toList :=
  List.filterMap_snoc callEv h ev
theorem retsOf_snoc (h : List Ev) (ev : Ev) : retsOf (h ++ [ev]) = retsOf h ++ (retEv ev).toList :=
  List.filterMap_snoc retEv h ev
theorem called_of_returnedBefore {h : List Ev} {a b : Id} (hab : returnedBefore h a b) : b ∈ calledIds h := by
  obtain ⟨h₁, h₂, h₃, p, rfl⟩ := hab
  exact List.mem_filterMap.2 ⟨.call b p, List.mem_append_right _ List.mem_cons_self, rfl⟩

/-- One more event adds to `returnedBefore` only as a call, of everything returned so far. -/
theorem returnedBefore_snoc (h : List Ev) (ev : Ev) (a b : Id) :
    returnedBefore (h ++ [ev]) a b ↔ returnedBefore h a b ∨ (callEv ev = some b ∧ a ∈ retsOf h) := by
  constructor
  · rintro ⟨h₁, h₂, h₃, p, he⟩
    rcases List.eq_nil_or_concat h₃ with rfl | ⟨h₃, x, rfl⟩
    · obtain ⟨rfl, hev⟩ := List.append_inj' he rfl
      cases hev
      exact Or.inr ⟨rfl, List.mem_filterMap.2 ⟨.ret a, List.mem_append_right _ List.mem_cons_self, rfl⟩⟩
    · rw [List.concat_eq_append, ← List.cons_append, ← List.append_assoc] at he
      exact Or.inl ⟨h₁, h₂, h₃, p, List.append_inj_left' he rfl⟩
  · rintro (⟨h₁, h₂, h₃, p, rfl⟩ | ⟨hc, ha⟩)
    · exact ⟨h₁, h₂, h₃ ++ [ev], p, List.append_assoc ..⟩
    · obtain ⟨h₁, e, h₂, rfl, he⟩ := Ledger.mem_filterMap_split ha
      cases e <;> cases he
      cases ev <;> cases hc
      exact ⟨h₁, h₂, [], _, rfl⟩

theorem lastBatch_snoc (part pid : Nat) (epoch : Int) (seq : Nat) (h : List Ev) (ev : Ev) :
    lastBatch part pid epoch seq (h ++ [ev]) =
      (batchEv part pid epoch seq ev).or (lastBatch part pid epoch seq h) := by
  rw [lastBatch, List.filterMap_snoc, List.getLast?_append]
  cases batchEv part pid epoch seq ev <;> rfl

theorem isKey_iff (part pid : Nat) (epoch : Int) (seq : Nat) (b : Batch) :
    isKey part pid epoch seq b = true ↔ b.part = part ∧ b.pid = pid ∧ b.epoch = epoch ∧ b.seq = seq := by
  simp [isKey, sameStream, and_assoc]

theorem batchEv_wreq (part pid : Nat) (epoch : Int) (seq n act p pi : Nat) (ep : Int) (sq cnt : Nat) (ids : List Id) :
    batchEv part pid epoch seq (.wreq n act p pi ep sq cnt ids) =
      if isKey part pid epoch seq ⟨p, pi, ep, sq, cnt, ids⟩ then some ⟨p, pi, ep, sq, cnt, ids⟩ else none := by
  simp only [batchEv, isKey_iff]

theorem batchEv_eq_none {part pid : Nat} {epoch : Int} {seq : Nat} {ev : Ev}
    (h : ∀ n act cnt ids, ev ≠ .wreq n act part pid epoch seq cnt ids) : batchEv part pid epoch seq ev = none := by
  cases ev with
  | wreq n act p pi ep sq cnt ids =>
    rw [batchEv, if_neg]
    rintro ⟨rfl, rfl, rfl, rfl⟩
    exact h _ _ _ _ rfl
  | _ => rfl

theorem lastBatch_decomp (part pid : Nat) (epoch : Int) (seq : Nat) (h₁ h₂ : List Ev)
    (n act cnt : Nat) (ids : List Id)
    (hno : ∀ n' act' cnt' ids', Ev.wreq n' act' part pid epoch seq cnt' ids' ∉ h₂) :
    lastBatch part pid epoch seq (h₁ ++ Ev.wreq n act part pid epoch seq cnt ids :: h₂) =
      some ⟨part, pid, epoch, seq, cnt, ids⟩ := by
  have h2 : h₂.filterMap (batchEv part pid epoch seq) = [] :=
    List.filterMap_eq_nil_iff.2 fun ev hev => batchEv_eq_none fun _ _ _ _ he => hno _ _ _ _ (he ▸ hev)
  simp [lastBatch, List.filterMap_append, batchEv, h2]

theorem toList_reverse {α : Type} (o : Option α) : o.toList.reverse = o.toList := by
  cases o <;> rfl

end Proof.Idem
