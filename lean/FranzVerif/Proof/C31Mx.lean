import FranzVerif.Proof.C31
/-! C31 — `xsync.Mutex`: the one token is in the channel or with a holder (`MNum.tok`: tokens buffered + holders = 1).
The hypothesis "clients are lock/unlock-balanced" travels as a count as well: `unbal` marks a thread with a bare `Unlock`
now or ahead, and `MNum.bal` keeps that count at zero, so a thread at `Unlock` is the holder. -/
namespace Model.C31.Mx

/-- the thread holds the mutex (between its `Lock`/successful `TryLock` and its `Unlock`) -/
def holds (t : Th) : Nat := if t.pc = .unlock true then 1 else 0
/-- the thread is or will be unbalanced: a bare `Unlock` now or later in its program -/
def unbal (t : Th) : Nat := if t.pc = .unlock false ∨ Op.U ∈ t.prog then 1 else 0

def Balanced (progs : List (List Op)) : Prop := ∀ p ∈ progs, Op.U ∉ p

/-- The invariant, as a relation between the shared state, the number `h` of holders and the number `u`
of unbalanced threads. -/
structure MNum (sh : Sh) (h u : Nat) : Prop where
  tok : sh.ch + h = 1
  bal : u = 0

def MInv (s : St Sh Th) : Prop := MNum s.sh (cnt holds s.ths) (cnt unbal s.ths)

theorem holds_start (p : List Op) : holds (start p) = 0 := by
  rcases p with _ | ⟨_ | _ | _, _⟩ <;> rfl

theorem unbal_start {p : List Op} (h : Op.U ∉ p) : unbal (start p) = 0 := by
  rcases p with _ | ⟨_ | _ | _, r⟩ <;> simp_all [start, unbal]

theorem init_inv (progs : List (List Op)) (hb : Balanced progs) : MInv (init progs) :=
  ⟨by simp [init, cnt_map_eq_zero fun p _ => holds_start p], cnt_map_eq_zero fun p hp => unbal_start (hb p hp)⟩

theorem inv_step (sh : Sh) (t : Th) (r : List Th) (sh' : Sh) (t' : Th) (b : Bool) (ev : String)
    (hI : MInv ⟨sh, t :: r⟩) (hs : stepT sh t = some (sh', t', b, ev)) : MInv ⟨sh', t' :: sys.wakeAll b r⟩ := by
  obtain ⟨pc, p⟩ := t
  simp only [MInv, cnt_cons, sys.cnt_wakeAll_eq (f := holds) fun _ => rfl,
    sys.cnt_wakeAll_eq (f := unbal) fun _ => rfl] at hI ⊢
  obtain ⟨tok, bal⟩ := hI
  have hu : unbal ⟨pc, p⟩ = 0 := by omega
  have hnu : Op.U ∉ p := fun hm => by simp [unbal, hm] at hu
  have hs0 := holds_start p
  have hu0 := unbal_start hnu
  -- (`↓`: the values at `start p` go in before `holds`, `unbal` are unfolded there)
  cases pc with
  | lock =>
    by_cases hc : sh.ch = 0 <;> simp [stepT, hc] at hs
    obtain ⟨rfl, rfl, -⟩ := hs
    constructor <;> simp [holds, unbal, hnu] at tok ⊢ <;> omega
  | tryl =>
    by_cases hc : sh.ch = 0 <;> simp [stepT, hc] at hs <;> obtain ⟨rfl, rfl, -⟩ := hs <;>
      constructor <;> simp [holds, unbal, hnu, ↓hs0, ↓hu0] at tok ⊢ <;> omega
  | unlock own =>
    -- a balanced thread at `Unlock` is the holder, so the channel is empty
    cases own
    · simp [unbal] at hu
    · have hc : sh.ch = 0 := by simp [holds] at tok; omega
      simp [stepT, hc] at hs
      obtain ⟨rfl, rfl, -⟩ := hs
      constructor <;> simp [holds, ↓hs0, ↓hu0] at tok ⊢ <;> omega
  | done => simp [stepT] at hs

theorem reach_inv {progs : List (List Op)} (hb : Balanced progs) {s : St Sh Th}
    (hr : sys.Reach (init progs) s) : MInv s :=
  Sys.inv_of_local sys (init_inv progs hb) (by simp [MInv, cnt_mid]) inv_step hr

/-- A receive from `ch` needs a buffered token; everything else but `done` can always act. -/
theorem enabled_iff (sh : Sh) (t : Th) : (stepT sh t).isSome ↔ match t.pc with
    | .lock => sh.ch ≠ 0
    | .done => False
    | _ => True := by
  fun_cases stepT sh t <;> simp only [‹t.pc = _›] <;> simp_all

/-- Deadlock freedom: the holder can unlock; with the token in the channel every unfinished thread can act. -/
theorem deadlock_free {s : St Sh Th} (h : MInv s) (hnd : sys.allDone s = false) : ∃ i, (sys.step s i).isSome := by
  have h1 := h.tok
  simp only [Sys.allDone, List.all_eq_false] at hnd
  obtain ⟨t, hm, hnd⟩ := hnd
  by_cases hch : s.sh.ch = 0
  · have : 0 < cnt holds s.ths := by omega
    obtain ⟨⟨pc, prog⟩, hm', hh⟩ := cnt_pos this
    refine sys.step_of_mem hm' ((enabled_iff _ _).2 ?_)
    cases pc <;> simp [holds] at hh <;> trivial
  · refine sys.step_of_mem hm ((enabled_iff _ _).2 ?_)
    obtain ⟨pc, prog⟩ := t
    cases pc <;> simp [sys] at hnd ⊢
    exact hch

end Model.C31.Mx
