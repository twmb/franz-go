import FranzVerif.Proof.ProducerFacts
/-! History-level meaning of the monitor's `sawFull` flag: it is only set when the buffer was full
(for a record of that size) at a prefix of the history at which the record's call was in progress. -/
namespace Proof.Producer
open Model.Producer

/-- At some prefix `p` of `h` the record `id` (of size `sz`) had been passed to Produce, was not yet
admitted nor finished, and the buffer — as a function of `p` alone — was full for it. -/
def FullWitness (c : Cfg) (id : Id) (sz : Nat) (h : List Ev) : Prop :=
  ∃ p q, h = p ++ q ∧ called id p = true ∧ id ∉ admittedIds p ∧ promisesOf id p = [] ∧
    full c (inBuf p).length ((inBuf p).map (sizeOfId p)).sum sz = true

theorem FullWitness.snoc {c : Cfg} {id : Id} {sz : Nat} {h : List Ev} (hw : FullWitness c id sz h) (ev : Ev) :
    FullWitness c id sz (h ++ [ev]) := by
  obtain ⟨p, q, rfl, h1, h2, h3, h4⟩ := hw
  exact ⟨p, q ++ [ev], by simp, h1, h2, h3, h4⟩

def SawInv (c : Cfg) (h : List Ev) (s : St) : Prop :=
  ∀ id r, find s.recs id = some r → r.sawFull = true → FullWitness c id r.sz h

theorem FullWitness.now {c : Cfg} {h : List Ev} {s : St} (hi : Inv c h s) {id : Id} {r : Rec}
    (hfd : find s.recs id = some r) (ha : r.admitted = false) (hp : r.promised = none)
    (hfull : full c s.occ s.occBytes r.sz = true) : FullWitness c id r.sz h := by
  have hr := hi.recSome id r hfd
  refine ⟨h, [], by simp, hr.hcalled, ?_, ?_, ?_⟩
  · exact fun hm => Bool.false_ne_true (ha.symm.trans (hr.mem_admitted.1 hm))
  · rw [hr.hprom, hp]; rfl
  · rw [hi.occ, ← hi.bytes]; exact hfull

theorem onRec_sawFull (ev : Ev) (r : Rec) : (onRec ev r).sawFull = r.sawFull ∧ (onRec ev r).sz = r.sz := by
  cases ev <;> exact ⟨rfl, rfl⟩

/-- The flag `sawFull` of an entry is set only at a moment at which the call is in progress and the buffer is full for it:
when the call opens the entry, or at an admission. -/
theorem sawFull_of_apply {c : Cfg} {s : St} {ev : Ev} (hchk : check c s ev = none) {id : Id} {r' : Rec}
    (hfd : find (apply c s ev).recs id = some r') (hsw : r'.sawFull = true) :
    (∃ r, find s.recs id = some r ∧ r.sawFull = true ∧ r.sz = r'.sz) ∨
    (r'.admitted = false ∧ r'.promised = none ∧ full c (apply c s ev).occ (apply c s ev).occBytes r'.sz = true) := by
  obtain ⟨o, he, ho⟩ := find_apply hchk id
  rw [he] at hfd
  obtain ⟨r₁, rfl, rfl⟩ := Option.map_eq_some_iff.1 hfd
  rcases mark_cases c s ev r₁ with hm | ⟨hm, ha, hp, hf⟩
  · -- not marked now: `r₁` is the entry a call opens, or the old one, kept or updated in place
    rw [hm] at hsw ⊢
    rcases ho with ⟨k, sz, rfl, _, h1⟩ | ⟨_, h1⟩ | ⟨r, _, h0, h1⟩
    · cases h1; exact .inr ⟨rfl, rfl, hsw⟩
    · exact .inl ⟨r₁, h1.symm, hsw, rfl⟩
    · cases h1; exact .inl ⟨r, h0, (onRec_sawFull ev r).1 ▸ hsw, (onRec_sawFull ev r).2.symm⟩
  · rw [hm]
    exact .inr ⟨ha, hp, hf⟩

/-- `Inv` is carried along: the occupancy a new witness reads is that of the state after the event. -/
theorem sawInv_of_run {c : Cfg} {h : List Ev} {s : St} (hr : run c {} h = some s) : SawInv c h s := by
  refine ((isMonitor c).inv (I := fun h s => Inv c h s ∧ SawInv c h s)
    (fun h s ev ⟨hi, hsaw⟩ hchk => ⟨hi.step ev hchk, fun id r' hfd hsw => ?_⟩) ⟨Inv.init c, fun _ _ hfd => nomatch hfd⟩ hr).2
  rcases sawFull_of_apply hchk hfd hsw with ⟨r, h0, e1, e2⟩ | ⟨ha, hp, hf⟩
  · exact e2 ▸ (hsaw id r h0 e1).snoc ev
  · exact FullWitness.now (hi.step ev hchk) hfd ha hp hf

theorem sawFullDuringCall_sound {c : Cfg} {id : Id} {h : List Ev} (hs : sawFullDuringCall c id h = true) :
    FullWitness c id (sizeOfId h id) h := by
  unfold sawFullDuringCall at hs
  cases hr : run c {} h with
  | none => simp [hr] at hs
  | some s =>
    cases hfd : find s.recs id with
    | none => simp [hr, hfd] at hs
    | some r =>
      simp [hr, hfd] at hs
      have := sawInv_of_run hr id r hfd hs
      have hsz : sizeOfId h id = r.sz := by simp [sizeOfId_eq', ((inv_of_run hr).recSome id r hfd).hsz]
      rw [hsz]; exact this

end Proof.Producer
