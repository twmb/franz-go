/-! Arithmetic of byte encodings that more than one codec needs: the 4-byte big-endian length prefix of a xerial
frame (C19) and the Confluent schema id (C36) are both read back by summing four base-256 digits; the varint readers and
writers of C17 and C36 put 7-bit groups together with `|` and `<<`; the big-endian and digit-string readers of C15, C17 and C20
are folds whose step is `digit_add_mod`. -/
namespace Proof.Wire

/-- `|` with a number shifted past all bits of `acc` is `+`. -/
theorem or_shl (acc v s : Nat) (h : acc < 2 ^ s) : acc ||| (v <<< s) = acc + v * 2 ^ s := by
  rw [Nat.or_comm, ← Nat.shiftLeft_add_eq_or_of_lt h, Nat.shiftLeft_eq, Nat.add_comm]

/-- The four base-256 digits of a number below 2^32 add up to it. -/
theorem be32_sum (n : Nat) (h : n < 4294967296) :
    n / 16777216 % 256 * 16777216 + n / 65536 % 256 * 65536 + n / 256 % 256 * 256 + n % 256 = n := by
  rw [show n / 16777216 = n / 256 / 256 / 256 by simp only [Nat.div_div_eq_div_mul],
    show n / 65536 = n / 256 / 256 by simp only [Nat.div_div_eq_div_mul]]
  omega

/-- One Horner step: a digit `n / q % p` of weight `q` on top of `n % q`. With `q = B ^ k`, `p = B` the leading digit
comes first (a big-endian fold); with `q = B`, `p = B ^ k` the last digit is appended to the `k` digits of `n / B`. -/
theorem digit_add_mod (p q a n : Nat) : (a * p + n / q % p) * q + n % q = a * (q * p) + n % (q * p) := by
  rw [Nat.mod_mul, Nat.add_mul, Nat.mul_assoc, Nat.mul_comm p q, Nat.mul_comm (n / q % p) q]
  omega

end Proof.Wire
