import FranzVerif.Proof.C06Abort
/-! C06 — refinement: one step of the walk of `ProcessFetchPartition` on a frame that encodes a log batch appends
exactly the records the reference decoder gives for that batch, keeps the next offset below everything not yet
returned, and keeps the aborter in step with the Spec's order-free definition. -/
namespace Proof.C06
open Model.C06
open Spec.C06 (LRec LBatch ORec Req)

/-- The next offset is at least the requested one and at most one past the last offset of the batches `P` consumed so far (or the
requested one, if that is larger); the upper bound is said of every `x` above those last offsets, which avoids a maximum over `P`. -/
def OffInv (o : Opts) (P : List LBatch) (s : St) : Prop :=
  o.offset ≤ s.off ∧ ∀ x, (∀ b ∈ P, b.last < x) → s.off ≤ max o.offset x

/-- what holds of the state when the walk has consumed the batches `P` and goes on -/
structure WalkInv (o : Opts) (A : List (Int × Int)) (P : List LBatch) (s : St) : Prop where
  off : OffInv o P s
  ab : AbInv (effA o A) P s.ab
  err : s.err = none
  stopped : s.stopped = false

/-- what one step of the walk on the encoding of `lb` achieves -/
structure StepOk (o : Opts) (A : List (Int × Int)) (L P : List LBatch) (lb : LBatch) (s s1 : St) : Prop where
  out : s1.out.map obs = s.out.map obs ++ Spec.C06.batchRecords (reqOf o A) L false lb
  off : OffInv o (P ++ [lb]) s1
  ab : AbInv (effA o A) (P ++ [lb]) s1.ab
  cut : ∀ r ∈ lb.records.drop lb.present, s1.off ≤ max o.offset r.offset
  errs : s1.err = none ∨ s1.err = some .claimNoBytes
  stopped : s1.stopped = false
  complete : lb.present = lb.records.length → s1.err = none

theorem batchRecords_eq (o : Opts) (A : List (Int × Int)) (L : List LBatch) (lb : LBatch) :
    Spec.C06.batchRecords (reqOf o A) L false lb =
      (if (if lb.control then o.keepControl else !(lb.txn && (effA o A).any (openAt L lb))) = true
       then ((lb.records.take lb.present).filter fun r => decide (o.offset ≤ r.offset)).map (Spec.C06.toORec lb) else []) := by
  unfold Spec.C06.batchRecords
  simp only [inAborted_eq, Bool.false_eq_true, if_false]
  rfl

section
variable {o : Opts} {A : List (Int × Int)} {L P S : List LBatch} {lb : LBatch}

theorem OffInv.le_first {s : St} (hoff : OffInv o P s) (hL : L = P ++ lb :: S) (hwf : WfLog L) :
    s.off ≤ max o.offset lb.first := by
  subst hL
  exact hoff.2 _ fun m hm => (List.pairwise_append.mp hwf.ord).2.2 m hm lb (by simp)

theorem wf_lb (hL : L = P ++ lb :: S) (hwf : WfLog L) : WfBatch lb := hwf.batch lb (by subst hL; simp)

/-- An ABORT marker in a batch entirely below the next offset ends no listed transaction (`AbortedConsistent.overlaps`). -/
theorem stepOk_skip {s : St} (hL : L = P ++ lb :: S) (hwf : WfLog L) (hcons : AbortedConsistent o A L)
    (hs : WalkInv o A P s) (hlt : lb.last < s.off) : StepOk o A L P lb s s := by
  have hwb := wf_lb hL hwf
  have hfl := hwb.firstLast
  have hhi := hs.off.le_first hL hwf
  exact {
    out := by
      have : ((lb.records.take lb.present).filter fun r => decide (o.offset ≤ r.offset)) = [] :=
        List.filter_eq_nil_iff.mpr fun r hr => by
          have := hwb.inRange r (List.mem_of_mem_take hr)
          simp only [decide_eq_true_eq]; omega
      rw [batchRecords_eq, this]; simp
    off := ⟨hs.off.1, fun x hx => hs.off.2 x fun b hb => hx b (by simp [hb])⟩
    ab := by
      refine abinv_keep (fun a ha _ hpid ⟨hm, hle⟩ => ?_) hs.ab
      have := hcons.overlaps lb (by subst hL; simp) hm (by omega) a ha hpid
      omega
    cut := fun r hr => by
      have := (hwb.inRange r (List.mem_of_mem_drop hr)).1
      omega
    errs := .inl hs.err
    stopped := hs.stopped
    complete := fun _ => hs.err }

/-- The state as the record loop over `rs` leaves it, but for the aborter (`a1`) and possibly the error (`e1`: a batch cut short
right after its header reports `claimNoBytes`). -/
theorem stepOk_keepAll (rs : List Rec) (ab : Bool) (s : St) (a1 : Aborter) (e1 : Option Err) (hL : L = P ++ lb :: S) (hwf : WfLog L)
    (hs : WalkInv o A P s) (hobs : rs.map obs = (lb.records.take lb.present).map (Spec.C06.toORec lb))
    (hkeep : ∀ r ∈ rs, (if isControl r.attrs then o.keepControl else !ab) =
      (if lb.control then o.keepControl else !(lb.txn && (effA o A).any (openAt L lb))))
    (herr1 : e1 = (keepAll o ab s rs).err ∨ (e1 = some .claimNoBytes ∧ lb.present ≠ lb.records.length))
    (hab1 : AbInv (effA o A) (P ++ [lb]) a1) : StepOk o A L P lb s { keepAll o ab s rs with ab := a1, err := e1 } := by
  obtain ⟨f1, f2, _⟩ := keepAll_fields o ab rs s
  replace herr1 := herr1.imp_left (·.trans (f1.trans hs.err))
  have hwb := wf_lb hL hwf
  have hinc := hwb.incr
  rw [← List.take_append_drop lb.present lb.records, List.pairwise_append] at hinc
  -- all that is needed of `rs` beyond `hobs` itself: its offsets are those of the records present
  have hoffs : rs.map (·.offset) = (lb.records.take lb.present).map (·.offset) := by
    have := congrArg (List.map ORec.offset) hobs
    rwa [List.map_map, List.map_map] at this
  obtain ⟨k1, k2, k3⟩ := keepAll_out_off o ab _ rs s lb.first hkeep (by rw [hoffs, List.pairwise_map]; exact hinc.1)
    (by rw [hoffs]; exact List.forall_mem_map.2 fun x hx => (hwb.inRange x (List.mem_of_mem_take hx)).1) hs.off.1
    (hs.off.le_first hL hwf)
  rw [hoffs] at k3
  exact {
    out := by
      rw [k1, batchRecords_eq, List.map_append]
      congr 1
      generalize (if lb.control then o.keepControl else !(lb.txn && (effA o A).any (openAt L lb))) = keep
      cases keep
      · rfl
      · have := congrArg (List.filter fun r : ORec => decide (o.offset ≤ r.offset)) hobs
        rwa [List.filter_map, List.filter_map] at this
    off := ⟨k2, fun x hx => by
      have := hwb.firstLast
      have := hx lb (by simp)
      refine k3 x (by omega) (List.forall_mem_map.2 fun r hr => ?_)
      have := (hwb.inRange r (List.mem_of_mem_take hr)).2
      omega⟩
    ab := hab1
    cut := fun r hr => k3 r.offset (hwb.inRange r (List.mem_of_mem_drop hr)).1 (List.forall_mem_map.2 fun x hx => hinc.2.2 x hx r hr)
    errs := herr1.imp_right And.left
    stopped := f2.trans hs.stopped
    complete := fun hc => herr1.elim id fun h => absurd hc h.2 }

/-- the deferred KAFKA-5443 rule: after a batch that is entirely there the next offset is at least its last offset + 1 -/
theorem StepOk.bump {s s1 : St} {x : Int} (h : StepOk o A L P lb s s1) (hc : lb.present = lb.records.length)
    (hx : x = lb.last + 1) (hlt : s1.off < x) : StepOk o A L P lb s { s1 with off := x } := by
  subst hx
  have := h.off.1
  exact { h with
    off := ⟨show o.offset ≤ lb.last + 1 by omega, fun x hx => by
      have := hx lb (by simp)
      show lb.last + 1 ≤ max o.offset x
      omega⟩
    cut := fun r hr => by rw [hc, List.drop_length] at hr; cases hr }

/-- `n`: the clamped record count of `processRecordBatch` -/
theorem takeRecs_rep {b : Batch} {lb : LBatch} {n : Nat} (h : RepBatch b lb) (hnb : ¬ (b.numRecords > b.rawLen ∧ b.rawLen = 0))
    (hn : n = if b.numRecords > b.rawLen then b.rawLen else b.numRecords.toNat) :
    takeRecs b n = some b.recs ∧ (n = b.recs.length ↔ lb.present = lb.records.length) := by
  have hpl := congrArg List.length h.recs
  simp only [List.length_take, List.length_map] at hpl
  have hp := h.present
  have hc := h.count
  have hr := h.raw
  have hle : b.recs.length ≤ n ∧ (n = b.recs.length ↔ lb.present = lb.records.length) := by
    rw [hn]; split <;> omega
  refine ⟨?_, hle.2⟩
  unfold takeRecs
  rw [h.tail]
  by_cases hge : n ≤ b.recs.length
  · rw [if_pos hge, Nat.le_antisymm hge hle.1, List.take_length]
  · rw [if_neg hge]

theorem rep_control {b : Batch} {lb : LBatch} (h : RepBatch b lb) : lb.control = isControl (b.attrs % 256) := by
  have := h.attrsLt
  unfold Spec.C06.LBatch.control isControl; rw [h.attrs, Nat.mod_eq_of_lt (show b.attrs < 256 by omega)]

theorem obs_rtr {b : Batch} {lb : LBatch} (h : RepBatch b lb) (h0 : 0 ≤ b.first) (k : KRec) :
    obs (recordToRecord b k) = Spec.C06.toORec lb (v2Rec b k) := by
  have hne : b.first ≠ -1 := by omega
  have hlt := h.attrsLt
  have h1 : b.attrs % 256 = b.attrs := Nat.mod_eq_of_lt (by omega)
  have h2 : b.attrs / 128 = 0 := Nat.div_eq_of_lt hlt
  simp [obs, Spec.C06.toORec, recordToRecord, v2Rec, hne, h.attrs, h.pid, h.pepoch, h.lepoch, h1, h2]

theorem marker_rep {b : Batch} {lb : LBatch} (h : RepBatch b lb) :
    lb.abortMarker = (lb.control && lb.txn && b.recs.any fun k => Spec.C06.isAbortKey k.key) := by
  unfold Spec.C06.LBatch.abortMarker
  rw [h.recs, List.any_map]
  rfl

theorem batch_abinv {a : Aborter} (b : Batch)
    (hL : L = P ++ lb :: S) (hwf : WfLog L) (hcons : AbortedConsistent o A L) (hrep : RepBatch b lb)
    (hab : AbInv (effA o A) P a) :
    AbInv (effA o A) (P ++ [lb]) (popIfMarker b (lb.txn && (effA o A).any (openAt L lb)) false b.recs a) := by
  have : popIfMarker b (lb.txn && (effA o A).any (openAt L lb)) false b.recs a =
      if lb.abortMarker = true ∧ (effA o A).any (openAt L lb) = true then popPid a lb.pid else a := by
    unfold popIfMarker
    rw [hrep.pid]
    refine ite_congr (propext ?_) (fun _ => rfl) (fun _ => rfl)
    simp only [marker_rep hrep, rep_control hrep, Bool.and_eq_true]
    constructor
    · rintro ⟨⟨h1, h2⟩, _, h3, h4⟩; exact ⟨⟨⟨h3, h1⟩, h4⟩, h2⟩
    · rintro ⟨⟨⟨h3, h1⟩, h4⟩, h2⟩; exact ⟨⟨h1, h2⟩, trivial, h3, h4⟩
  rw [this]
  exact abinv_step hL hwf hcons hab

theorem batch_sim (b : Batch) (s : St)
    (hL : L = P ++ lb :: S) (hwf : WfLog L) (hcons : AbortedConsistent o A L) (hrep : RepBatch b lb) (hs : WalkInv o A P s) :
    ∃ s1, processRecordBatch o s b = some s1 ∧ StepOk o A L P lb s s1 := by
  have h0 : 0 ≤ b.first := hrep.first ▸ (wf_lb hL hwf).firstNonneg
  have sim := fun a1 e1 => stepOk_keepAll (A := A) (b.recs.map (recordToRecord b)) (lb.txn && (effA o A).any (openAt L lb)) s a1 e1
    hL hwf hs
    (by rw [hrep.recs, List.map_map, List.map_map]; exact List.map_congr_left fun k _ => obs_rtr hrep h0 k)
    (fun r hr => by obtain ⟨k, _, rfl⟩ := List.mem_map.mp hr; rw [rep_control hrep]; rfl)
  fun_cases processRecordBatch o s b
  case case1 hm => exact absurd hrep.magic hm
  case case2 hskip => exact ⟨s, rfl, stepOk_skip hL hwf hcons hs (hrep.last ▸ hskip)⟩
  case case3 hd => simp [hrep.decomp] at hd
  case case4 hneg => rw [hrep.count] at hneg; omega
  case case5 hnb =>
    -- claims records but has no record bytes: cut short right after the header
    have hr := hrep.raw
    have hnil : b.recs = [] := List.eq_nil_of_length_eq_zero (by omega)
    rw [hnil] at sim
    refine ⟨_, rfl, sim s.ab _ (.inr ⟨rfl, ?_⟩) (abinv_keep (fun a _ _ _ ⟨hm, _⟩ => ?_) hs.ab)⟩
    · have hp := hrep.present
      have := hrep.count
      rw [hnil] at hp
      simp only [List.length_nil] at hp
      omega
    · simp [marker_rep hrep, hnil] at hm
  case case6 hnb _ hx => exact nomatch (takeRecs_rep hrep hnb rfl).1.symm.trans hx
  case case7 hx => exact absurd hx (shouldAbortBatch_ne_none _ _)
  case case8 hx => rw [procRecords_eq _ _ _ _ _ _ _ (Nat.le_refl _)] at hx; cases hx
  case case9 hnb n ks htake _ abortBatch hsab _ s2 hp2 =>
    obtain ⟨hks, hiff⟩ := takeRecs_rep (n := n) hrep hnb rfl
    cases hks.symm.trans htake
    cases hsab.symm.trans (shouldAbort_spec (E := effA o A) b hL hwf hs.ab hrep.pid hrep.first
      (by unfold Spec.C06.LBatch.txn isTxn; rw [hrep.attrs]))
    rw [procRecords_eq _ _ _ _ _ _ _ (Nat.le_refl _)] at hp2
    cases hp2
    have hA := sim _ _ (.inl rfl) (batch_abinv b hL hwf hcons hrep hs.ab)
    refine ⟨_, rfl, ?_⟩
    split
    · rename_i hc; exact hA.bump (hiff.mp hc.1) (by rw [hrep.last]) hc.2
    · exact hA

theorem msg_attrs {m : Msg} (h : validMsg m) :
    (msgToRecord m).attrs = msgAttrs m ∧ isControl (msgAttrs m) = false ∧ isTxn (msgAttrs m) = false := by
  unfold validMsg at h
  unfold msgToRecord msgAttrs isControl isTxn
  cases hv : m.isV1
  all_goals
    simp only [hv, if_true, Bool.false_eq_true, if_false] at h ⊢
    exact ⟨by omega, decide_eq_false (by omega), decide_eq_false (by omega)⟩

/-- `ms`: a single message, or the inner messages of a wrapper after rebasing. -/
theorem msgs_sim (ms : List Msg) (s : St) (hL : L = P ++ lb :: S) (hwf : WfLog L) (hs : WalkInv o A P s)
    (hvalid : ∀ i ∈ ms, validMsg i ∧ msgAttrs i = lb.attrs) (hrecs : lb.records = ms.map fun i => msgRec i 0)
    (hpres : lb.present = lb.records.length) (hpid : lb.pid = -1) (hpe : lb.pepoch = -1) (hle : lb.lepoch = -1) :
    StepOk o A L P lb s (keepAll o false s (ms.map msgToRecord)) := by
  have hctl : ∀ i ∈ ms, isControl (msgToRecord i).attrs = false ∧ lb.control = false ∧ lb.txn = false := by
    intro i hi
    obtain ⟨h1, h2, h3⟩ := msg_attrs (hvalid i hi).1
    unfold Spec.C06.LBatch.control Spec.C06.LBatch.txn
    rw [h1, ← (hvalid i hi).2]
    exact ⟨h2, h2, h3⟩
  refine stepOk_keepAll (A := A) (ms.map msgToRecord) false s _ _ hL hwf hs ?_ (fun r hr => ?_) (.inl rfl) ?_
  · rw [hpres, List.take_length, hrecs, List.map_map, List.map_map]
    refine List.map_congr_left fun i hi => ?_
    simp [obs, Spec.C06.toORec, msgRec, msgToRecord, hdrsOf, hpid, hpe, hle, ← (hvalid i hi).2, ← (msg_attrs (hvalid i hi).1).1]
  · obtain ⟨i, hi, rfl⟩ := List.mem_map.mp hr
    rw [(hctl i hi).1, (hctl i hi).2.1, (hctl i hi).2.2]; rfl
  · -- no control batch, hence no ABORT marker
    have hmark : lb.abortMarker = false := by
      unfold Spec.C06.LBatch.abortMarker
      cases ms with
      | nil => simp [hrecs]
      | cons i _ => simp [(hctl i List.mem_cons_self).2.1]
    rw [(keepAll_fields o false _ s).2.2]
    exact abinv_keep (fun a _ _ _ ⟨hm, _⟩ => by rw [hmark] at hm; cases hm) hs.ab

theorem processInner_view {m : Msg} {inner : Inner} {lb : LBatch} (o : Opts) (s : St) (h : RepWrapper m inner lb) (base : Int) :
    processInner o base (m.attrs % 4) (if m.isV1 then (if m.attrs / 8 % 2 = 1 then some m.ts else none) else none) s inner.msgs
      = keepAll o false s ((inner.msgs.map fun i => { innerView m i with offset := i.offset + base }).map msgToRecord) := by
  have hseen := fun i hi => innerSeen_view m i base (fun hl => h.latV1 hl i hi)
  rw [processInner_valid _ _ _ _ _ _ fun i hi => by rw [hseen i hi]; exact (h.valid i hi).1, List.map_map]
  exact congrArg _ (List.map_congr_left fun i hi => by rw [hseen i hi]; rfl)

theorem wrapper_eq {m : Msg} {inner : Inner} {lb : LBatch} (o : Opts) (s : St) (hc : m.attrs % 4 ≠ 0) (h : RepWrapper m inner lb) :
    processOuter o s m inner = some (processInner o (wrapBase m inner) (m.attrs % 4)
      (if m.isV1 then (if m.attrs / 8 % 2 = 1 then some m.ts else none) else none) s inner.msgs) := by
  unfold processOuter
  simp only [hc, h.decomp, h.err, h.panic, setErr, if_false, Bool.not_true, Bool.false_eq_true]
  cases hl : inner.msgs.getLast? with
  | none => rw [List.getLast?_eq_none_iff.mp hl]; rfl
  | some last =>
    have hne : inner.msgs.isEmpty = false := by
      cases hm : inner.msgs with
      | nil => rw [hm] at hl; cases hl
      | cons _ _ => rfl
    have hbase := h.baseNonneg
    have hrel := fun hv => h.relNonneg hv last (List.mem_of_getLast? hl)
    simp only [wrapBase, hl, Option.map_some, Option.getD_some] at hbase ⊢
    simp only [hne, Bool.false_eq_true, if_false]
    cases hv : m.isV1
    · rfl
    · simp only [hv, if_true] at hbase hrel ⊢
      by_cases h0 : m.offset = 0
      · rw [if_neg (not_not_intro h0), show m.offset - last.offset = 0 by have := hrel trivial; omega]
      · rw [if_pos h0, if_neg (by omega)]

theorem step_sim (it : Item) (s : St)
    (hL : L = P ++ lb :: S) (hwf : WfLog L) (hcons : AbortedConsistent o A L) (hrep : Rep it lb) (hs : WalkInv o A P s) :
    ∃ s1, stepItem o s it = some s1 ∧ StepOk o A L P lb s s1 := by
  -- such a step leaves no decompression error, so `ProcessFetchPartition` keeps its result as it is
  have hpost : ∀ {r : Option St} {s1 : St}, r = some s1 → StepOk o A L P lb s s1 →
      ∃ s1, r.map (fun s' => if s'.err = some .decompress ∧ s'.out.length > 0 then { s' with err := none, stopped := true } else s')
        = some s1 ∧ StepOk o A L P lb s s1 := by
    rintro _ s1 rfl hok
    refine ⟨s1, ?_, hok⟩
    rw [Option.map_some, if_neg]
    rintro ⟨h1, _⟩
    rcases hok.errs with h | h <;> rw [h] at h1 <;> cases h1
  cases it with
  | batch b =>
    obtain ⟨s1, h1, hok⟩ := batch_sim b s hL hwf hcons hrep hs
    exact hpost h1 hok
  | msg m inner =>
    simp only [Rep] at hrep
    split at hrep
    · rename_i hc
      refine hpost (s1 := keepAll o false s ([m].map msgToRecord)) ?_ (msgs_sim [m] s hL hwf hs
        (fun i hi => by cases List.mem_singleton.mp hi; exact ⟨hrep.valid, hrep.attrs.symm⟩)
        hrep.records (by rw [hrep.present, hrep.records]; rfl) hrep.pid hrep.pepoch hrep.lepoch)
      unfold processOuter
      simp only [hc, if_true, processMessage_valid o s m hrep.valid, keepAll, List.map]
    · rename_i hc
      refine hpost ((wrapper_eq o s hc hrep).trans (congrArg some (processInner_view o s hrep _)))
        (msgs_sim _ s hL hwf hs ?_ ?_ ?_ hrep.pid hrep.pepoch hrep.lepoch)
      · intro i' hi'
        obtain ⟨i, hi, rfl⟩ := List.mem_map.mp hi'
        exact hrep.valid i hi
      · rw [hrep.records, List.map_map]
        refine List.map_congr_left fun i _ => ?_
        have : (innerView m i).offset = i.offset := by unfold innerView; split <;> rfl
        simp [msgRec, this]
      · rw [hrep.present, hrep.records, List.length_map]
  | _ => cases hrep

end

theorem walk_sim {o : Opts} {A : List (Int × Int)} {L : List LBatch} (hwf : WfLog L) (hcons : AbortedConsistent o A L) :
    ∀ (items : List Item) (Ls : List LBatch), RepList items Ls → ∀ (P S : List LBatch) (s : St), L = P ++ Ls ++ S →
      (∀ b ∈ Ls.dropLast, b.present = b.records.length) → WalkInv o A P s →
      ∃ s', walk o s items = some s' ∧
        s'.out.map obs = s.out.map obs ++ Ls.flatMap (Spec.C06.batchRecords (reqOf o A) L false) ∧
        OffInv o (P ++ Ls) s' ∧
        (∀ b ∈ Ls, ∀ r ∈ b.records.drop b.present, s'.off ≤ max o.offset r.offset) := by
  intro items Ls hlist
  induction hlist with
  | nil =>
    intro P S s _ _ hs
    exact ⟨s, rfl, by simp, by simpa using hs.off, by simp⟩
  | @cons it lb its lbs hrep hrest ih =>
    intro P S s hL hcomp hs
    obtain ⟨s1, hstep, hok⟩ := step_sim (S := lbs ++ S) it s (by rw [hL]; simp) hwf hcons hrep hs
    have hw : walk o s (it :: its) = walk o s1 its := by
      simp only [walk, hs.err, hs.stopped, Option.isSome_none, Bool.false_eq_true, or_self, if_false, hstep]
    rw [hw]
    cases hrest with
    | nil =>
      exact ⟨s1, rfl, by simpa using hok.out, hok.off, fun b hb r hr => by cases List.mem_singleton.mp hb; exact hok.cut r hr⟩
    | @cons it2 lb2 its2 lbs2 hrep2 hrest2 =>
      -- another batch follows, so `lb` is entirely there
      have hlbc : lb.present = lb.records.length := hcomp lb List.mem_cons_self
      obtain ⟨s', e1, e2, e3, e4⟩ := ih (P ++ [lb]) S s1 (by rw [hL]; simp) (fun b hb => hcomp b (List.mem_cons_of_mem _ hb))
        ⟨hok.off, hok.ab, hok.complete hlbc, hok.stopped⟩
      refine ⟨s', e1, by rw [e2, hok.out]; simp, by simpa using e3, fun b hb r hr => ?_⟩
      rcases List.mem_cons.mp hb with rfl | h
      · rw [hlbc, List.drop_length] at hr; cases hr
      · exact e4 b h r hr

/-- the end of the walk: nothing, or a frame that stops it (truncated frame, `check()` failure) followed by anything -/
def StopTail (tail : List Item) : Prop := tail = [] ∨ ∃ e more, tail = .stop e :: more

theorem walk_stopTail (o : Opts) (s : St) (tail : List Item) (h : StopTail tail) :
    ∃ s', walk o s tail = some s' ∧ s'.out = s.out ∧ s'.off = s.off := by
  rcases h with h | ⟨e, more, h⟩
  · subst h; exact ⟨s, rfl, rfl, rfl⟩
  · subst h
    by_cases hh : s.err.isSome ∨ s.stopped
    · exact ⟨s, walk_halted o s _ hh, rfl, rfl⟩
    · refine ⟨{ s with err := (match e with | some e => some e | none => s.err), stopped := true }, ?_, rfl, rfl⟩
      simp only [walk, hh, if_false, stepItem]
      exact walk_halted o _ more (Or.inr rfl)

theorem process_sim {o : Opts} {A : List (Int × Int)} {items tail : List Item} {whole rest : List LBatch}
    (hrep : RepList items whole) (hwf : WfLog (whole ++ rest)) (hcons : AbortedConsistent o A (whole ++ rest))
    (hcomplete : ∀ b ∈ whole.dropLast, b.present = b.records.length) (htail : StopTail tail) :
    ∃ recs next err, process o false A (items ++ tail) = .done recs next err ∧
      recs.map obs = whole.flatMap (Spec.C06.batchRecords (reqOf o A) (whole ++ rest) false) ∧
      (o.offset ≤ next ∧ ∀ x, (∀ b ∈ whole, b.last < x) → next ≤ max o.offset x) ∧
      (∀ b ∈ whole, ∀ r ∈ b.records.drop b.present, next ≤ max o.offset r.offset) := by
  unfold process
  simp only [Bool.false_eq_true, if_false]
  obtain ⟨s', e1, e2, e3, e4⟩ := walk_sim hwf hcons items whole hrep [] rest
    { off := o.offset, ab := if o.readCommitted then buildAborter A else fun _ => [], err := none } rfl hcomplete
    ⟨⟨Int.le_refl _, fun x _ => show o.offset ≤ max o.offset x by omega⟩, abinv_start o A, rfl, rfl⟩
  obtain ⟨s'', t1, t2, t3⟩ := walk_stopTail o s' tail htail
  rw [walk_append, e1, Option.bind_some, t1]
  refine ⟨_, _, _, rfl, ?_, ?_, ?_⟩
  · rw [t2, e2]; rfl
  · rw [t3]; exact e3
  · rw [t3]; exact e4

end Proof.C06
