import FranzVerif.Proof.ListFacts
/-! Laws shared by the history monitors.

Every monitor (`Model.Producer`, `Model.Consumer`, `Model.Group`, `Model.Txn`, …) accepts a history by folding a
partial `step` over it: `run s [] = some s`, `run s (e :: es) = step s e >>= (run · es)`, where `step` refuses when
`check` names a broken rule and is `apply` otherwise. `IsMonitor check apply step run` says exactly that; each monitor
proves it in one line and takes from here what follows from the shape alone: how an accepted history splits at an
event, that what every accepted event preserves holds of every accepted history, that the state reached is the
fold of `apply`, and that a field of the state to which `apply` only adds what the event shows is that observable of
the history (`field`, `ledger`, `flag`, `first`). `IsRun` is the part of the shape that does not mention `check` and
`apply`; the write-order monitor of C29 (`Model.C29C.Mon`), whose `step` is not split that way, has only that. -/
namespace Proof.Monitor
variable {σ ε : Type}

structure IsRun (step : σ → ε → Option σ) (run : σ → List ε → Option σ) : Prop where
  nil : ∀ s, run s [] = some s
  cons : ∀ s e es, run s (e :: es) = (step s e).bind fun s' => run s' es

namespace IsRun
variable {step : σ → ε → Option σ} {run : σ → List ε → Option σ} (R : IsRun step run)
include R

theorem nil_some {s s' : σ} (h : run s [] = some s') : s' = s :=
  Option.some.inj (h.symm.trans (R.nil s))

theorem append (s : σ) (h₁ h₂ : List ε) : run s (h₁ ++ h₂) = (run s h₁).bind fun s' => run s' h₂ := by
  induction h₁ generalizing s with
  | nil => simp [R.nil]
  | cons e es ih =>
    rw [List.cons_append, R.cons, R.cons]
    cases step s e with
    | none => rfl
    | some s' => exact ih s'

theorem cons_some {s s' : σ} {e : ε} {es : List ε} (h : run s (e :: es) = some s') :
    ∃ s₁, step s e = some s₁ ∧ run s₁ es = some s' := by
  rw [R.cons] at h
  exact Option.bind_eq_some_iff.mp h

theorem append_some {s s' : σ} {h₁ h₂ : List ε} (h : run s (h₁ ++ h₂) = some s') :
    ∃ s₁, run s h₁ = some s₁ ∧ run s₁ h₂ = some s' := by
  rw [R.append] at h
  exact Option.bind_eq_some_iff.mp h

theorem split {s₀ s : σ} {h₁ h₂ : List ε} {e : ε} (h : run s₀ (h₁ ++ e :: h₂) = some s) :
    ∃ s₁ s₂, run s₀ h₁ = some s₁ ∧ step s₁ e = some s₂ ∧ run s₂ h₂ = some s := by
  obtain ⟨s₁, h1, h2⟩ := R.append_some h
  obtain ⟨s₂, h3, h4⟩ := R.cons_some h2
  exact ⟨s₁, s₂, h1, h3, h4⟩

theorem inv_state {I : σ → Prop} (hstep : ∀ s e s', I s → step s e = some s' → I s')
    {h : List ε} {s₀ s : σ} (hi : I s₀) (hr : run s₀ h = some s) : I s := by
  induction h generalizing s₀ with
  | nil => exact R.nil_some hr ▸ hi
  | cons e es ih =>
    obtain ⟨s₁, h1, h2⟩ := R.cons_some hr
    exact ih (hstep _ _ _ hi h1) h2

end IsRun

structure IsMonitor {ρ : Type} (check : σ → ε → Option ρ) (apply : σ → ε → σ) (step : σ → ε → Option σ)
    (run : σ → List ε → Option σ) : Prop extends IsRun step run where
  step_eq : ∀ s e, step s e = if (check s e).isNone then some (apply s e) else none

namespace IsMonitor
variable {ρ : Type} {check : σ → ε → Option ρ} {apply : σ → ε → σ} {step : σ → ε → Option σ}
  {run : σ → List ε → Option σ} (M : IsMonitor check apply step run)
include M

theorem step_some {s s' : σ} {e : ε} : step s e = some s' ↔ check s e = none ∧ apply s e = s' := by
  rw [M.step_eq]
  cases check s e <;> simp

theorem cons_check {s s' : σ} {e : ε} {es : List ε} (h : run s (e :: es) = some s') :
    check s e = none ∧ run (apply s e) es = some s' := by
  obtain ⟨s₁, h1, h2⟩ := M.cons_some h
  obtain ⟨hc, rfl⟩ := M.step_some.mp h1
  exact ⟨hc, h2⟩

theorem split {s₀ s : σ} {h₁ h₂ : List ε} {e : ε} (h : run s₀ (h₁ ++ e :: h₂) = some s) :
    ∃ s₁, run s₀ h₁ = some s₁ ∧ check s₁ e = none ∧ run (apply s₁ e) h₂ = some s := by
  obtain ⟨s₁, h1, h2⟩ := M.append_some h
  exact ⟨s₁, h1, M.cons_check h2⟩

theorem split_isSome {s₀ : σ} {h₁ h₂ : List ε} {e : ε} (h : (run s₀ (h₁ ++ e :: h₂)).isSome) :
    ∃ s₁, run s₀ h₁ = some s₁ ∧ check s₁ e = none :=
  let ⟨_, hs⟩ := Option.isSome_iff_exists.1 h
  let ⟨s₁, h1, hc, _⟩ := M.split hs
  ⟨s₁, h1, hc⟩

/-- Every event of an accepted history passed `check`, at the state the events before it lead to. -/
theorem check_of_mem {s₀ s : σ} {h : List ε} {e : ε} (hr : run s₀ h = some s) (he : e ∈ h) :
    ∃ h₁ h₂ s₁, h = h₁ ++ e :: h₂ ∧ run s₀ h₁ = some s₁ ∧ check s₁ e = none := by
  obtain ⟨h₁, h₂, rfl⟩ := List.append_of_mem he
  obtain ⟨s₁, h1, hc, _⟩ := M.split hr
  exact ⟨h₁, h₂, s₁, rfl, h1, hc⟩

theorem snoc {s₀ s : σ} {h : List ε} {e : ε} (hr : run s₀ (h ++ [e]) = some s) :
    ∃ s₁, run s₀ h = some s₁ ∧ check s₁ e = none ∧ apply s₁ e = s := by
  obtain ⟨s₁, h1, hc, h2⟩ := M.split hr
  exact ⟨s₁, h1, hc, (M.nil_some h2).symm⟩

theorem inv {I : List ε → σ → Prop}
    (hstep : ∀ h s e, I h s → check s e = none → I (h ++ [e]) (apply s e))
    {h : List ε} {s₀ s : σ} (hi : I [] s₀) (hr : run s₀ h = some s) : I h s := by
  suffices ∀ h₀ s₀, I h₀ s₀ → run s₀ h = some s → I (h₀ ++ h) s from this [] s₀ hi hr
  clear hi hr
  induction h with
  | nil => exact fun h₀ s₀ hi hr => by rw [M.nil_some hr, List.append_nil]; exact hi
  | cons e es ih =>
    intro h₀ s₀ hi hr
    obtain ⟨hc, h2⟩ := M.cons_check hr
    rw [List.append_cons]
    exact ih _ _ (hstep _ _ _ hi hc) h2

theorem stays {I : σ → Prop} {h : List ε} (hstep : ∀ s, ∀ e ∈ h, I s → check s e = none → I (apply s e))
    {s s' : σ} (hi : I s) (hr : run s h = some s') : I s' := by
  induction h generalizing s with
  | nil => exact M.nil_some hr ▸ hi
  | cons e es ih =>
    obtain ⟨hc, h2⟩ := M.cons_check hr
    exact ih (fun s x hx => hstep s x (List.mem_cons_of_mem _ hx)) (hstep s e List.mem_cons_self hi hc) h2

theorem inv_state {I : σ → Prop} (hstep : ∀ s e, I s → check s e = none → I (apply s e))
    {h : List ε} {s₀ s : σ} (hi : I s₀) (hr : run s₀ h = some s) : I s :=
  M.stays (fun s e _ => hstep s e) hi hr

theorem run_eq_foldl {s s' : σ} {h : List ε} (hr : run s h = some s') : s' = h.foldl apply s := by
  induction h generalizing s with
  | nil => exact M.nil_some hr
  | cons e es ih => exact ih (M.cons_check hr).2

theorem field {α : Type} {f : σ → List α} {g : ε → Option α} (hstep : ∀ s e, f (apply s e) = [e].filterMap g ++ f s)
    {h : List ε} {s₀ s : σ} (h0 : f s₀ = []) (hr : run s₀ h = some s) : f s = (h.filterMap g).reverse := by
  refine M.inv (I := fun h s => f s = (h.filterMap g).reverse) ?_ h0 hr
  intro h s e hi _
  rw [hstep, hi, List.filterMap_append, List.reverse_append]
  cases hg : g e <;> simp [hg]

theorem flag {f : σ → Bool} {g : ε → Bool} (hstep : ∀ s e, f (apply s e) = (g e || f s))
    {h : List ε} {s₀ s : σ} (h0 : f s₀ = false) (hr : run s₀ h = some s) : f s = h.any g := by
  refine M.inv (I := fun h s => f s = h.any g) ?_ h0 hr
  intro h s e hi _
  rw [hstep, hi, List.any_snoc, Bool.or_comm]

/-- `field` for a list the monitor appends to at the end. -/
theorem ledger {α : Type} {f : σ → List α} {g : ε → Option α} (hstep : ∀ s e, f (apply s e) = f s ++ (g e).toList)
    {h : List ε} {s₀ s : σ} (h0 : f s₀ = []) (hr : run s₀ h = some s) : f s = h.filterMap g := by
  refine M.inv (I := fun h s => f s = h.filterMap g) ?_ h0 hr
  intro h s e hi _
  rw [hstep, hi, List.filterMap_snoc]

/-- An option that is set once holds the first setting event: `hstep` may use that the event was accepted, a second
setting event being refused. -/
theorem first {α : Type} {f : σ → Option α} {g : ε → Option α}
    (hstep : ∀ s e, check s e = none → f (apply s e) = (f s).or (g e))
    {h : List ε} {s₀ s : σ} (h0 : f s₀ = none) (hr : run s₀ h = some s) : f s = h.findSome? g := by
  refine M.inv (I := fun h s => f s = h.findSome? g) ?_ h0 hr
  intro h s e hi hc
  rw [hstep s e hc, hi, List.findSome?_snoc]

end IsMonitor

/-- Reads one rule of a `check` (a chain of `if violated then some rule else …` ending in `none`):
`simp only [check, ite_some_eq_none]` turns `check s e = none` into the conjunction of the negated conditions. -/
theorem ite_some_eq_none {α : Type} {p : Prop} [Decidable p] {a : α} {b : Option α} :
    (if p then some a else b) = none ↔ ¬p ∧ b = none := by
  split <;> simp_all

/-- For a ledger of which an invariant keeps only the membership fact "`a` is in the list iff the event `f a` that
logs it is in the history" (`g` reads the entry back off an event): one more event keeps that fact when `apply`
conses what `g` reads off it. -/
theorem mem_iff_snoc {α ε : Type} {f : α → ε} {g : ε → Option α} (hg : ∀ e a, g e = some a ↔ f a = e)
    {l l' : List α} {h : List ε} {ev : ε} (hm : ∀ a, a ∈ l ↔ f a ∈ h) (hl : l' = (g ev).toList ++ l) :
    ∀ a, a ∈ l' ↔ f a ∈ h ++ [ev] := by
  intro a
  rw [hl, List.mem_append, Option.mem_toList, hg, hm, List.mem_append, List.mem_singleton, or_comm]

end Proof.Monitor
