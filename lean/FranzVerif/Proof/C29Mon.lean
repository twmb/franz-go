import FranzVerif.Model.C29Client
import FranzVerif.Proof.Monitor
/-! C29 — the write-order monitor `Mon`. `step_batch_eq_some` says once which batches a step accepts and the state each
leaves; the client invariant (`C29Client`), the arrival monitor's soundness (`C29Arrival`) and the readings in `Props/C29`
all go through it. `monRun` gives `Mon.run` the append/split laws of `Proof.Monitor.IsRun` (`Mon` has no separate
`check`/`apply`, so it is not an `IsMonitor`). -/
namespace Proof.C29C
open Model.C29C

/-- The guard both monitors put in front of a batch: first sequence and record count are valid `int32` sequence values. -/
theorem guard_eq_false (f n : Int) :
    (decide (f < 0) || decide (f ≥ seqMod) || decide (n < 1) || decide (n ≥ seqMod)) = false ↔
      0 ≤ f ∧ f < 2147483648 ∧ 1 ≤ n ∧ n < 2147483648 := by
  simp only [seqMod, ge_iff_le, Bool.or_eq_false_iff, decide_eq_false_iff_not]; omega

/-- The three ways `Mon` accepts a batch: it opens a chain (the first batch ever, or the first of a new epoch), it is the
next of the chain, or it is a re-send. -/
theorem step_batch_eq_some {m m' : Mon} {e f n : Int} :
    m.step (.batch e f n) = some m' ↔
      (0 ≤ f ∧ f < 2147483648 ∧ 1 ≤ n ∧ n < 2147483648) ∧
      ((m.started = false ∨ m.started = true ∧ e ≠ m.epoch ∧ m.allow = true ∧ f = 0) ∧
         m' = ⟨true, e, next f n, [(f, n)], false⟩ ∨
       m.started = true ∧ e = m.epoch ∧ f = m.nextSeq ∧
         m' = { m with nextSeq := next f n, chain := (f, n) :: m.chain } ∨
       m.started = true ∧ e = m.epoch ∧ f ≠ m.nextSeq ∧ (f, n) ∈ m.chain ∧ m' = m) := by
  rw [← guard_eq_false]
  cases hr : (decide (f < 0) || decide (f ≥ seqMod) || decide (n < 1) || decide (n ≥ seqMod))
  · simp only [Mon.step, hr, true_and]
    cases m.started
    · simp [eq_comm (b := m')]
    · by_cases he : e = m.epoch
      · by_cases hf : f = m.nextSeq <;> simp [he, hf, eq_comm (b := m')]
      · by_cases hf : f = 0 <;> simp [he, hf, eq_comm (b := m')]
  · simp [Mon.step, hr]

theorem monRun : Proof.Monitor.IsRun Mon.step Mon.run :=
  ⟨fun _ => rfl, fun m ev es => by rw [Mon.run]; cases m.step ev <;> rfl⟩

end Proof.C29C
