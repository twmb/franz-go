import FranzVerif.Model.C23
import FranzVerif.Proof.ListFacts
/-! `shardBy` is a fold of `addTo` (`shardBy_keeps`), and each `addTo` keeps three invariants: the items are those seen so
far (`allItems_addTo`), every bucket is non-empty and holds items of its own destination (`Consistent`), destinations are
distinct unless one-per-occurrence (`DistinctDests`). `node` names what `issue` does with one bucket, so that a step of
`issue` is a `flatMap` of `node` over the buckets (`issue_succ`) and `node_cases` says what one bucket becomes. Statements
about each returned shard go by `issue_leaf_induction`, whose four rules are the four ways a leaf arises; the two about
all shards together (`issue_perm`, `issue_disj`) are inductions on the retry budget of their own. -/
namespace Proof.C23
open Model.C23 List

set_option linter.unusedSectionVars false
variable {ι δ Λ : Type} [DecidableEq δ]

theorem allItems_nil : allItems ([] : List (Shard ι δ)) = [] := rfl

theorem allItems_cons (s : Shard ι δ) (ss : List (Shard ι δ)) : allItems (s :: ss) = s.items ++ allItems ss := by
  simp [allItems]

theorem allItems_append (a b : List (Shard ι δ)) : allItems (a ++ b) = allItems a ++ allItems b := by
  simp [allItems]

theorem allItems_flatMap (ss : List (Shard ι δ)) (f : Shard ι δ → List (Shard ι δ)) :
    allItems (ss.flatMap f) = ss.flatMap (fun s => allItems (f s)) := by
  simp [allItems, List.flatMap_assoc]

theorem merged_err_perm (isErr : δ → Bool) (ss : List (Shard ι δ)) :
    mergedItems isErr ss ++ errItems isErr ss ~ allItems ss := by
  unfold mergedItems errItems
  rw [← allItems_append]
  unfold allItems
  refine List.Perm.flatMap_right _ ?_
  have := List.filter_append_perm (fun s => !isErr s.dest) ss
  simpa using this

section Buckets
variable (solo : δ → Bool) (place : ι → δ)

theorem allItems_addTo (d : δ) (x : ι) (ss : List (Shard ι δ)) :
    allItems (addTo solo d x ss) ~ allItems ss ++ [x] := by
  induction ss with
  | nil => simp [addTo, allItems]
  | cons s rest ih =>
    unfold addTo
    split
    · simp only [allItems_cons, List.append_assoc]
      exact (perm_append_left_iff _).2 perm_append_comm
    · simp only [allItems_cons, List.append_assoc]
      exact (perm_append_left_iff _).2 ih

/-- What holds of no items and no buckets and `addTo` keeps, holds of `items` and `shardBy … items`. -/
theorem shardBy_keeps (P : List ι → List (Shard ι δ) → Prop) (h0 : P [] [])
    (hadd : ∀ x seen ss, P seen ss → P (seen ++ [x]) (addTo solo (place x) x ss)) (items : List ι) :
    P items (shardBy solo place items) := by
  suffices ∀ seen acc, P seen acc → P (seen ++ items) (items.foldl (fun acc x => addTo solo (place x) x acc) acc) from
    this [] [] h0
  induction items with
  | nil => exact fun seen acc h => by rwa [List.append_nil]
  | cons x xs ih => exact fun seen acc h => by rw [List.append_cons]; exact ih _ _ (hadd x seen acc h)

theorem shardBy_perm (items : List ι) :
    allItems (shardBy solo place items) ~ items :=
  shardBy_keeps solo place (fun seen ss => allItems ss ~ seen) (.refl _)
    (fun x _ ss h => (allItems_addTo solo (place x) x ss).trans (h.append_right [x])) items

/-- Bucket invariant: every item sits in the bucket of its own destination, and no bucket is empty. -/
def Consistent (place : ι → δ) (ss : List (Shard ι δ)) : Prop :=
  ∀ s ∈ ss, s.items ≠ [] ∧ ∀ y ∈ s.items, place y = s.dest

theorem consistent_addTo (x : ι) (ss : List (Shard ι δ)) (h : Consistent place ss) :
    Consistent place (addTo solo (place x) x ss) := by
  induction ss with
  | nil =>
    intro s hs
    simp [addTo] at hs
    subst hs
    simp
  | cons s rest ih =>
    have hrest : Consistent place rest := fun t ht => h t (List.mem_cons_of_mem _ ht)
    have hs := h s (List.mem_cons_self)
    unfold addTo
    split
    · rename_i hc
      intro t ht
      rcases List.mem_cons.1 ht with rfl | ht
      · refine ⟨by simp, ?_⟩
        intro y hy
        rcases List.mem_append.1 hy with hy | hy
        · exact hs.2 y hy
        · simp at hy; subst hy; exact hc.1.symm
      · exact hrest t ht
    · intro t ht
      rcases List.mem_cons.1 ht with rfl | ht
      · exact hs
      · exact ih hrest t ht

theorem shardBy_consistent (items : List ι) :
    Consistent place (shardBy solo place items) :=
  shardBy_keeps solo place (fun _ => Consistent place) (fun _ h => nomatch h) (fun x _ => consistent_addTo solo place x) items

theorem shardBy_subset (items : List ι) (s : Shard ι δ)
    (hs : s ∈ shardBy solo place items) : ∀ y ∈ s.items, y ∈ items := by
  intro y hy
  refine (shardBy_perm solo place items).mem_iff.1 ?_
  exact List.mem_flatMap.2 ⟨s, hs, hy⟩

theorem shardBy_empty_items (items : List ι)
    (h : (shardBy solo place items).isEmpty = true) : items = [] := by
  have hp := shardBy_perm solo place items
  rw [List.isEmpty_iff.1 h] at hp
  exact (List.nil_perm.1 hp)

/-- Bucket destinations are distinct unless one-per-occurrence. -/
def DistinctDests (solo : δ → Bool) (ss : List (Shard ι δ)) : Prop :=
  ss.Pairwise (fun a b => a.dest ≠ b.dest ∨ solo a.dest = true)

theorem dests_addTo (d : δ) (x : ι) (ss : List (Shard ι δ)) (s : Shard ι δ)
    (hs : s ∈ addTo solo d x ss) : s.dest = d ∨ ∃ t ∈ ss, t.dest = s.dest := by
  induction ss with
  | nil => simp [addTo] at hs; subst hs; exact Or.inl rfl
  | cons t rest ih =>
    unfold addTo at hs
    split at hs
    · rcases List.mem_cons.1 hs with rfl | hs
      · exact Or.inr ⟨t, List.mem_cons_self, rfl⟩
      · exact Or.inr ⟨s, List.mem_cons_of_mem _ hs, rfl⟩
    · rcases List.mem_cons.1 hs with rfl | hs
      · exact Or.inr ⟨s, List.mem_cons_self, rfl⟩
      · rcases ih hs with h | ⟨u, hu, hud⟩
        · exact Or.inl h
        · exact Or.inr ⟨u, List.mem_cons_of_mem _ hu, hud⟩

theorem distinct_addTo (d : δ) (x : ι) (ss : List (Shard ι δ)) (h : DistinctDests solo ss) :
    DistinctDests solo (addTo solo d x ss) := by
  induction ss with
  | nil => simp [addTo, DistinctDests]
  | cons s rest ih =>
    have hrest : DistinctDests solo rest := (List.pairwise_cons.1 h).2
    have hs := (List.pairwise_cons.1 h).1
    unfold addTo
    split
    · exact List.pairwise_cons.2 ⟨fun b hb => hs b hb, hrest⟩
    · rename_i hc
      refine List.pairwise_cons.2 ⟨?_, ih hrest⟩
      intro b hb
      rcases dests_addTo solo d x rest b hb with hbd | ⟨u, hu, hud⟩
      · by_cases hsd : s.dest = d
        · have hsolo : solo d = true := by
            cases hso : solo d with
            | true => rfl
            | false => exact absurd ⟨hsd, hso⟩ hc
          exact Or.inr (hsd ▸ hsolo)
        · exact Or.inl (fun e => hsd (e.trans hbd))
      · rcases hs u hu with h1 | h1
        · exact Or.inl (fun e => h1 (e.trans hud.symm))
        · exact Or.inr h1

theorem shardBy_distinct (items : List ι) :
    DistinctDests solo (shardBy solo place items) :=
  shardBy_keeps solo place (fun _ => DistinctDests solo) .nil (fun x _ => distinct_addTo solo (place x) x) items

/-- No item of `a` is in `b`: the relation `Props.C23.no_item_in_two_shards` states pairwise of the returned shards. -/
def Disj (a b : Shard ι δ) : Prop := ∀ x, x ∈ a.items → x ∉ b.items

theorem shardBy_disj_nosolo (items : List ι) (hsolo : ∀ d, solo d = false) :
    (shardBy solo place items).Pairwise Disj := by
  have hc := shardBy_consistent solo place items
  have hd := shardBy_distinct solo place items
  have : ∀ a ∈ shardBy solo place items, ∀ b ∈ shardBy solo place items,
      (a.dest ≠ b.dest ∨ solo a.dest = true) → Disj a b := by
    intro a ha b hb hab x hxa hxb
    rcases hab with h | h
    · exact h (((hc a ha).2 x hxa).symm.trans ((hc b hb).2 x hxb))
    · rw [hsolo] at h; cases h
  exact List.Pairwise.imp_of_mem (fun {a b} ha hb h => this a ha b hb h) hd

theorem disj_of_nodup (ss : List (Shard ι δ)) (h : (allItems ss).Nodup) : ss.Pairwise Disj :=
  (List.pairwise_flatMap.1 h).2.imp fun h x hxa hxb => h x hxa x hxb rfl

end Buckets

section Issue
variable (k : Kind ι δ Λ) (oracle : Nat → δ → List ι → Choice Λ δ)


/-- What `issue` does with one bucket when `fuel` retries are left after this attempt. -/
def node (k : Kind ι δ Λ) (oracle : Nat → δ → List ι → Choice Λ δ) (fuel tries : Nat) (s : Shard ι δ) : List (Shard ι δ) :=
  if k.isErr s.dest then [s] else
  match oracle tries s.dest s.items with
  | .final => [s]
  | .reshard lay' => issue k oracle fuel (tries + 1) lay' s.items
  | .reshardFails e => [⟨e, s.items⟩]

theorem issue_zero (tries : Nat) (lay : Λ) (items : List ι) :
    issue k oracle 0 tries lay items =
      if (shardBy k.solo (k.place lay) items).isEmpty then [⟨k.anyDest, items⟩] else shardBy k.solo (k.place lay) items := rfl

theorem issue_succ (fuel tries : Nat) (lay : Λ) (items : List ι) :
    issue k oracle (fuel + 1) tries lay items =
      if (shardBy k.solo (k.place lay) items).isEmpty then [⟨k.anyDest, items⟩]
      else (shardBy k.solo (k.place lay) items).flatMap (node k oracle fuel tries) := rfl

/-- What `node` can be: one shard with the bucket's items — the bucket itself (an error bucket, or a final attempt), or
the error shard of a renewed sharding that failed wholesale — or the leaves of the bucket's re-split under the layout the
oracle gives. -/
theorem node_cases (fuel tries : Nat) (s : Shard ι δ) :
    (∃ d, (d = s.dest ∨ oracle tries s.dest s.items = .reshardFails d) ∧ node k oracle fuel tries s = [⟨d, s.items⟩]) ∨
    ∃ lay', node k oracle fuel tries s = issue k oracle fuel (tries + 1) lay' s.items := by
  unfold node
  split
  · exact .inl ⟨_, .inl rfl, rfl⟩
  · split
    · exact .inl ⟨_, .inl rfl, rfl⟩
    · exact .inr ⟨_, rfl⟩
    · exact .inl ⟨_, .inr ‹_›, rfl⟩

theorem issue_perm :
    ∀ (fuel tries : Nat) (lay : Λ) (items : List ι), allItems (issue k oracle fuel tries lay items) ~ items := by
  intro fuel
  induction fuel with
  | zero =>
    intro tries lay items
    rw [issue_zero]
    split
    · simp [allItems]
    · exact shardBy_perm _ _ _
  | succ fuel ih =>
    intro tries lay items
    rw [issue_succ]
    split
    · simp [allItems]
    · rw [allItems_flatMap]
      have hsp : (shardBy k.solo (k.place lay) items).flatMap (fun s => s.items) ~ items := shardBy_perm k.solo (k.place lay) items
      refine (perm_flatMap ?_).trans hsp
      intro s _
      rcases node_cases k oracle fuel tries s with ⟨d, -, h⟩ | ⟨lay', h⟩ <;> rw [h]
      · simp [allItems]
      · exact ih _ _ _

theorem node_subset (fuel tries : Nat) (s l : Shard ι δ)
    (hl : l ∈ node k oracle fuel tries s) : ∀ y ∈ l.items, y ∈ s.items := by
  intro y hy
  rcases node_cases k oracle fuel tries s with ⟨d, -, h⟩ | ⟨lay', h⟩ <;> rw [h] at hl
  · rw [List.mem_singleton.1 hl] at hy; exact hy
  · exact (issue_perm k oracle fuel (tries + 1) lay' s.items).mem_iff.1 (List.mem_flatMap.2 ⟨l, hl, hy⟩)

/-- How the leaves of `issue` arise: the any-broker shard of an empty request, a bucket of some sharding, the error
shard of a renewed sharding that failed wholesale, or a leaf of the re-split of a bucket. `hany` is handed the layout of
the call that produced the any-broker shard: a `Q` that asks for some layout (`Props.C23.shard_items_belong_to_the_shard_destination`)
has no other witness, `Λ` being arbitrary. -/
theorem issue_leaf_induction {Q : List ι → Shard ι δ → Prop}
    (hany : Λ → Q [] ⟨k.anyDest, []⟩)
    (hbucket : ∀ lay items, ∀ s ∈ shardBy k.solo (k.place lay) items, Q items s)
    (hfail : ∀ lay items, ∀ s ∈ shardBy k.solo (k.place lay) items, ∀ t e,
      oracle t s.dest s.items = .reshardFails e → Q items ⟨e, s.items⟩)
    (hdeep : ∀ lay items, ∀ s ∈ shardBy k.solo (k.place lay) items, ∀ l, Q s.items l → Q items l) :
    ∀ (fuel tries : Nat) (lay : Λ) (items : List ι), ∀ l ∈ issue k oracle fuel tries lay items, Q items l := by
  have hempty : ∀ (lay : Λ) (items : List ι) l, (shardBy k.solo (k.place lay) items).isEmpty = true →
      l ∈ [(⟨k.anyDest, items⟩ : Shard ι δ)] → Q items l := by
    intro lay items l he hl
    rw [shardBy_empty_items _ _ _ he] at hl ⊢
    rw [List.mem_singleton.1 hl]
    exact hany lay
  intro fuel
  induction fuel with
  | zero =>
    intro tries lay items l hl
    rw [issue_zero] at hl
    split at hl
    · exact hempty lay items l ‹_› hl
    · exact hbucket lay items l hl
  | succ fuel ih =>
    intro tries lay items l hl
    rw [issue_succ] at hl
    split at hl
    · exact hempty lay items l ‹_› hl
    · obtain ⟨s, hs, hls⟩ := List.mem_flatMap.1 hl
      rcases node_cases k oracle fuel tries s with ⟨d, hd | hd, h⟩ | ⟨lay', h⟩ <;> rw [h] at hls
      · rw [List.mem_singleton.1 hls, hd]; exact hbucket lay items s hs
      · rw [List.mem_singleton.1 hls]; exact hfail lay items s hs tries d hd
      · exact hdeep lay items s hs l (ih _ _ _ l hls)

/-- The last hypothesis is `AllMappable` under every layout of the type `Λ` (which stands for the layouts the client may believe in). -/
theorem issue_no_err (hany : k.isErr k.anyDest = false) (hor : ∀ t d is e, oracle t d is ≠ .reshardFails e) :
    ∀ (fuel tries : Nat) (lay : Λ) (items : List ι), ∀ l ∈ issue k oracle fuel tries lay items,
      (∀ lay' x, x ∈ items → k.isErr (k.place lay' x) = false) → k.isErr l.dest = false := by
  refine issue_leaf_induction k oracle (fun _ _ => hany) ?_ (fun _ _ _ _ _ _ he => absurd he (hor _ _ _ _)) ?_
  · intro lay items s hs hmap
    obtain ⟨hne, hc⟩ := shardBy_consistent k.solo (k.place lay) items s hs
    match hsi : s.items with
    | [] => exact absurd hsi hne
    | y :: _ =>
      have hy : y ∈ s.items := by rw [hsi]; exact List.mem_cons_self
      rw [← hc y hy]
      exact hmap lay y (shardBy_subset _ _ _ s hs y hy)
  · intro lay items s hs l h hmap
    exact h fun lay' x hx => hmap lay' x (shardBy_subset _ _ _ s hs x hx)

/-- Shards of different buckets stay apart because a bucket's shards hold items of that bucket only (`node_subset`). -/
theorem issue_disj (hsolo : ∀ d, k.solo d = false) :
    ∀ (fuel tries : Nat) (lay : Λ) (items : List ι), (issue k oracle fuel tries lay items).Pairwise Disj := by
  intro fuel
  induction fuel with
  | zero =>
    intro tries lay items
    rw [issue_zero]
    split
    · simp
    · exact shardBy_disj_nosolo _ _ _ hsolo
  | succ fuel ih =>
    intro tries lay items
    rw [issue_succ]
    split
    · simp
    · rw [List.pairwise_flatMap]
      refine ⟨?_, ?_⟩
      · intro s hs
        rcases node_cases k oracle fuel tries s with ⟨d, -, h⟩ | ⟨lay', h⟩ <;> rw [h]
        · simp
        · exact ih _ _ _
      · refine (shardBy_disj_nosolo _ _ _ hsolo).imp ?_
        intro a b hab x hx y hy z hzx hzy
        exact hab z (node_subset k oracle fuel tries a x hx z hzx) (node_subset k oracle fuel tries b y hy z hzy)

end Issue

end Proof.C23
