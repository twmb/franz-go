import FranzVerif.Proof.C36
import FranzVerif.Proof.ListFacts
/-! C36 — the `Serde` registry. `Register` replaces the data of exactly one node of the id tree (`walk_insertPath`) and can only
raise the `subindexDepth` of the root it goes through (`depth_insertPath`). Hence a registry built from valid registrations
keeps `Inv`: every entry of the type map sits at its own `(id, index)` node, and every registered path is at most as long as the
`subindexDepth` of its root, which is the `maxLength` `decodeFind` hands to `DecodeIndex`. The round trip (`roundtrip`) follows
the encoder's entry back along that path; `Consistent` keeps `decodeFind` from reading a plain payload as an index. -/
namespace Proof.C36
open Model.C36

theorem mget_mset_same (m : Map) (k : Int) (v : Node) : mget (mset m k v) k = v := by
  simp [mget, mset]

theorem mget_mset_ne (m : Map) (k k' : Int) (v : Node) (h : k' ≠ k) : mget (mset m k v) k' = mget m k' := by
  have : (k' == k) = false := by simp [h]
  simp [mget, mset, List.lookup, this]

theorem mget_nil (k : Int) : mget [] k = Node.zero := rfl

theorem walk_zero (q : List Int) : walk Node.zero q = Node.zero := by
  induction q with
  | nil => rfl
  | cons i q ih => exact ih

theorem sub_nonempty_of_exists (t : Node) (i : Int) (q : List Int) (h : (walk t (i :: q)).d.exists_ = true) :
    t.sub.isEmpty = false := by
  cases hs : t.sub with
  | cons _ _ => rfl
  | nil =>
    rw [walk, hs, mget_nil, walk_zero] at h
    cases h

theorem walk_insertPath (index : List Int) : ∀ (m : Map) (k : Int) (depth : Nat) (d : Data) (k' : Int) (q : List Int),
    (walk (mget (insertPath m k index depth d) k') q).d =
      if k' :: q = k :: index then d else (walk (mget m k') q).d := by
  induction index with
  | nil =>
    intro m k depth d k' q
    unfold insertPath
    by_cases hk : k' = k
    · subst hk
      rw [mget_mset_same]
      cases q with
      | nil => simp [walk, Node.d]
      | cons i q' => simp [walk, Node.sub]
    · rw [mget_mset_ne _ _ _ _ hk]; simp [hk]
  | cons idx rest ih =>
    intro m k depth d k' q
    unfold insertPath
    by_cases hk : k' = k
    · subst hk
      rw [mget_mset_same]
      cases q with
      | nil => simp [walk, Node.d]
      | cons i q' =>
        simp only [walk, Node.sub]
        rw [ih]
        simp
    · rw [mget_mset_ne _ _ _ _ hk]; simp [hk]

theorem depth_insertPath (index : List Int) (m : Map) (k : Int) (depth : Nat) (d : Data) (k' : Int) :
    (mget (insertPath m k index depth d) k').depth =
      if k' = k ∧ index ≠ [] then max (mget m k').depth depth else (mget m k').depth := by
  by_cases hk : k' = k
  · subst hk
    cases index <;> simp [insertPath, mget_mset_same, Node.depth]
  · cases index <;> simp [insertPath, mget_mset_ne _ _ _ _ hk, hk]

theorem sub_insertPath_nil (m : Map) (k : Int) (depth : Nat) (d : Data) (k' : Int) :
    (mget (insertPath m k [] depth d) k').sub = (mget m k').sub := by
  by_cases hk : k' = k
  · subst hk; simp [insertPath, mget_mset_same, Node.sub]
  · simp [insertPath, mget_mset_ne _ _ _ _ hk]

theorem mget_insertPath_ne (index : List Int) (m : Map) (k : Int) (depth : Nat) (d : Data) (k' : Int) (hk : k' ≠ k) :
    mget (insertPath m k index depth d) k' = mget m k' := by
  cases index <;> simp [insertPath, mget_mset_ne _ _ _ _ hk]

/-- A registration with a schema id, Go-int index entries and an index the runtime can hold. -/
def ValidOp (o : RegOp) : Prop :=
  0 ≤ o.id ∧ o.id < 4294967296 ∧ (∀ v ∈ o.index, I64 v) ∧ o.index.length < 9223372036854775808

structure Inv (s : Reg) : Prop where
  types : ∀ ty t, s.types.lookup ty = some t →
    t.exists_ = true ∧ t.ty = ty ∧ (walk (mget s.ids t.id32) t.index).d = t ∧ 0 ≤ t.id32 ∧ t.id32 < 4294967296 ∧
    (∀ v ∈ t.index, I64 v) ∧ t.index.length < 9223372036854775808
  depth : ∀ k q, (walk (mget s.ids k) q).d.exists_ = true → q.length ≤ (mget s.ids k).depth

theorem inv_empty : Inv {} := by
  refine ⟨by intro ty t h; simp at h, ?_⟩
  intro k q h; rw [mget_nil, walk_zero] at h; cases h

theorem inv_register (s : Reg) (o : RegOp) (hs : Inv s) (ho : ValidOp o) : Inv (register s o) := by
  obtain ⟨h0, h1, hI, hL⟩ := ho
  have hid : o.id % 4294967296 = o.id := by omega
  refine ⟨?_, ?_⟩
  · intro ty t ht
    simp only [register, List.lookup_cons] at ht ⊢
    rw [walk_insertPath]
    by_cases hty : ty = o.ty
    · subst hty
      simp only [beq_self_eq_true, Option.some.injEq] at ht
      subst ht
      rw [hid]
      exact ⟨rfl, rfl, if_pos rfl, h0, h1, hI, hL⟩
    · simp only [beq_false_of_ne hty] at ht
      -- the mapping survived the deletion of the displaced type
      have hold : s.types.lookup ty = some t ∧
          ((walk (mget s.ids o.id) o.index).d.exists_ = true → ty ≠ (walk (mget s.ids o.id) o.index).d.ty) := by
        split at ht
        · rw [List.lookup_filter (· != _)] at ht
          split at ht
          · next hq => exact ⟨ht, fun _ => bne_iff_ne.1 hq⟩
          · cases ht
        · next hex => exact ⟨ht, fun h => absurd h hex⟩
      obtain ⟨e1, e2, e3, e4⟩ := hs.types ty t hold.1
      refine ⟨e1, e2, ?_, e4⟩
      rw [if_neg, e3]
      -- the displaced registration is not `t`: its type lost its mapping
      intro hp
      obtain ⟨hp1, hp2⟩ := List.cons.inj hp
      rw [hp1, hp2] at e3
      exact hold.2 (by rw [e3]; exact e1) (by rw [e3]; exact e2.symm)
  · intro k q hq
    simp only [register] at hq ⊢
    rw [walk_insertPath] at hq
    rw [depth_insertPath]
    by_cases hp : k :: q = o.id :: o.index
    · obtain ⟨rfl, rfl⟩ := List.cons.inj hp
      by_cases hn : o.index = []
      · simp [hn]
      · simp only [hn, ne_eq, not_false_eq_true, and_self, if_true]; omega
    · rw [if_neg hp] at hq
      have := hs.depth k q hq
      split <;> omega

theorem inv_build (ops : List RegOp) (hv : ∀ o ∈ ops, ValidOp o) : Inv (build ops) := by
  suffices ∀ s, Inv s → Inv (ops.foldl register s) from this {} inv_empty
  induction ops with
  | nil => intro s hs; exact hs
  | cons o os ih =>
    intro s hs
    exact ih (fun o' ho' => hv o' (by simp [ho'])) _ (inv_register s o hs (hv o (by simp)))

theorem findWalk_of_exists (q : List Int) : ∀ t : Node, (walk t q).d.exists_ = true → findWalk t q = .ok (walk t q) := by
  induction q with
  | nil => intro t _; rfl
  | cons i q ih =>
    intro t h
    simp only [findWalk, walk, sub_nonempty_of_exists t i q h, Bool.false_eq_true, if_false]
    exact ih _ h

theorem findWalk_no_panic (q : List Int) : ∀ t : Node, findWalk t q ≠ .panic := by
  induction q with
  | nil => intro t; simp [findWalk]
  | cons i q ih =>
    intro t
    simp only [findWalk]
    split
    · simp
    · exact ih _

theorem finish_no_panic (t : Node) (b : Bytes) : finish t b ≠ .panic := by
  unfold finish; split <;> simp

theorem mget_foldl_unregistered (ops : List RegOp) (id : Int) : ∀ s : Reg, (∀ o ∈ ops, o.id ≠ id) →
    mget (ops.foldl register s).ids id = mget s.ids id := by
  induction ops with
  | nil => intro s _; rfl
  | cons o os ih =>
    intro s h
    simp only [List.foldl_cons]
    rw [ih _ (fun o' ho' => h o' (by simp [ho']))]
    simp only [register]
    exact mget_insertPath_ne _ _ _ _ _ _ (fun e => h o (by simp) e.symm)

/-- An id is registered either with or without message indexes: no root node both holds a registration and
has a subindex tree (decidable: a finite check over the stored root keys). -/
def Consistent (s : Reg) : Bool :=
  s.ids.all fun p => !(mget s.ids p.1).d.exists_ || (mget s.ids p.1).sub.isEmpty

theorem consistent_root (s : Reg) (hc : Consistent s = true) (id : Int) (hex : (mget s.ids id).d.exists_ = true) :
    (mget s.ids id).sub.isEmpty = true := by
  cases hl : s.ids.lookup id with
  | none => rw [mget, hl] at hex; cases hex
  | some v =>
    obtain ⟨p, hp, e⟩ := List.lookup_isSome_iff.mp (by rw [hl]; rfl)
    have := List.all_eq_true.mp hc p hp
    rw [← eq_of_beq e] at this
    simpa [hex] using this

theorem encode_ok (s : Reg) (pre : Bytes) (ty : Nat) (payload out : Bytes) (he : encode s pre ty payload = .ok out) :
    ∃ t, s.types.lookup ty = some t ∧ t.enc = true ∧ out = appendEncode pre t.id32 t.index ++ payload := by
  unfold encode at he
  split at he
  · cases he
  · next t hl =>
    cases henc : t.enc with
    | false => simp [henc] at he
    | true =>
      simp only [henc, Bool.not_true, Bool.false_eq_true, if_false, Out.ok.injEq] at he
      exact ⟨t, hl, henc, he.symm⟩

theorem roundtrip (s : Reg) (hs : Inv s) (hc : Consistent s = true) (ty : Nat) (payload out : Bytes)
    (he : encode s [] ty payload = .ok out) :
    ∃ t, s.types.lookup ty = some t ∧ t.ty = ty ∧ out = Spec.C36.wireHeader t.id32 t.index ++ payload ∧
      decodeFind s out = if t.dec then .ok (t, payload) else .err .notRegistered := by
  obtain ⟨t, hl, _, rfl⟩ := encode_ok s [] ty payload out he
  obtain ⟨e1, e2, e3, e4, e5, e6, e8⟩ := hs.types ty t hl
  have hex : (walk (mget s.ids t.id32) t.index).d.exists_ = true := by rw [e3]; exact e1
  have hfin : ∀ b, finish (walk (mget s.ids t.id32) t.index) b =
      if t.dec then .ok (t, b) else .err .notRegistered := by
    intro b; rw [finish, e3, e1]; cases t.dec <;> rfl
  refine ⟨t, hl, e2, ?_, ?_⟩
  · rw [wire_of_appendEncode [] _ e4 e5]; rfl
  · unfold decodeFind
    rw [decodeID_appendEncode _ e4 e5]
    simp only
    cases hidx : t.index with
    | nil =>
      rw [hidx] at hex hfin
      simp only [consistent_root s hc _ hex, Bool.not_true, Bool.false_eq_true, if_false, encodeIndex,
        List.isEmpty_nil, if_true, List.nil_append]
      exact hfin payload
    | cons i q =>
      have hd := hs.depth _ _ hex
      have hdec := decodeIndex_encoded t.index (mget s.ids t.id32).depth payload (by simp [hidx]) e6 e8
        (Or.inr (by omega))
      rw [← hidx]
      simp only [sub_nonempty_of_exists _ i q (hidx ▸ hex), Bool.not_false, if_true, hdec,
        findWalk_of_exists _ _ hex]
      exact hfin payload

end Proof.C36
