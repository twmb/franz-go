import FranzVerif.Model.C17
import FranzVerif.Proof.C17Spec
/-! C17 — zig-zag: the Go expressions `(i << 1) ^ (i >> 31)` and `(u >> 1) ^ -(u & 1)` compute the
Spec's integer zig-zag maps (`Spec.C17.zz` / `unzz`) on every 32/64-bit value; hence they are inverse
bijections (`unzz_zz`, `zz_unzz` of `C17Spec`, carried over through `toInt` / `toNat`). Proved once at width `w + 1`. -/
namespace Proof.C17
open Model.C17
open Spec.C17 hiding Bytes

/-- `(i << 1) ^ (i >> w)` with an arithmetic shift, on `w + 1` bits: the sign bit smeared over the word
is 0 or all ones, and xor with all ones is complement -/
theorem zigzag_spec {w : Nat} (i : BitVec (w + 1)) : ((i <<< 1) ^^^ i.sshiftRight w).toNat = zz i.toInt := by
  have hi := i.isLt
  have hp : 2 ^ (w + 1) = 2 * 2 ^ w := Nat.pow_succ'
  have hm := BitVec.msb_eq_decide i
  rw [Nat.add_sub_cancel] at hm
  have hs : (i <<< 1).toNat = 2 * i.toNat % 2 ^ (w + 1) := by
    rw [BitVec.toNat_shiftLeft, Nat.shiftLeft_eq, Nat.pow_one, Nat.mul_comm]
  unfold zz
  rw [BitVec.toInt_eq_toNat_cond]
  by_cases h : i.toNat < 2 ^ w
  · have h0 : i >>> w = 0#(w + 1) := BitVec.eq_of_toNat_eq (by
      rw [BitVec.toNat_ushiftRight, Nat.shiftRight_eq_div_pow, Nat.div_eq_of_lt h]; rfl)
    rw [BitVec.sshiftRight_eq_of_msb_false (by rw [hm]; exact decide_eq_false (by omega)), h0, BitVec.xor_zero, hs,
      Nat.mod_eq_of_lt (by omega), if_pos (by omega), if_pos (by omega)]
    omega
  · have h0 : ~~~i >>> w = 0#(w + 1) := BitVec.eq_of_toNat_eq (by
      rw [BitVec.toNat_ushiftRight, Nat.shiftRight_eq_div_pow, BitVec.toNat_not, Nat.div_eq_of_lt (by omega)]; rfl)
    rw [BitVec.sshiftRight_eq_of_msb_true (by rw [hm]; exact decide_eq_true (by omega)), h0, BitVec.not_zero,
      BitVec.xor_allOnes, BitVec.toNat_not, hs, Nat.mod_eq_sub_mod (by omega), Nat.mod_eq_of_lt (by omega),
      if_neg (by omega), if_neg (by omega)]
    omega

theorem unzigzag_spec {w : Nat} (u : BitVec (w + 1)) : ((u >>> 1) ^^^ -(u &&& 1#(w + 1))).toInt = unzz u.toNat := by
  have hu := u.isLt
  have hp : 2 ^ (w + 1) = 2 * 2 ^ w := Nat.pow_succ'
  have h1 : (1#(w + 1)).toNat = 1 := Nat.mod_eq_of_lt (by omega)
  have hand : (u &&& 1#(w + 1)).toNat = u.toNat % 2 := by rw [BitVec.toNat_and, h1, Nat.and_one_is_mod]
  have hsh : (u >>> 1).toNat = u.toNat / 2 := by rw [BitVec.toNat_ushiftRight, Nat.shiftRight_eq_div_pow, Nat.pow_one]
  unfold unzz
  rw [BitVec.toInt_eq_toNat_cond]
  by_cases h : u.toNat % 2 = 0
  · have h0 : u &&& 1#(w + 1) = 0#(w + 1) := BitVec.eq_of_toNat_eq (by rw [hand, h]; rfl)
    rw [h0, BitVec.neg_zero, BitVec.xor_zero, hsh, if_pos h, if_pos (by omega)]
  · have h0 : u &&& 1#(w + 1) = 1#(w + 1) := BitVec.eq_of_toNat_eq (by rw [hand, h1]; omega)
    rw [h0, BitVec.neg_one_eq_allOnes, BitVec.xor_allOnes, BitVec.toNat_not, hsh, if_neg h, if_neg (by omega)]
    omega
theorem unzigzag_zigzag {w : Nat} (i : BitVec (w + 1)) :
    (((i <<< 1) ^^^ i.sshiftRight w) >>> 1) ^^^ -(((i <<< 1) ^^^ i.sshiftRight w) &&& 1#(w + 1)) = i := by
  apply BitVec.eq_of_toInt_eq
  rw [unzigzag_spec, zigzag_spec, unzz_zz]

theorem zigzag_unzigzag {w : Nat} (u : BitVec (w + 1)) :
    (((u >>> 1) ^^^ -(u &&& 1#(w + 1))) <<< 1) ^^^ ((u >>> 1) ^^^ -(u &&& 1#(w + 1))).sshiftRight w = u := by
  apply BitVec.eq_of_toNat_eq
  rw [zigzag_spec, unzigzag_spec, zz_unzz]

theorem unzigzag32_spec (u : BitVec 32) : (unzigzag32 u).toInt = unzz u.toNat := unzigzag_spec (w := 31) u
theorem unzigzag64_spec (u : BitVec 64) : (unzigzag64 u).toInt = unzz u.toNat := unzigzag_spec (w := 63) u
theorem unzigzag32_ofNat {v : Nat} (hv : v < 2 ^ 32) : (unzigzag32 (BitVec.ofNat 32 v)).toInt = unzz v := by
  rw [unzigzag32_spec, BitVec.toNat_ofNat, Nat.mod_eq_of_lt hv]
theorem unzigzag64_ofNat {v : Nat} (hv : v < 2 ^ 64) : (unzigzag64 (BitVec.ofNat 64 v)).toInt = unzz v := by
  rw [unzigzag64_spec, BitVec.toNat_ofNat, Nat.mod_eq_of_lt hv]
theorem unzigzag32_zigzag32 (i : BitVec 32) : unzigzag32 (zigzag32 i) = i := unzigzag_zigzag (w := 31) i
theorem unzigzag64_zigzag64 (i : BitVec 64) : unzigzag64 (zigzag64 i) = i := unzigzag_zigzag (w := 63) i

end Proof.C17
