import FranzVerif.Model.Group
import FranzVerif.Proof.Monitor
/-! History-level observables for the consumer-group monitor: what a history shows of callbacks completed and in
progress (C07, used in `Proof/GroupOwn.lean`) and of records processed and offsets committed (C08, used in
`Proof/GroupCommit.lean`). -/
namespace Proof.Group
open Model.Group

/-- The next revoked/lost callback event of `m` in `h` is the end of a callback (and not the start of
another one): the callback of `m` that is in progress where `h` begins completes in `h`. The monitor does not
record whether a callback in progress is a revoked or a lost one, so either end event completes it. -/
def completes (m : Mem) : List Ev → Bool
  | [] => false
  | .revokeStart m' _ :: rest => if m' = m then false else completes m rest
  | .lostStart m' _ :: rest => if m' = m then false else completes m rest
  | .revokeEnd m' :: rest => if m' = m then true else completes m rest
  | .lostEnd m' :: rest => if m' = m then true else completes m rest
  | _ :: rest => completes m rest

/-- `m` released partition `p` somewhere in `h`: a revoked or lost callback of `m` that listed `p` completed. -/
def released (m : Mem) (p : Nat) : List Ev → Bool
  | [] => false
  | .revokeStart m' ps :: rest => (m' == m && ps.contains p && completes m rest) || released m p rest
  | .lostStart m' ps :: rest => (m' == m && ps.contains p && completes m rest) || released m p rest
  | _ :: rest => released m p rest

/-- one step of `inProgress` -/
def progStep (m : Mem) (acc : Option (List Nat)) : Ev → Option (List Nat)
  | .revokeStart m' ps => if m' = m then some ps else acc
  | .lostStart m' ps => if m' = m then some ps else acc
  | .revokeEnd m' => if m' = m then none else acc
  | .lostEnd m' => if m' = m then none else acc
  | _ => acc

/-- the partitions listed by the revoked/lost callback of `m` that is in progress at the end of `h`
(entered and not yet returned), if there is one -/
def inProgress (m : Mem) (h : List Ev) : Option (List Nat) := h.foldl (progStep m) none

/-- next offset of partition `p` covered by polls of `m` that were followed by another poll of `m`, within `h` -/
def processedUpTo (m : Mem) (p : Nat) : List Ev → Nat
  | [] => 0
  | .returned m' p' off _ :: rest =>
    if m' == m && p' == p && rest.any (fun e => e == .pollStart m) then max (off + 1) (processedUpTo m p rest) else processedUpTo m p rest
  | _ :: rest => processedUpTo m p rest

/-- highest offset successfully committed for `p` within `h` (0 if none) -/
def committedUpTo (p : Nat) (h : List Ev) : Nat :=
  (h.filterMap (fun e => match e with | .commit _ p' off true => if p' = p then some off else none | _ => none)).foldl max 0

def producedOf (h : List Ev) : List (Id × Nat × Nat) :=
  h.filterMap (fun e => match e with | .produced i p o => some (i, p, o) | _ => none)
def isIncomplete (h : List Ev) : Bool := h.any (fun e => e == .incomplete)

theorem isMonitor (c : Cfg) : Proof.Monitor.IsMonitor (check c) (apply c) (step c) (run c) :=
  ⟨⟨fun _ => rfl, fun s e es => by rw [run]; cases step c s e <;> rfl⟩, fun s e => by rw [step]; cases check c s e <;> rfl⟩

/-- A commit result touches the committed offsets only. -/
theorem apply_commit (c : Cfg) (s : St) (m : Mem) (part off : Nat) (ok : Bool) :
    ∃ cm, apply c s (.commit m part off ok) = { s with committed := cm } := by
  rw [apply]
  split
  · exact ⟨_, rfl⟩
  · exact ⟨s.committed, rfl⟩

end Proof.Group
