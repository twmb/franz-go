import FranzVerif.Model.Group
import FranzVerif.Proof.Group
/-! C08 half of the consumer-group monitor: the invariant `Inv h s` relating the state reached on an accepted
history `h` to the history-level observables (`processedUpTo`, `committedUpTo`, `producedOf`, `isIncomplete`,
membership of `returned` / `finalCommitted` events), and its preservation by every event (no rule of `check` is needed).
`processedUpTo` looks ahead — a `returned` counts once a `pollStart` of that member follows — so its law for one more event
(`processedUpTo_snoc`) speaks of everything returned so far, `retMax`: see `Inv.pend`. The maxima per member and partition of
the state's `eligible` and `pending` lists are `sel`, an `lmax` over a filtered list. -/
namespace Proof.Group
open Model.Group Proof.Monitor

def lmax (l : List Nat) : Nat := l.foldl max 0

theorem foldl_max_init (l : List Nat) (a : Nat) : l.foldl max a = max a (lmax l) := by
  rw [← Nat.max_zero a, List.foldl_assoc, Nat.max_zero]
  rfl

theorem lmax_nil : lmax [] = 0 := rfl
theorem lmax_cons (x : Nat) (l : List Nat) : lmax (x :: l) = max x (lmax l) := by
  rw [lmax, List.foldl_cons, Nat.zero_max, foldl_max_init]
theorem lmax_append (a b : List Nat) : lmax (a ++ b) = max (lmax a) (lmax b) := by
  rw [lmax, List.foldl_append, foldl_max_init]
  rfl

/-- highest next-offset among the entries of `m` for partition `p` -/
def sel (m : Mem) (p : Nat) (l : List (Mem × Nat × Nat)) : Nat :=
  lmax ((l.filter (fun e => e.1 == m && e.2.1 == p)).map (·.2.2))

theorem eligibleOf_eq (s : St) (m : Mem) (p : Nat) : eligibleOf s m p = sel m p s.eligible :=
  List.foldl_map.symm

theorem sel_nil (m : Mem) (p : Nat) : sel m p [] = 0 := rfl
theorem sel_cons (m : Mem) (p : Nat) (x : Mem × Nat × Nat) (l : List (Mem × Nat × Nat)) :
    sel m p (x :: l) = if x.1 = m ∧ x.2.1 = p then max x.2.2 (sel m p l) else sel m p l := by
  rw [sel, List.filter_cons]
  simp only [Bool.and_eq_true, beq_iff_eq]
  split
  · rw [List.map_cons, lmax_cons]; rfl
  · rfl
theorem sel_append (m : Mem) (p : Nat) (a b : List (Mem × Nat × Nat)) :
    sel m p (a ++ b) = max (sel m p a) (sel m p b) := by
  simp only [sel, List.filter_append, List.map_append, lmax_append]

theorem sel_filter (m : Mem) (p : Nat) (q : Mem → Bool) (l : List (Mem × Nat × Nat)) :
    sel m p (l.filter (fun e => q e.1)) = if q m then sel m p l else 0 := by
  induction l with
  | nil => rw [List.filter_nil, sel_nil, ite_self]
  | cons x l ih =>
    rw [List.filter_cons]
    by_cases hx : x.1 = m ∧ x.2.1 = p
    · rw [hx.1]
      cases hq : q m
      · simpa [hq] using ih
      · simp only [hq, if_true, sel_cons, hx, and_self] at ih ⊢
        rw [ih]
    · split
      · rw [sel_cons, if_neg hx, sel_cons, if_neg hx, ih]
      · rw [sel_cons, if_neg hx, ih]

/-- next offset after a record returned to `m` for `p` -/
def retEv (m : Mem) (p : Nat) : Ev → Option Nat
  | .returned m' p' off _ => if m' = m ∧ p' = p then some (off + 1) else none
  | _ => none
/-- highest next-offset of partition `p` returned to `m` within `h` (followed by another poll or not) -/
def retMax (m : Mem) (p : Nat) (h : List Ev) : Nat := lmax (h.filterMap (retEv m p))
def commitEv (p : Nat) : Ev → Option Nat
  | .commit _ p' off true => if p' = p then some off else none
  | _ => none
def prodEv : Ev → Option (Id × Nat × Nat)
  | .produced i p o => some (i, p, o)
  | _ => none
def returnedEv : Ev → Option (Mem × Nat × Nat × Id)
  | .returned m p o i => some (m, p, o, i)
  | _ => none
def finalEv : Ev → Option (Nat × Int)
  | .finalCommitted p o => some (p, o)
  | _ => none

theorem returnedEv_eq_some (ev : Ev) (r : Mem × Nat × Nat × Id) :
    returnedEv ev = some r ↔ Ev.returned r.1 r.2.1 r.2.2.1 r.2.2.2 = ev := by
  constructor
  · intro h
    cases ev <;> cases h <;> rfl
  · rintro rfl; rfl

theorem finalEv_eq_some (ev : Ev) (f : Nat × Int) : finalEv ev = some f ↔ Ev.finalCommitted f.1 f.2 = ev := by
  constructor
  · intro h
    cases ev <;> cases h <;> rfl
  · rintro rfl; rfl

theorem committedUpTo_eq (p : Nat) (h : List Ev) : committedUpTo p h = lmax (h.filterMap (commitEv p)) := rfl

theorem lmax_snoc (l : List Nat) (o : Option Nat) : lmax (l ++ o.toList) = o.elim (lmax l) (max (lmax l)) := by
  cases o with
  | none => rw [Option.toList_none, List.append_nil]; rfl
  | some x => rw [Option.toList_some, lmax_append, lmax_cons, lmax_nil, Nat.max_zero]; rfl

theorem retMax_snoc (m : Mem) (p : Nat) (h : List Ev) (ev : Ev) :
    retMax m p (h ++ [ev]) = (retEv m p ev).elim (retMax m p h) (max (retMax m p h)) := by
  rw [retMax, List.filterMap_snoc, lmax_snoc]; rfl
theorem committedUpTo_snoc (p : Nat) (h : List Ev) (ev : Ev) :
    committedUpTo p (h ++ [ev]) = (commitEv p ev).elim (committedUpTo p h) (max (committedUpTo p h)) := by
  rw [committedUpTo_eq, List.filterMap_snoc, lmax_snoc]; rfl
theorem producedOf_snoc (h : List Ev) (ev : Ev) : producedOf (h ++ [ev]) = producedOf h ++ (prodEv ev).toList :=
  List.filterMap_snoc prodEv h ev
theorem isIncomplete_snoc (h : List Ev) (ev : Ev) : isIncomplete (h ++ [ev]) = (isIncomplete h || ev == .incomplete) :=
  List.any_snoc _ h ev

theorem processedUpTo_cons (m : Mem) (p : Nat) (e : Ev) (rest : List Ev) :
    processedUpTo m p (e :: rest) =
      if rest.any (fun e => e == .pollStart m) then
        (retEv m p e).elim (processedUpTo m p rest) (max · (processedUpTo m p rest))
      else processedUpTo m p rest := by
  cases e with
  | returned m' p' off id =>
    simp only [processedUpTo, retEv, Bool.and_eq_true, beq_iff_eq]
    by_cases h1 : m' = m ∧ p' = p
    · simp only [h1, and_self, true_and, if_true, Option.elim_some]
    · simp only [h1, false_and, if_false, Option.elim_none, ite_self]
  | _ => exact (ite_self _).symm

theorem retMax_cons (m : Mem) (p : Nat) (e : Ev) (rest : List Ev) :
    retMax m p (e :: rest) = (retEv m p e).elim (retMax m p rest) (max · (retMax m p rest)) := by
  rw [retMax, List.filterMap_cons]
  cases retEv m p e with
  | none => rfl
  | some x => exact lmax_cons x _

theorem processedUpTo_le_retMax (m : Mem) (p : Nat) (h : List Ev) : processedUpTo m p h ≤ retMax m p h := by
  induction h with
  | nil => exact Nat.le_refl 0
  | cons e rest ih =>
    rw [processedUpTo_cons, retMax_cons]
    cases retEv m p e with
    | none => split <;> exact ih
    | some x =>
      simp only [Option.elim_some]
      split <;> omega

theorem processedUpTo_snoc (m : Mem) (p : Nat) (h : List Ev) (ev : Ev) :
    processedUpTo m p (h ++ [ev]) = if ev = .pollStart m then retMax m p h else processedUpTo m p h := by
  induction h with
  | nil =>
    rw [List.nil_append, processedUpTo_cons, List.any_nil, if_neg Bool.false_ne_true]
    exact (ite_self _).symm
  | cons e rest ih =>
    rw [List.cons_append, processedUpTo_cons, ih, processedUpTo_cons, retMax_cons]
    by_cases hev : ev = .pollStart m <;> simp [hev]

/-- highest next-offset among `m`'s records of `p` not yet followed by another poll -/
def pendOf (s : St) (m : Mem) (p : Nat) : Nat := sel m p s.pending

/-- What one event does to the three numbers the C08 rules read (`eligibleOf`, `pendOf`, `committedOf`). `fun_cases` opens
`apply` branch by branch; all branches but the ones treated are `rfl`. -/
theorem eligibleOf_apply (c : Cfg) (s : St) (e : Ev) (m : Mem) (p : Nat) :
    eligibleOf (apply c s e) m p =
      if e = .pollStart m then max (eligibleOf s m p) (pendOf s m p) else eligibleOf s m p := by
  fun_cases apply c s e <;> try rfl
  next m' => -- `pollStart m'`
    rw [eligibleOf_eq, sel_append, sel_filter m p (· == m'), ← eligibleOf_eq, ← pendOf]
    by_cases hm : m' = m
    · rw [hm, if_pos (beq_self_eq_true m), if_pos rfl, Nat.max_comm]
    · rw [if_neg (by simpa using Ne.symm hm), if_neg fun h => hm (Ev.pollStart.inj h), Nat.zero_max]

theorem pendOf_apply (c : Cfg) (s : St) (e : Ev) (m : Mem) (p : Nat) :
    pendOf (apply c s e) m p =
      if e = .pollStart m then 0 else (retEv m p e).elim (pendOf s m p) (max (pendOf s m p)) := by
  fun_cases apply c s e <;> try rfl
  next m' => -- `pollStart m'`
    rw [pendOf, sel_filter m p (· != m'), ← pendOf]
    by_cases hm : m' = m
    · rw [hm, if_neg (by simp), if_pos rfl]
    · rw [if_pos (by simpa using Ne.symm hm), if_neg fun h => hm (Ev.pollStart.inj h)]
      rfl
  next m' part off id => -- `returned m' part off id`
    rw [if_neg nofun, pendOf, sel_cons, ← pendOf, retEv]
    split
    · exact Nat.max_comm ..
    · rfl

theorem committedOf_apply (c : Cfg) (s : St) (e : Ev) (q : Nat) :
    committedOf (apply c s e) q = (commitEv q e).elim (committedOf s q) (max (committedOf s q)) := by
  fun_cases apply c s e <;> try rfl
  next m part off ok hgt => -- `commit m part off ok` that raises the committed offset of `part`
    rw [Bool.and_eq_true, decide_eq_true_eq] at hgt
    rw [hgt.1, commitEv, committedOf, List.find?_cons]
    split
    · next hq =>
      cases (beq_iff_eq.1 hq : part = q)
      rw [if_pos rfl, Option.elim_some, Nat.max_eq_right (Nat.le_of_lt hgt.2)]
      rfl
    · next hq =>
      rw [if_neg (beq_eq_false_iff_ne.1 hq), List.find?_filter_of_imp _ fun x hx => ?_]; rfl
      rw [beq_iff_eq.1 hx]
      exact bne_iff_ne.2 (Ne.symm (beq_eq_false_iff_ne.1 hq))
  next m part off ok hgt => -- and one that does not
    cases ok with
    | false => rfl
    | true =>
      rw [Bool.true_and, decide_eq_true_eq, Nat.not_lt] at hgt
      rw [commitEv]
      split
      · next hq => rw [← hq, Option.elim_some, Nat.max_eq_left hgt]
      · rfl

/-- `pend` is what carries `elig` across a `pollStart m`: there the processed offset of `m` becomes everything returned to
`m` so far (`processedUpTo_snoc`), which the state holds as the maximum over `m`'s `eligible` and `pending` entries. -/
structure Inv (h : List Ev) (s : St) : Prop where
  prod : s.prod = (producedOf h).reverse
  ret : ∀ r, r ∈ s.ret ↔ Ev.returned r.1 r.2.1 r.2.2.1 r.2.2.2 ∈ h
  finals : ∀ f, f ∈ s.finals ↔ Ev.finalCommitted f.1 f.2 ∈ h
  incomplete : s.incomplete = isIncomplete h
  elig : ∀ m p, eligibleOf s m p = processedUpTo m p h
  pend : ∀ m p, max (eligibleOf s m p) (pendOf s m p) = retMax m p h
  comm : ∀ p, committedOf s p = committedUpTo p h

theorem Inv.init : Inv [] {} :=
  ⟨rfl, fun _ => ⟨nofun, nofun⟩, fun _ => ⟨nofun, nofun⟩, rfl, fun _ _ => rfl, fun _ _ => rfl, fun _ => rfl⟩

theorem mem_snoc_cons {α : Type} (x a : α) (l l' : List α) (hl : ∀ y, y ∈ l ↔ y ∈ l') :
    x ∈ a :: l ↔ x ∈ l' ++ [a] := by
  rw [List.mem_cons, List.mem_append, List.mem_singleton, hl, or_comm]

theorem Inv.snoc {h : List Ev} {s s' : St} (hi : Inv h s) (ev : Ev)
    (prod : s'.prod = (prodEv ev).toList ++ s.prod)
    (ret : s'.ret = (returnedEv ev).toList ++ s.ret)
    (finals : s'.finals = (finalEv ev).toList ++ s.finals)
    (incomplete : s'.incomplete = (ev == .incomplete || s.incomplete))
    (elig : ∀ m p, eligibleOf s' m p =
      if ev = .pollStart m then max (eligibleOf s m p) (pendOf s m p) else eligibleOf s m p)
    (pend : ∀ m p, pendOf s' m p =
      if ev = .pollStart m then 0 else (retEv m p ev).elim (pendOf s m p) (max (pendOf s m p)))
    (comm : ∀ p, committedOf s' p = (commitEv p ev).elim (committedOf s p) (max (committedOf s p))) :
    Inv (h ++ [ev]) s' := by
  refine ⟨?_, mem_iff_snoc returnedEv_eq_some hi.ret ret, mem_iff_snoc finalEv_eq_some hi.finals finals, ?_,
    fun m p => ?_, fun m p => ?_, fun p => ?_⟩
  · rw [prod, hi.prod, producedOf_snoc, List.reverse_append]
    cases prodEv ev <;> rfl
  · rw [incomplete, hi.incomplete, isIncomplete_snoc, Bool.or_comm]
  · rw [elig, processedUpTo_snoc, hi.pend, hi.elig]
  · rw [elig, pend, retMax_snoc, ← hi.pend]
    split
    · next hev => rw [hev, Nat.max_zero]; rfl
    · cases retEv m p ev with
      | none => rfl
      | some x => exact (Nat.max_assoc ..).symm
  · rw [comm, committedUpTo_snoc, hi.comm]

theorem Inv.step {c : Cfg} {h : List Ev} {s : St} (hi : Inv h s) (ev : Ev) : Inv (h ++ [ev]) (apply c s ev) := by
  refine hi.snoc ev ?_ ?_ ?_ ?_ (eligibleOf_apply c s ev) (pendOf_apply c s ev) (committedOf_apply c s ev)
  -- the four ledgers: every branch of `apply` conses what the event shows
  all_goals fun_cases apply c s ev <;> rfl

theorem inv_of_run {c : Cfg} {h : List Ev} {s : St} (hr : run c {} h = some s) : Inv h s :=
  (isMonitor c).inv (I := Inv) (fun _ _ ev hi _ => hi.step ev) Inv.init hr

theorem commit_check {c : Cfg} {s : St} {m : Mem} {p off : Nat} (h : check c s (.commit m p off true) = none) :
    off ≤ max (eligibleOf s m p) (committedOf s p) := by
  simp only [check, ite_some_eq_none, Bool.true_and, decide_eq_true_eq] at h
  exact Nat.not_lt.1 h.1

theorem quiesce_check {c : Cfg} {s : St} (h : check c s .quiesce = none) (hinc : s.incomplete = false) :
    ∀ f ∈ s.finals, ∀ x ∈ s.prod, x.2.1 = f.1 → (x.2.2 : Int) < f.2 →
      ∃ r ∈ s.ret, r.2.1 = x.2.1 ∧ r.2.2.1 = x.2.2 ∧ r.2.2.2 = x.1 := by
  simp only [check, hinc, Bool.false_eq_true, if_false, ite_some_eq_none, List.any_eq_true, Bool.and_eq_true,
    beq_iff_eq, decide_eq_true_eq, Bool.not_eq_true', List.any_eq_false, not_exists, not_and, and_true] at h
  intro f hf x hx h1 h2
  false_or_by_contra
  rename_i hcon
  exact h f hf x hx ⟨h1, h2⟩ fun r hr h12 h3 => hcon ⟨r, hr, h12.1, h12.2, h3⟩

end Proof.Group
