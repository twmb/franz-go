import FranzVerif.Model.C36
import FranzVerif.Spec.C36
import FranzVerif.Proof.WireFacts
/-! C36 — the Confluent header.

The model's writers produce the Spec's wire format and the model's readers agree with the Spec's readers on every byte
string; the Spec's readers invert the Spec's writers. The round trips of the model follow from these three facts. -/
namespace Proof.C36
open Model.C36
open Spec.C36 (leb zz unzz wireVarint be32 wireIndex wireHeader parseLeb parseVarint parseMany parseIndex
  decodeIDAllowed)

/-- Setting the continuation bit of a byte `128 * q + r`: whether or not bit 7 is set already (`q` is 0 or 1), the
result is `128 ||| r`. -/
theorem or_128 (x : Nat) : x % 256 ||| 128 = x % 128 + 128 := by
  have hr : x % 128 < 2 ^ 7 := Nat.mod_lt _ (by decide)
  have hq : 2 ^ 7 * (x / 128 % 2) ||| 128 = 2 ^ 7 * 1 := by
    rcases Nat.mod_two_eq_zero_or_one (x / 128) with h | h <;> rw [h] <;> rfl
  rw [show 256 = 128 * 2 from rfl, Nat.mod_mul, Nat.add_comm, Nat.two_pow_add_eq_or_of_lt hr, Nat.or_assoc,
    Nat.or_comm (x % 128), ← Nat.or_assoc, hq, ← Nat.two_pow_add_eq_or_of_lt hr, Nat.add_comm]

theorem toNat_ofNat_lt (n : Nat) (h : n < 256) : (UInt8.ofNat n).toNat = n := UInt8.toNat_ofNat_of_lt' h

theorem byteOf_toNat (v : Int) : (byteOf v).toNat = (v % 256).toNat := by
  unfold byteOf; simp only [UInt8.toNat_ofNat']; omega

theorem byteOf_natCast (n : Nat) : byteOf (n : Int) = UInt8.ofNat (n % 256) := by
  have : ((n : Int) % 256).toNat = n % 256 := by omega
  rw [byteOf, this]

/-- `k` is the number of bits the remaining groups may still hold: 64 at the first group, 1 at the tenth. -/
theorem parseLeb_leb (n : Nat) : ∀ (i k : Nat) (rest : Bytes), k + 7 * i = 64 → n < 2 ^ k →
    parseLeb i (leb n ++ rest) = some (n, rest) := by
  fun_induction leb n with
  | case1 n hn =>
    intro i k rest hk hlt
    have h9 : ¬ (i = 9 ∧ n > 1) := by
      intro ⟨h9, h1⟩
      have : k = 1 := by omega
      subst this
      omega
    simp only [List.cons_append, List.nil_append, parseLeb, toNat_ofNat_lt n (by omega), hn, h9, if_true, if_false]
  | case2 n hn ih =>
    intro i k rest hk hlt
    have hk8 : 7 < k := by
      apply Nat.lt_of_not_le
      intro h
      have := Nat.pow_le_pow_right (by omega : 2 > 0) h
      omega
    obtain ⟨k', rfl⟩ : ∃ k', k = k' + 7 := ⟨k - 7, by omega⟩
    rw [Nat.pow_add] at hlt
    have h1 : ¬ (n % 128 + 128 < 128) := by omega
    have h2 : ¬ (i ≥ 9) := by omega
    simp only [List.cons_append, parseLeb, toNat_ofNat_lt (n % 128 + 128) (by omega), h1, h2, if_false,
      ih (i + 1) k' rest (by omega) (by omega)]
    rw [show n % 128 + 128 - 128 + 128 * (n / 128) = n by omega]

theorem unzz_zz (v : Int) : unzz (zz v) = v := by
  unfold unzz zz; split <;> split <;> omega

theorem zz_lt (v : Int) (h : I64 v) : zz v < 2 ^ 64 := by
  unfold I64 at h; unfold zz; split <;> omega

theorem parseVarint_wireVarint (v : Int) (h : I64 v) (rest : Bytes) :
    parseVarint (wireVarint v ++ rest) = some (v, rest) := by
  simp only [parseVarint, wireVarint, parseLeb_leb _ 0 64 rest rfl (zz_lt v h), unzz_zz]

theorem parseMany_wire (index : List Int) (h : ∀ v ∈ index, I64 v) (rest : Bytes) :
    parseMany index.length (index.flatMap wireVarint ++ rest) = some (index, rest) := by
  induction index with
  | nil => rfl
  | cons v vs ih =>
    simp only [List.length_cons, List.flatMap_cons, List.append_assoc, parseMany,
      parseVarint_wireVarint v (h v (by simp)), ih (fun w hw => h w (by simp [hw]))]

theorem parseIndex_wire (index : List Int) (hne : index ≠ []) (h : ∀ v ∈ index, I64 v)
    (hlen : index.length < 9223372036854775808) (rest : Bytes) :
    parseIndex (wireIndex index ++ rest) = some (index, rest) := by
  unfold wireIndex
  split
  · exact absurd rfl hne
  · rfl
  · have hl : I64 (index.length : Int) := by unfold I64; omega
    have hpos := List.length_pos_iff.2 hne
    rw [List.append_assoc, parseIndex, parseVarint_wireVarint _ hl]
    simp only [show ¬ (index.length : Int) = 0 by omega, show ¬ (index.length : Int) < 0 by omega, if_false,
      Int.toNat_natCast]
    exact parseMany_wire index h rest

theorem appendUvarint_eq_leb (x : Nat) : appendUvarint x = leb x := by
  fun_induction appendUvarint x with
  | case1 x hx ih =>
    have h2 : ¬ x < 128 := by omega
    rw [leb, if_neg h2, or_128, ih, Nat.shiftRight_eq_div_pow]
  | case2 x hx =>
    have h2 : x < 128 := by omega
    rw [leb, if_pos h2]

theorem zigzag_eq_zz (v : Int) : zigzag v = zz v := by
  unfold zigzag zz; split <;> split <;> omega

theorem appendVarint_eq_wire (v : Int) : appendVarint v = wireVarint v := by
  rw [appendVarint, wireVarint, appendUvarint_eq_leb, zigzag_eq_zz]

theorem encodeIndex_eq_wire (index : List Int) : encodeIndex index = wireIndex index := by
  have hf : appendVarint = wireVarint := funext appendVarint_eq_wire
  unfold wireIndex
  split <;> simp_all [encodeIndex]

theorem header_bytes (id : Int) (h0 : 0 ≤ id) (h1 : id < 4294967296) :
    [byteOf (id / 16777216), byteOf (id / 65536), byteOf (id / 256), byteOf id] = be32 id.toNat := by
  obtain ⟨n, rfl⟩ := Int.eq_ofNat_of_zero_le h0
  have e (k : Nat) : byteOf ((n : Int) / (k : Int)) = UInt8.ofNat (n / k % 256) := by
    rw [← Int.natCast_ediv, byteOf_natCast]
  rw [be32, Int.toNat_natCast, ← e, ← e, ← e, ← byteOf_natCast n]
  rfl

theorem wire_of_appendEncode (pre : Bytes) (id : Int) (h0 : 0 ≤ id) (h1 : id < 4294967296) (index : List Int) :
    appendEncode pre id index = pre ++ wireHeader id index := by
  simp only [appendEncode, wireHeader, ← header_bytes id h0 h1, encodeIndex_eq_wire]
  simp

/-- The value of an outcome, the kind of failure forgotten: the Spec's readers answer `none` where the model returns one of
Go's errors. (For `Except Err`, `binary`'s readers, this is core's `Except.toOption`.) -/
def _root_.Model.C36.Out.toOption {α} : Out α → Option α
  | .ok a => some a
  | _ => none

theorem toOption_eq_some {α} {o : Out α} {a : α} : o.toOption = some a ↔ o = .ok a := by
  cases o <;> simp [Out.toOption]

theorem low7 (c : UInt8) (h : ¬ c.toNat < 128) : c.toNat &&& 127 = c.toNat - 128 ∧ c.toNat - 128 ≤ 127 := by
  have := c.toNat_lt
  rw [Nat.and_two_pow_sub_one_eq_mod c.toNat 7]
  omega

/-- In iteration `i` the shift is `7 * i` and the accumulator holds the `7 * i` bits read so far. -/
theorem readU_eq_parseLeb (b : Bytes) : ∀ (i x : Nat), i ≤ 9 → x < 2 ^ (7 * i) →
    (readUvarint i x (7 * i) b).toOption = (parseLeb i b).map (fun p => (x + p.1 * 2 ^ (7 * i), p.2)) := by
  induction b with
  | nil => intro i x _ _; rfl
  | cons c rest ih =>
    intro i x hi hx
    rw [readUvarint, parseLeb, if_neg (Nat.not_le_of_gt (Nat.lt_succ_of_le hi))]
    by_cases hc : c.toNat < 128
    · rw [if_pos hc, if_pos hc, Wire.or_shl x _ _ hx]
      split <;> rfl
    · rw [if_neg hc, if_neg hc]
      by_cases h9 : i = 9
      · rw [if_pos h9, if_pos (Nat.le_of_eq h9.symm)]; rfl
      · have hi' : i < 9 := Nat.lt_of_le_of_ne hi h9
        obtain ⟨hand, h127⟩ := low7 c hc
        have hp : 2 ^ (7 * (i + 1)) = 2 ^ (7 * i) * 128 := Nat.pow_add 2 (7 * i) 7
        have hx' : x + (c.toNat - 128) * 2 ^ (7 * i) < 2 ^ (7 * (i + 1)) := by
          have := Nat.mul_le_mul_right (2 ^ (7 * i)) h127
          omega
        rw [if_neg h9, if_neg (Nat.not_le_of_gt hi'), hand, Wire.or_shl x _ _ hx, ← Nat.mul_succ, ih (i + 1) _ hi' hx']
        cases parseLeb (i + 1) rest with
        | none => rfl
        | some p =>
          simp only [Option.map_some, hp]
          rw [Nat.add_mul, Nat.add_assoc, Nat.mul_assoc 128, Nat.mul_comm 128, Nat.mul_assoc p.1]

theorem unzigzag_eq_unzz (u : Nat) : unzigzag u = unzz u := by
  unfold unzigzag unzz; split <;> split <;> omega

theorem readVarint_eq_parse (b : Bytes) : (readVarint b).toOption = parseVarint b := by
  have h := readU_eq_parseLeb b 0 0 (Nat.zero_le _) (by decide)
  unfold readVarint parseVarint
  cases hp : parseLeb 0 b <;> cases hr : readUvarint 0 0 0 b <;> simp_all [Except.toOption, unzigzag_eq_unzz]

theorem readN_no_panic (n : Nat) : ∀ b, readN n b ≠ .panic := by
  induction n with
  | zero => intro b; simp [readN]
  | succ n ih =>
    intro b
    unfold readN
    cases readVarint b with
    | error e => simp
    | ok p =>
      have := ih p.2
      simp only
      cases h : readN n p.2 <;> simp_all

theorem readN_eq_parseMany (n : Nat) : ∀ b, (readN n b).toOption = parseMany n b := by
  induction n with
  | zero => intro b; rfl
  | succ n ih =>
    intro b
    unfold readN parseMany
    rw [← readVarint_eq_parse]
    cases readVarint b with
    | error e => rfl
    | ok p =>
      simp only [Except.toOption]
      rw [← ih p.2]
      cases h : readN n p.2 <;> rfl

theorem parseMany_length (n : Nat) : ∀ b r, parseMany n b = some r → r.1.length = n := by
  induction n with
  | zero => intro b r h; cases h; rfl
  | succ n ih =>
    intro b r h
    unfold parseMany at h
    split at h
    · cases h
    · split at h
      · cases h
      · next hm => cases h; simp [ih _ _ hm]

theorem allocCap_ok (l : Int) (r : Bytes) (h : 0 ≤ l) : ¬ (allocCap l r < 0 ∨ allocCap l r > (r.length : Int)) := by
  unfold allocCap; split <;> omega

/-- `decodeIndex` without the `make` guard: `allocCap_ok` makes that branch dead. -/
theorem decodeIndex_eq (b : Bytes) (m : Int) : decodeIndex b m =
    match readVarint b with
    | .error e => .err e
    | .ok (l, r) =>
      if l = 0 then .ok ([0], r) else if l < 0 then .err .badHeader
      else if m > 0 ∧ l > m then .err .notRegistered else readN l.toNat r := by
  unfold decodeIndex
  cases readVarint b with
  | error e => rfl
  | ok p =>
    exact ite_congr rfl (fun _ => rfl) fun _ => ite_congr rfl (fun _ => rfl) fun c2 => ite_congr rfl (fun _ => rfl) fun _ =>
      if_neg (allocCap_ok p.1 p.2 (Int.not_lt.1 c2))

/-- `decodeIndex` answers with the Spec's path where that is within a positive `m`, and with an error otherwise. -/
theorem decodeIndex_toOption (b : Bytes) (m : Int) :
    (decodeIndex b m).toOption = (parseIndex b).filter fun r => m ≤ 0 ∨ (r.1.length : Int) ≤ m := by
  rw [decodeIndex_eq, parseIndex, ← readVarint_eq_parse]
  cases readVarint b with
  | error e => rfl
  | ok p =>
    obtain ⟨l, r⟩ := p
    simp only [Except.toOption]
    by_cases c1 : l = 0
    · rw [if_pos c1, if_pos c1, Option.filter_some, if_pos (by simp; omega)]; rfl
    by_cases c2 : l < 0
    · rw [if_neg c1, if_neg c1, if_pos c2, if_pos c2]; rfl
    rw [if_neg c1, if_neg c1, if_neg c2, if_neg c2]
    -- every path `parseMany l.toNat` returns has `l` entries: the filter drops all of them or none
    by_cases c3 : m > 0 ∧ l > m
    · rw [if_pos c3]
      refine (Option.filter_eq_none_iff.2 fun q hq => ?_).symm
      have := parseMany_length _ _ _ hq
      simp; omega
    · rw [if_neg c3, readN_eq_parseMany]
      cases hq : parseMany l.toNat r with
      | none => rfl
      | some q =>
        have := parseMany_length _ _ _ hq
        exact (Option.filter_eq_some_iff.2 ⟨rfl, by simp; omega⟩).symm

/-- Big-endian digits of a four-byte value, read off its Horner form one `/ 256`, `% 256` at a time. -/
theorem be32_bytes (a b c d : UInt8) :
    be32 (a.toNat * 16777216 + b.toNat * 65536 + c.toNat * 256 + d.toNat) = [a, b, c, d] := by
  have step (q : Nat) (r : UInt8) : (q * 256 + r.toNat) / 256 = q ∧ UInt8.ofNat ((q * 256 + r.toNat) % 256) = r := by
    have := r.toNat_lt
    refine ⟨by omega, ?_⟩
    rw [Nat.mul_add_mod_self_right, Nat.mod_eq_of_lt this, UInt8.ofNat_toNat]
  have hn : a.toNat * 16777216 + b.toNat * 65536 + c.toNat * 256 + d.toNat =
      ((a.toNat * 256 + b.toNat) * 256 + c.toNat) * 256 + d.toNat := by omega
  rw [hn, be32, show (16777216 : Nat) = 256 * (256 * 256) from rfl, show (65536 : Nat) = 256 * 256 from rfl]
  simp only [← Nat.div_div_eq_div_mul, step]
  rw [Nat.mod_eq_of_lt a.toNat_lt, UInt8.ofNat_toNat]

theorem decodeID_spec (b : Bytes) : decodeIDAllowed b (decodeID b) = true := by
  match b with
  | [] | [_] | [_, _] | [_, _, _] | [_, _, _, _] => simp [decodeID, decodeIDAllowed]
  | m :: a :: b :: c :: d :: rest =>
    by_cases hm : m = 0
    · subst hm
      have ha := a.toNat_lt; have hb := b.toNat_lt; have hc := c.toNat_lt; have hd := d.toNat_lt
      simp only [decodeID, ne_eq, not_true_eq_false, if_false, decodeIDAllowed, Int.toNat_natCast, be32_bytes]
      simp
      omega
    · simp [decodeID, hm, decodeIDAllowed]

theorem decodeID_be32 (n : Nat) (h : n < 4294967296) (rest : Bytes) :
    decodeID (0 :: be32 n ++ rest) = .ok ((n : Int), rest) := by
  simp only [be32, List.cons_append, List.nil_append, decodeID, UInt8.toNat_ofNat', ne_eq, not_true_eq_false,
    if_false, Nat.reducePow, Nat.mod_mod, Proof.Wire.be32_sum n h]

theorem decodeID_appendEncode (id : Int) (h0 : 0 ≤ id) (h1 : id < 4294967296) (index : List Int) (payload : Bytes) :
    decodeID (appendEncode [] id index ++ payload) = .ok (id, encodeIndex index ++ payload) := by
  have : appendEncode [] id index ++ payload = 0 :: be32 id.toNat ++ (encodeIndex index ++ payload) := by
    rw [wire_of_appendEncode [] id h0 h1, wireHeader, encodeIndex_eq_wire]
    simp
  rw [this, decodeID_be32 _ (by omega), Int.toNat_of_nonneg h0]

theorem decodeIndex_encoded (index : List Int) (m : Int) (rest : Bytes)
    (hne : index ≠ []) (h : ∀ v ∈ index, I64 v) (hlen : index.length < 9223372036854775808)
    (hm : m ≤ 0 ∨ (index.length : Int) ≤ m) :
    decodeIndex (encodeIndex index ++ rest) m = .ok (index, rest) := by
  rw [← toOption_eq_some, decodeIndex_toOption, encodeIndex_eq_wire, parseIndex_wire index hne h hlen rest, Option.filter_some,
    if_pos (by simpa using hm)]

end Proof.C36
