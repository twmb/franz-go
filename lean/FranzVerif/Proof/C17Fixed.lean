import FranzVerif.Model.C17
import FranzVerif.Proof.C17Spec
import FranzVerif.Proof.C17Bits
/-! C17 — fixed-width big-endian integers: the encoders write `Spec.C17.be` and the `binary.BigEndian` readers
compute `Spec.C17.unbe`. -/
namespace Proof.C17
open Model.C17
open Spec.C17 hiding Bytes

theorem appendInt8_be (dst : Bytes) (i : BitVec 8) : appendInt8 dst i = dst ++ be 1 i.toNat := by
  simp only [appendInt8, be, Nat.pow_zero, Nat.div_one]
  congr 2
  apply BitVec.eq_of_toNat_eq; simp [byte]

theorem appendUint16_be (dst : Bytes) (u : BitVec 16) : appendUint16 dst u = dst ++ be 2 u.toNat := by
  simp only [appendUint16, be, setw8_eq, BitVec.toNat_ushiftRight, Nat.shiftRight_eq_div_pow, Nat.reducePow, Nat.div_one]

theorem appendUint32_be (dst : Bytes) (u : BitVec 32) : appendUint32 dst u = dst ++ be 4 u.toNat := by
  simp only [appendUint32, be, setw8_eq, BitVec.toNat_ushiftRight, Nat.shiftRight_eq_div_pow, Nat.reducePow, Nat.div_one]

theorem appendUint64_be (dst : Bytes) (u : BitVec 64) : appendUint64 dst u = dst ++ be 8 u.toNat := by
  simp only [appendUint64, be, setw8_eq, BitVec.toNat_ushiftRight, Nat.shiftRight_eq_div_pow, Nat.reducePow, Nat.div_one]

/-- `acc | uintW(b₀)<<k | uintW(b₁)<<(k+8) | …`: the shape of `binary.BigEndian.UintN`, lowest byte first -/
def orUp {w : Nat} (acc : BitVec w) : Nat → Bytes → BitVec w
  | _, [] => acc
  | k, b :: bs => orUp (acc ||| b.setWidth w <<< k) (k + 8) bs

theorem orUp_toNat {w : Nat} : ∀ (bs : Bytes) (acc : BitVec w) (k : Nat), acc.toNat < 2 ^ k → k + 8 * bs.length ≤ w →
    (orUp acc k bs).toNat = acc.toNat + 2 ^ k * unbe bs.reverse
  | [], acc, k, _, _ => by simp [orUp, unbe]
  | b :: bs, acc, k, h, hk => by
    rw [List.length_cons] at hk
    have e := or_up acc b k 8 b.isLt (by omega) h
    have hlt : (acc ||| b.setWidth w <<< k).toNat < 2 ^ (k + 8) := by
      have := Nat.mul_le_mul_right (2 ^ k) (show b.toNat ≤ 255 by have := b.isLt; omega)
      rw [e, Nat.pow_add]; omega
    rw [orUp, orUp_toNat bs _ (k + 8) hlt (by omega), e, List.reverse_cons, unbe_concat, Nat.pow_add,
      Nat.mul_add, Nat.mul_comm (2 ^ k) b.toNat, Nat.mul_assoc, Nat.mul_comm (2 ^ 8)]
    simp only [Nat.reducePow]; omega

theorem orUp_zero {w : Nat} (bs : Bytes) (h : 8 * bs.length ≤ w) : orUp 0#w 0 bs = BitVec.ofNat w (unbe bs.reverse) := by
  apply BitVec.eq_of_toNat_eq
  have hl := unbe_lt bs.reverse
  rw [List.length_reverse, show 256 = 2 ^ 8 from rfl, ← Nat.pow_mul] at hl
  rw [orUp_toNat bs 0#w 0 (Nat.two_pow_pos _) (by omega), BitVec.toNat_ofNat, Nat.zero_mod, Nat.zero_add, Nat.pow_zero,
    Nat.one_mul, BitVec.toNat_ofNat, Nat.mod_eq_of_lt (Nat.lt_of_lt_of_le hl (Nat.pow_le_pow_right (by decide) h))]

theorem be1_eq : ∀ (s : Bytes), 1 ≤ s.length → idx? s 0 = some (BitVec.ofNat 8 (unbe (s.take 1)))
  | b :: _, _ => congrArg some (BitVec.eq_of_toNat_eq (by simp [unbe]))

theorem beU16_eq : ∀ (s : Bytes), 2 ≤ s.length → beU16? s = some (BitVec.ofNat 16 (unbe (s.take 2)))
  | b0 :: b1 :: _, _ => by
    -- `up16 b1 0 ||| up16 b0 8` is `orUp 0 0 [b1, b0]` without the leading `0 |||`
    have h := orUp_zero (w := 16) [b1, b0] (Nat.le_refl 16)
    rw [orUp, BitVec.zero_or] at h
    exact congrArg some h

theorem beU32_eq : ∀ (s : Bytes), 4 ≤ s.length → beU32? s = some (BitVec.ofNat 32 (unbe (s.take 4)))
  | b0 :: b1 :: b2 :: b3 :: _, _ => by
    have h := orUp_zero (w := 32) [b3, b2, b1, b0] (Nat.le_refl 32)
    rw [orUp, BitVec.zero_or] at h
    exact congrArg some h

theorem beU64_eq : ∀ (s : Bytes), 8 ≤ s.length → beU64? s = some (BitVec.ofNat 64 (unbe (s.take 8)))
  | b0 :: b1 :: b2 :: b3 :: b4 :: b5 :: b6 :: b7 :: _, _ => by
    have h := orUp_zero (w := 64) [b7, b6, b5, b4, b3, b2, b1, b0] (Nat.le_refl 64)
    rw [orUp, BitVec.zero_or] at h
    exact congrArg some h

end Proof.C17
