import FranzVerif.Model.Group
import FranzVerif.Proof.Group
import FranzVerif.Proof.Ledger
/-! C07 half of the consumer-group monitor: the owner map along an accepted history. Only the callback events touch it, so
`apply` and the history observables (`completes`, `released`, `progStep`) are restated over the four-way view `cb` of an
event, and the owner map is a function (`OwnerFn`). `GivesUp m p inprog h` says that a revoked/lost callback of `m` listing `p`
completes within `h`; one event moves it as it moves the state (`givesUp_cons`, `cur_apply`). So along an accepted history
`m` keeps `p` unless it gives it up (`kept_ownership`), and where nothing hands `p` on, the owner at the end owned `p` at the
start and has not given it up (`owner_of_no_assign`). -/
namespace Proof.Group
open Model.Group Proof.Monitor

/-- what an event means for the owner map and the callbacks in progress -/
inductive CB where
  | assign (m : Mem) (ps : List Nat)
  | start (m : Mem) (ps : List Nat)
  | fin (m : Mem)
  | other

def cb : Ev → CB
  | .assignStart m ps => .assign m ps
  | .revokeStart m ps => .start m ps
  | .lostStart m ps => .start m ps
  | .revokeEnd m => .fin m
  | .lostEnd m => .fin m
  | _ => .other

theorem cb_assign {e : Ev} {m : Mem} {ps : List Nat} (h : cb e = .assign m ps) : e = .assignStart m ps := by
  cases e <;> simp [cb] at h
  obtain ⟨rfl, rfl⟩ := h; rfl

theorem completes_cons (m : Mem) (e : Ev) (rest : List Ev) :
    completes m (e :: rest) = match cb e with
      | .start m' _ => if m' = m then false else completes m rest
      | .fin m' => if m' = m then true else completes m rest
      | _ => completes m rest := by
  cases e <;> rfl

theorem released_cons (m : Mem) (p : Nat) (e : Ev) (rest : List Ev) :
    released m p (e :: rest) = match cb e with
      | .start m' ps => (m' == m && ps.contains p && completes m rest) || released m p rest
      | _ => released m p rest := by
  cases e <;> rfl

theorem progStep_eq (m : Mem) (acc : Option (List Nat)) (e : Ev) :
    progStep m acc e = match cb e with
      | .start m' ps => if m' = m then some ps else acc
      | .fin m' => if m' = m then none else acc
      | _ => acc := by
  cases e <;> rfl

/-- the partitions listed by `m`'s revoked/lost callback in progress in state `s` (the most recent one) -/
def cur (s : St) (m : Mem) : Option (List Nat) := (s.revoking.find? (·.1 == m)).map (·.2)

theorem find_filter_self (l : List (Mem × List Nat)) (m : Mem) :
    (l.filter (·.1 != m)).find? (·.1 == m) = none := by
  simp [List.find?_eq_none]

/-- the state after a revoked/lost callback of `m'` returned -/
def endSt (s : St) (m' : Mem) : St :=
  match s.revoking.find? (fun x => x.1 == m') with
  | some (_, parts) => { s with owner := s.owner.filter (fun o => !(o.2 == m' && parts.contains o.1)),
                                revoking := s.revoking.filter (fun x => x.1 != m') }
  | none => s

theorem apply_revokeEnd (c : Cfg) (s : St) (m' : Mem) : apply c s (.revokeEnd m') = endSt s m' := rfl
theorem apply_lostEnd (c : Cfg) (s : St) (m' : Mem) : apply c s (.lostEnd m') = endSt s m' := rfl

theorem revoking_end (s : St) (m' : Mem) : (endSt s m').revoking = s.revoking.filter (fun x => x.1 != m') := by
  unfold endSt
  cases hf : s.revoking.find? (fun x => x.1 == m') with
  | some x => rfl
  | none =>
    refine (List.filter_eq_self.2 fun a ha => ?_).symm
    simpa using List.find?_eq_none.1 hf a ha

theorem cur_endSt (s : St) (m' m : Mem) : cur (endSt s m') m = if m' = m then none else cur s m := by
  rw [cur, revoking_end]
  split
  · next h => rw [h, find_filter_self]; rfl
  · next h =>
    rw [List.find?_filter_of_imp _ fun x hx => ?_]; rfl
    rw [beq_iff_eq.1 hx]
    exact bne_iff_ne.2 (Ne.symm h)

theorem cur_start (s : St) (m' m : Mem) (ps : List Nat) :
    cur { s with revoking := (m', ps) :: s.revoking } m = if m' = m then some ps else cur s m := by
  rw [cur, List.find?_cons]
  split
  · next h => rw [if_pos (beq_iff_eq.1 h)]; rfl
  · next h => rw [if_neg (beq_eq_false_iff_ne.1 h)]; rfl

theorem cur_apply (c : Cfg) (s : St) (e : Ev) (m : Mem) : cur (apply c s e) m = progStep m (cur s m) e := by
  cases e with
  | revokeStart m' ps => exact cur_start s m' m ps
  | lostStart m' ps => exact cur_start s m' m ps
  | revokeEnd m' => rw [apply_revokeEnd]; exact cur_endSt s m' m
  | lostEnd m' => rw [apply_lostEnd]; exact cur_endSt s m' m
  | commit m' p off ok =>
    obtain ⟨cm, hs⟩ := apply_commit c s m' p off ok
    rw [hs]; rfl
  | _ => rfl

theorem mem_owner_endSt (s : St) (m : Mem) (a : Nat × Mem) :
    a ∈ (endSt s m).owner ↔ a ∈ s.owner ∧ ¬ (a.2 = m ∧ ∃ ps, cur s m = some ps ∧ a.1 ∈ ps) := by
  unfold endSt cur
  cases s.revoking.find? (fun x => x.1 == m) with
  | none => simp
  | some x => simp [List.mem_filter, Decidable.imp_iff_not_or]

/-- `e` completes a callback of `m` that lists `p`; `inprog` is what `m`'s callback in progress lists. -/
def Drops (m : Mem) (p : Nat) (inprog : Option (List Nat)) (e : Ev) : Prop :=
  cb e = .fin m ∧ ∃ ps₀, inprog = some ps₀ ∧ p ∈ ps₀

theorem owner_apply (c : Cfg) (s : St) (e : Ev) : (apply c s e).owner = match cb e with
    | .assign m ps => ps.map (fun p => (p, m)) ++ s.owner.filter (fun o => !ps.contains o.1)
    | .fin m => (endSt s m).owner
    | _ => s.owner := by
  cases e with
  | commit m p off ok =>
    obtain ⟨cm, hs⟩ := apply_commit c s m p off ok
    rw [hs]; rfl
  | _ => rfl

/-- `m` owns `p` after an event that hands it `p`, or if it owned `p` before and the event neither hands `p` to anyone nor
completes a callback of `m` that lists `p`. -/
theorem mem_owner_apply (c : Cfg) (s : St) (e : Ev) (p : Nat) (m : Mem) :
    (p, m) ∈ (apply c s e).owner ↔ (∃ ps, cb e = .assign m ps ∧ p ∈ ps) ∨
      ((p, m) ∈ s.owner ∧ (∀ m' ps, cb e = .assign m' ps → p ∉ ps) ∧ ¬ Drops m p (cur s m) e) := by
  rw [owner_apply, Drops]
  cases cb e with
  | assign m' ps =>
    simp only [List.contains_eq_mem, List.mem_append, List.mem_map, Prod.mk.injEq, List.mem_filter, Bool.not_eq_eq_eq_not,
      Bool.not_true, decide_eq_false_iff_not, CB.assign.injEq, and_imp, forall_apply_eq_imp_iff, forall_eq', reduceCtorEq,
      false_and, not_false_eq_true, and_true]
    refine or_congr_left ⟨?_, ?_⟩
    · rintro ⟨_, hq, rfl, rfl⟩; exact ⟨ps, ⟨rfl, rfl⟩, hq⟩
    · rintro ⟨_, ⟨rfl, rfl⟩, hq⟩; exact ⟨p, hq, rfl, rfl⟩
  | fin m' =>
    refine (mem_owner_endSt s m' (p, m)).trans ⟨fun ⟨ho, hd⟩ => ?_, ?_⟩
    · exact Or.inr ⟨ho, nofun, fun ⟨hcb, hk⟩ => by cases hcb; exact hd ⟨rfl, hk⟩⟩
    · rintro (⟨_, hcb, _⟩ | ⟨ho, _, hd⟩)
      · cases hcb
      · exact ⟨ho, fun ⟨hm, hk⟩ => by cases (hm : m = m'); exact hd ⟨rfl, hk⟩⟩
  | start m' ps | other =>
    simp only [reduceCtorEq, false_and, exists_const, false_implies, implies_true, not_false_eq_true, and_self, and_true,
      false_or]

def OwnerFn (s : St) : Prop := ∀ a ∈ s.owner, ∀ b ∈ s.owner, a.1 = b.1 → a.2 = b.2

theorem OwnerFn.init : OwnerFn {} := by
  intro a ha; simp at ha

theorem OwnerFn.apply {c : Cfg} {s : St} (hf : OwnerFn s) (e : Ev) : OwnerFn (apply c s e) := by
  rintro ⟨p, m⟩ ha ⟨_, m'⟩ hb rfl
  rcases (mem_owner_apply ..).1 ha with ⟨ps, h1, hp⟩ | ⟨ha, hn, -⟩ <;>
    rcases (mem_owner_apply ..).1 hb with ⟨ps', h1', hp'⟩ | ⟨hb, hn', -⟩
  · cases h1.symm.trans h1'; rfl
  · exact absurd hp (hn' _ _ h1)
  · exact absurd hp' (hn _ _ h1')
  · exact hf _ ha _ hb rfl

theorem OwnerFn.run {c : Cfg} {s s' : St} {h : List Ev} (hf : OwnerFn s) (hr : run c s h = some s') : OwnerFn s' :=
  (isMonitor c).inv_state (fun _ e hf _ => hf.apply e) hf hr

theorem assign_check {c : Cfg} {s : St} {m : Mem} {ps : List Nat} (hf : OwnerFn s)
    (h : check c s (.assignStart m ps) = none) : ∀ p ∈ ps, ∀ o, (p, o) ∈ s.owner → o = m := by
  simp only [check, ite_some_eq_none, List.any_eq_true, not_exists, not_and] at h
  intro p hp o ho
  have := h.1 p hp
  rw [ownerOf, Proof.Ledger.lookup_of_fn hf ho] at this
  simpa using this

theorem leaveDone_check {c : Cfg} {s : St} {m : Mem} (h : check c s (.leaveDone m) = none) :
    ∀ p, (p, m) ∉ s.owner := by
  simp only [check, ite_some_eq_none, List.any_eq_true, not_exists, not_and] at h
  exact fun p hp => h.1 (p, m) hp (beq_self_eq_true m)

theorem stable_check {c : Cfg} {s : St} {live : List Mem} (h : check c s (.stable live) = none) :
    ∀ p, p < c.parts → ∃ o ∈ live, (p, o) ∈ s.owner := by
  simp only [check, ite_some_eq_none, List.any_eq_true, not_exists, not_and] at h
  intro p hp
  have := h.1 p (List.mem_range.2 hp)
  cases ho : ownerOf s p with
  | none => rw [ho] at this; exact absurd rfl this
  | some o => exact ⟨o, by simpa [ho] using this, Proof.Ledger.lookup_some ho⟩

def NoAssign (p : Nat) (h : List Ev) : Prop := ∀ e ∈ h, ∀ m ps, cb e = .assign m ps → p ∉ ps

theorem NoAssign.tail {p : Nat} {e : Ev} {es : List Ev} (h : NoAssign p (e :: es)) : NoAssign p es :=
  fun x hx => h x (List.mem_cons_of_mem _ hx)

/-- `m` gives `p` up within `h`: a revoked/lost callback of `m` that lists `p` completes in `h`, entered in `h` or in
progress where `h` begins (`inprog`). With `inprog := inProgress m h₁` this is the conclusion of `previous_owner_released_first`
and `left_member_owns_nothing` (Props/C07), word for word. -/
def GivesUp (m : Mem) (p : Nat) (inprog : Option (List Nat)) (h : List Ev) : Prop :=
  released m p h = true ∨ ∃ ps₀, inprog = some ps₀ ∧ p ∈ ps₀ ∧ completes m h = true

theorem givesUp_nil (m : Mem) (p : Nat) (inprog : Option (List Nat)) : ¬ GivesUp m p inprog [] := by
  simp [GivesUp, released, completes]

theorem givesUp_cons (m : Mem) (p : Nat) (inprog : Option (List Nat)) (e : Ev) (es : List Ev) :
    GivesUp m p inprog (e :: es) ↔ Drops m p inprog e ∨ GivesUp m p (progStep m inprog e) es := by
  rw [GivesUp, GivesUp, Drops, released_cons, completes_cons, progStep_eq]
  cases cb e with
  | assign m' ps | other => simp
  | start m' ps =>
    by_cases hm : m' = m
    · simp [hm, or_comm]
    · simp [hm]
  | fin m' =>
    by_cases hm : m' = m
    · simp [hm, or_comm]
    · simp [hm]

/-- An accepted event takes `p` from `m` only by completing a callback of `m` that lists `p`: handing `p` to another
member while `m` owns it is refused. -/
theorem owner_kept {c : Cfg} {s : St} {e : Ev} {p : Nat} {m : Mem} (hf : OwnerFn s) (hchk : check c s e = none)
    (ho : (p, m) ∈ s.owner) (hd : ¬ Drops m p (cur s m) e) : (p, m) ∈ (apply c s e).owner := by
  rw [mem_owner_apply]
  by_cases ha : ∃ m' ps, cb e = .assign m' ps ∧ p ∈ ps
  · obtain ⟨m', ps, hcb, hp⟩ := ha
    cases cb_assign hcb
    cases assign_check hf hchk p hp m ho
    exact Or.inl ⟨ps, rfl, hp⟩
  · exact Or.inr ⟨ho, fun m' ps hcb hp => ha ⟨m', ps, hcb, hp⟩, hd⟩

/-- An event that hands `p` to nobody makes no one its owner, and completing a callback of `m` that lists `p` takes it
from `m`. -/
theorem owner_before {c : Cfg} {s : St} {e : Ev} {p : Nat} {m : Mem} (hn : ∀ m' ps, cb e = .assign m' ps → p ∉ ps)
    (ho : (p, m) ∈ (apply c s e).owner) : (p, m) ∈ s.owner ∧ ¬ Drops m p (cur s m) e :=
  ((mem_owner_apply ..).1 ho).elim (fun ⟨ps, hcb, hp⟩ => absurd hp (hn m ps hcb)) fun h => ⟨h.1, h.2.2⟩

/-- Along an accepted history `m` keeps `p` unless it gives it up (assigned callbacks in between or not). -/
theorem kept_ownership {c : Cfg} {p : Nat} {m : Mem} {h : List Ev} {s s' : St} (hf : OwnerFn s)
    (hr : run c s h = some s') (ho : (p, m) ∈ s.owner) (hg : ¬ GivesUp m p (cur s m) h) : (p, m) ∈ s'.owner := by
  induction h generalizing s with
  | nil => exact (isMonitor c).nil_some hr ▸ ho
  | cons e es ih =>
    obtain ⟨hchk, hr'⟩ := (isMonitor c).cons_check hr
    rw [givesUp_cons, not_or, ← cur_apply c] at hg
    exact ih (hf.apply e) hr' (owner_kept hf hchk ho hg.1) hg.2

/-- The converse where nothing hands `p` on: whoever owns `p` at the end owned it at the start and has not given it up. -/
theorem owner_of_no_assign {c : Cfg} {p : Nat} {m : Mem} {h : List Ev} {s s' : St} (hr : run c s h = some s')
    (hn : NoAssign p h) (ho : (p, m) ∈ s'.owner) : (p, m) ∈ s.owner ∧ ¬ GivesUp m p (cur s m) h := by
  induction h generalizing s with
  | nil => exact ⟨(isMonitor c).nil_some hr ▸ ho, givesUp_nil m p _⟩
  | cons e es ih =>
    obtain ⟨ho', hg'⟩ := ih ((isMonitor c).cons_check hr).2 hn.tail
    obtain ⟨ho, hd⟩ := owner_before (hn e List.mem_cons_self) ho'
    rw [givesUp_cons, not_or, ← cur_apply c]
    exact ⟨ho, hd, hg'⟩

theorem cur_of_run {c : Cfg} {m : Mem} {h : List Ev} {s : St} (hr : run c {} h = some s) : cur s m = inProgress m h := by
  rw [(isMonitor c).run_eq_foldl hr]
  exact (List.foldl_hom (cur · m) fun s e => (cur_apply c s e m).symm).symm

theorem released_between {c : Cfg} {h₁ h₂ : List Ev} {m : Mem} {ps : List Nat} {p : Nat} {s₂ : St}
    (hr : run c {} (h₁ ++ Ev.assignStart m ps :: h₂) = some s₂) (hp : p ∈ ps) (hno : (p, m) ∉ s₂.owner) :
    GivesUp m p (inProgress m h₁) h₂ := by
  obtain ⟨s₁, hr₁, -, hr₁₂⟩ := (isMonitor c).split hr
  have ho : (p, m) ∈ (apply c s₁ (.assignStart m ps)).owner := (mem_owner_apply ..).2 (Or.inl ⟨ps, rfl, hp⟩)
  rw [← cur_of_run hr₁]
  exact Classical.not_not.1 fun hg => hno (kept_ownership ((OwnerFn.init.run hr₁).apply _) hr₁₂ ho hg)

theorem exists_last {α : Type} (P : α → Prop) (l : List α) (h : ∃ x ∈ l, P x) :
    ∃ a x b, l = a ++ x :: b ∧ P x ∧ ∀ y ∈ b, ¬ P y := by
  induction l with
  | nil => obtain ⟨x, hx, _⟩ := h; simp at hx
  | cons y ys ih =>
    by_cases hys : ∃ x ∈ ys, P x
    · obtain ⟨a, x, b, he, hp, hb⟩ := ih hys
      exact ⟨y :: a, x, b, by simp [he], hp, hb⟩
    · obtain ⟨x, hx, hp⟩ := h
      rcases List.mem_cons.1 hx with rfl | hx
      · exact ⟨[], x, ys, rfl, hp, fun z hz hpz => hys ⟨z, hz, hpz⟩⟩
      · exact absurd ⟨x, hx, hp⟩ hys

end Proof.Group
