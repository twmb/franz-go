import FranzVerif.Model.Consumer
import FranzVerif.Proof.Consumer
/-! `Inv c h s`: the ledgers `prod`, `decided`, `ret` of the state the direct-consumer monitor reaches on `h` are the
observables of `h` newest first (`decided` and `ret` up to the index each entry carries, dropped by `decKey`, `retKey`; the
indices are not tied to `h` here, `Proof.Consumer.Mono` orders them), `buffered` is what the buffered hook saw minus what the
unbuffered hook saw, as multisets, and `lastOf s part` bounds every offset returned for `part`. The last is what makes the
offsets of a partition strictly increase (`incr_last`): `check` compares a `returned` event with `lastOf` alone.
`inv_of_run` proves `Inv` field by field: the fields that only record are `IsMonitor.field`/`flag` of what `apply` does to
them, `start` and `ctl` are rules of `check` read at the event (`returned_rules`), and each of the others is kept by every
accepted event for a reason of its own. -/
namespace Proof.Consumer
open Model.Consumer

def offEv (part : Nat) : Ev → Option Nat
  | .returned p o _ _ => if p = part then some o else none | _ => none
def retEv : Ev → Option (Nat × Nat × Id × Bool)
  | .returned p o i c => some (p, o, i, c) | _ => none
def prodEv : Ev → Option (Id × Nat × Nat × Nat)
  | .produced i p o x => some (i, p, o, x) | _ => none
def decEv : Ev → Option (Nat × Bool)
  | .endDecided k c => some (k, c) | _ => none
def bufEv : Ev → Option (Nat × Nat)
  | .hookBuf p o => some (p, o) | _ => none
def unbufEv : Ev → Option (Nat × Nat)
  | .hookUnbuf p o _ => some (p, o) | _ => none
def gaugeEv : Ev → Option Nat
  | .gauge n => some n | _ => none
def incEv : Ev → Bool
  | .incomplete => true | .endDone _ _ ok => !ok | _ => false

theorem returnedOffsets_eq (part : Nat) (h : List Ev) : returnedOffsets part h = h.filterMap (offEv part) := rfl
theorem returnedOf_eq (h : List Ev) : returnedOf h = h.filterMap retEv := rfl
theorem producedOf_eq (h : List Ev) : producedOf h = h.filterMap prodEv := rfl
theorem decisionsOf_eq (h : List Ev) : decisionsOf h = h.filterMap decEv := rfl
theorem bufferedHooks_eq (h : List Ev) : bufferedHooks h = h.filterMap bufEv := rfl
theorem unbufferedHooks_eq (h : List Ev) : unbufferedHooks h = h.filterMap unbufEv := rfl
theorem lastGauge_eq (h : List Ev) : lastGauge h = (h.filterMap gaugeEv).getLast? := rfl
theorem isIncomplete_eq (h : List Ev) : isIncomplete h = h.any incEv := rfl

theorem returnedOffsets_snoc (part : Nat) (h : List Ev) (ev : Ev) :
    returnedOffsets part (h ++ [ev]) = returnedOffsets part h ++ (offEv part ev).toList := List.filterMap_snoc _ h ev
theorem bufferedHooks_snoc (h : List Ev) (ev : Ev) :
    bufferedHooks (h ++ [ev]) = bufferedHooks h ++ (bufEv ev).toList := List.filterMap_snoc _ h ev
theorem unbufferedHooks_snoc (h : List Ev) (ev : Ev) :
    unbufferedHooks (h ++ [ev]) = unbufferedHooks h ++ (unbufEv ev).toList := List.filterMap_snoc _ h ev
theorem lastGauge_snoc (h : List Ev) (ev : Ev) : lastGauge (h ++ [ev]) = (gaugeEv ev).or (lastGauge h) := by
  rw [lastGauge_eq, List.filterMap_snoc, List.getLast?_append]
  cases gaugeEv ev <;> rfl

/-- drop the index of a returned-record entry of the monitor state -/
def retKey (r : Nat × Nat × Id × Bool × Nat) : Nat × Nat × Id × Bool := (r.1, r.2.1, r.2.2.1, r.2.2.2.1)
/-- drop the index of a decision entry of the monitor state -/
def decKey (d : Nat × Bool × Nat) : Nat × Bool := (d.1, d.2.1)

structure Inv (c : Cfg) (h : List Ev) (s : St) : Prop where
  prod : s.prod = (producedOf h).reverse
  prodId : s.prod.Pairwise (fun a b => a.1 ≠ b.1)
  decided : s.decided.map decKey = (decisionsOf h).reverse
  ret : s.ret.map retKey = (returnedOf h).reverse
  incr : ∀ part, (returnedOffsets part h).Pairwise (· < ·)
  last : ∀ part y, y ∈ returnedOffsets part h → ∃ l, lastOf s part = some l ∧ y ≤ l
  start : ∀ r ∈ returnedOf h, c.start ≤ r.2.1
  ctl : c.keepCtl = false → ∀ r ∈ returnedOf h, r.2.2.2 = false
  buf : ∀ x, s.buffered.count x + (unbufferedHooks h).count x = (bufferedHooks h).count x
  gauge : s.gauge = lastGauge h
  incomplete : s.incomplete = isIncomplete h

/- What `apply` does to the four fields that only record. -/

theorem apply_prod (c : Cfg) (s : St) (e : Ev) : (apply c s e).prod = [e].filterMap prodEv ++ s.prod := by
  cases e with
  | endDone _ _ ok => cases ok <;> rfl
  | _ => rfl
theorem apply_decided (c : Cfg) (s : St) (e : Ev) :
    (apply c s e).decided.map decKey = [e].filterMap decEv ++ s.decided.map decKey := by
  cases e with
  | endDone _ _ ok => cases ok <;> rfl
  | _ => rfl
theorem apply_ret (c : Cfg) (s : St) (e : Ev) : (apply c s e).ret.map retKey = [e].filterMap retEv ++ s.ret.map retKey := by
  cases e with
  | endDone _ _ ok => cases ok <;> rfl
  | _ => rfl
theorem apply_incomplete (c : Cfg) (s : St) (e : Ev) : (apply c s e).incomplete = (incEv e || s.incomplete) := by
  cases e with
  | endDone _ _ ok => cases ok <;> rfl
  | _ => rfl

theorem incr_last {c : Cfg} {h : List Ev} {s : St} (hr : run c {} h = some s) :
    (∀ part, (returnedOffsets part h).Pairwise (· < ·)) ∧
      ∀ part y, y ∈ returnedOffsets part h → ∃ l, lastOf s part = some l ∧ y ≤ l := by
  apply (isMonitor c).inv _ ⟨fun _ => .nil, nofun⟩ hr
  intro h s e ⟨incr, last⟩ hchk
  simp only [returnedOffsets_snoc]
  cases e with
  | returned part off id ctl =>
    have hlt : ∀ a ∈ returnedOffsets part h, a < off := fun a ha =>
      let ⟨l, hl, hle⟩ := last part a ha
      Nat.lt_of_le_of_lt hle ((returned_check hchk).2.1 l hl)
    refine ⟨fun q => ?_, fun q y hy => ?_⟩
    · by_cases hq : part = q
      · subst hq
        rw [offEv, if_pos rfl]
        exact List.pairwise_append.2 ⟨incr part, List.pairwise_singleton _ _,
          fun a ha b hb => List.mem_singleton.1 hb ▸ hlt a ha⟩
      · rw [offEv, if_neg hq, Option.toList_none, List.append_nil]
        exact incr q
    · by_cases hq : part = q
      · subst hq
        rw [offEv, if_pos rfl] at hy
        refine ⟨off, lastOf_returned_same c s part off id ctl, ?_⟩
        rcases List.mem_append.1 hy with hy | hy
        · exact Nat.le_of_lt (hlt y hy)
        · exact Nat.le_of_eq (List.mem_singleton.1 hy)
      · rw [offEv, if_neg hq, Option.toList_none, List.append_nil] at hy
        obtain ⟨l, hl, hle⟩ := last q y hy
        exact ⟨l, (lastOf_returned_other c s part off id ctl q (Ne.symm hq)).trans hl, hle⟩
  | endDone _ _ ok =>
    simp only [offEv, Option.toList_none, List.append_nil]
    cases ok <;> exact ⟨incr, last⟩
  | _ =>
    simp only [offEv, Option.toList_none, List.append_nil]
    exact ⟨incr, last⟩

/-- The two rules of `check` about a returned record alone, read at the event that returned it. -/
theorem returned_rules {c : Cfg} {h : List Ev} {s : St} (hr : run c {} h = some s) {r : Nat × Nat × Id × Bool}
    (hm : r ∈ returnedOf h) : c.start ≤ r.2.1 ∧ (c.keepCtl = false → r.2.2.2 = false) := by
  obtain ⟨e, he, h2⟩ := List.mem_filterMap.1 hm
  cases e <;> cases h2
  obtain ⟨_, _, _, _, _, hc⟩ := (isMonitor c).check_of_mem hr he
  obtain ⟨c1, _, c3⟩ := returned_check hc
  exact ⟨c1, fun hk => Bool.eq_false_iff.2 fun hctl => Bool.false_ne_true (hk.symm.trans (c3 hctl))⟩

theorem inv_of_run {c : Cfg} {h : List Ev} {s : St} (hr : run c {} h = some s) : Inv c h s where
  prod := (isMonitor c).field (apply_prod c) rfl hr
  decided := (isMonitor c).field (f := fun s => s.decided.map decKey) (apply_decided c) rfl hr
  ret := (isMonitor c).field (f := fun s => s.ret.map retKey) (apply_ret c) rfl hr
  incomplete := ((isMonitor c).flag (apply_incomplete c) rfl hr).trans (isIncomplete_eq h).symm
  prodId := by
    apply (isMonitor c).inv_state _ .nil hr
    intro s e hi hchk
    cases e with
    | produced id part off txn =>
      simp only [check, Proof.Monitor.ite_some_eq_none, List.any_eq_true, beq_iff_eq, not_exists, not_and] at hchk
      exact List.pairwise_cons.2 ⟨fun a ha he => hchk.1 a ha he.symm, hi⟩
    | endDone _ _ ok => cases ok <;> exact hi
    | _ => exact hi
  incr := (incr_last hr).1
  last := (incr_last hr).2
  start := fun _ hm => (returned_rules hr hm).1
  ctl := fun hk _ hm => (returned_rules hr hm).2 hk
  buf := by
    apply (isMonitor c).inv _ (fun _ => rfl) hr
    intro h s e hi hchk x
    have := hi x
    rw [bufferedHooks_snoc, unbufferedHooks_snoc]
    cases e with
    | hookBuf part off =>
      simp only [Model.Consumer.apply, bufEv, unbufEv, Option.toList_none, Option.toList_some, List.count_cons,
        List.count_append, List.count_nil]
      omega
    | hookUnbuf part off polled =>
      have hmem : (part, off) ∈ s.buffered := by
        simp only [check] at hchk
        split at hchk
        · rename_i hc; exact List.contains_iff_mem.1 hc
        · simp at hchk
      have hpos := List.count_pos_iff.2 hmem
      simp only [Model.Consumer.apply, bufEv, unbufEv, Option.toList_none, Option.toList_some, List.count_erase,
        List.count_cons, List.count_append, List.count_nil]
      by_cases hx : (part, off) = x
      · subst hx; simp; omega
      · have : ((part, off) == x) = false := by simpa using hx
        simp [this]; omega
    | endDone _ _ ok =>
      simp only [bufEv, unbufEv, Option.toList_none, List.append_nil]
      cases ok <;> exact this
    | _ =>
      simp only [bufEv, unbufEv, Option.toList_none, List.append_nil]
      exact this
  gauge := by
    apply (isMonitor c).inv _ rfl hr
    intro h s e hi _
    rw [lastGauge_snoc, ← hi]
    cases e with
    | endDone _ _ ok => cases ok <;> rfl
    | _ => rfl

end Proof.Consumer
