import FranzVerif.Proof.C18Batch
/-! C18 — buffering records into batches. `tryBuffer` keeps `BatchInv` and admits a record only within the accounted size;
`bufferAll_pred` carries a predicate that `tryBuffer` establishes and keeps to every batch `bufferRecord` builds: the batch bounds
and the timestamp invariant `TsInv`. Under `BatchInv` the accounted length covers every user byte, header bytes included
(`userSum_le_wireSum`), which turns the batch bound into a bound on user bytes. -/
namespace Proof.C18
open Model.C18
open Spec.C17 (byte encU lenU be zz)

theorem tryBuffer_some {b b' : Batch} {r : Rec} {pv m : Int} (h : tryBuffer b r pv m = some b') :
    b' = appendRecord b r (calculateRecordNumbers b r).1 (calculateRecordNumbers b r).2 ∧
      bwl pv b + recordWireLengthFor pv r (numsWireLength (calculateRecordNumbers b r).1) ≤ m := by
  unfold tryBuffer at h
  simp only at h
  split at h
  · simp at h
  · exact ⟨(Option.some.inj h).symm, by unfold bwl; omega⟩

theorem tryBuffer_none {b : Batch} {r : Rec} {pv m : Int} (h : tryBuffer b r pv m = none) :
    bwl pv b + recordWireLengthFor pv r (numsWireLength (calculateRecordNumbers b r).1) > m := by
  unfold tryBuffer at h
  simp only at h
  split at h
  · assumption
  · cases h

theorem tryBuffer_inv (b b' : Batch) (r : Rec) (pv m : Int) (hb : BatchInv b)
    (h : tryBuffer b r pv m = some b') : BatchInv b' := by
  obtain ⟨rfl, -⟩ := tryBuffer_some h
  constructor
  · simp [appendRecord, wireSum_snoc, hb.wire]; omega
  · simp [appendRecord, v1Sum_snoc, hb.v1]
  · simp only [appendRecord, AllOK_snoc, Nat.zero_add]
    exact ⟨hb.ok, rfl⟩

theorem numsWireLength_pos (n : Nat) : 1 ≤ numsWireLength n := by
  have := varintLen_pos n; simp [numsWireLength]; omega

theorem wireSum_nonneg_batchLength (b : Batch) (h : BatchInv b) : 61 ≤ batchLength b := by
  have := h.batchLength; omega

theorem mem_bufferRecord {bs : List Batch} {r : Rec} {pv m : Int} {b : Batch} (hb : b ∈ (bufferRecord bs r pv m).1) :
    b ∈ bs ∨ ∃ b0, (b0 = newRecordBatch ∨ b0 ∈ bs) ∧ tryBuffer b0 r pv m = some b := by
  have hnew : b ∈ (match tryBuffer newRecordBatch r pv m with
      | some nb => (nb :: bs, true)
      | none => (bs, false)).1 → b ∈ bs ∨ ∃ b0, (b0 = newRecordBatch ∨ b0 ∈ bs) ∧ tryBuffer b0 r pv m = some b := by
    cases hn : tryBuffer newRecordBatch r pv m with
    | none => exact Or.inl
    | some nb =>
      intro hb
      rcases List.mem_cons.1 hb with rfl | hb
      · exact Or.inr ⟨_, Or.inl rfl, hn⟩
      · exact Or.inl hb
  unfold bufferRecord at hb
  cases bs with
  | nil => exact hnew hb
  | cons last rest =>
    simp only at hb
    cases hl : tryBuffer last r pv m with
    | none => rw [hl] at hb; exact hnew hb
    | some b' =>
      rw [hl] at hb
      rcases List.mem_cons.1 hb with rfl | hb
      · exact Or.inr ⟨last, Or.inr (List.mem_cons_self ..), hl⟩
      · exact Or.inl (List.mem_cons_of_mem _ hb)

theorem bufferRecord_rejects (bs : List Batch) (r : Rec) (pv m : Int) :
    (bufferRecord bs r pv m).2 = false ↔
      tryBuffer newRecordBatch r pv m = none ∧ ∀ last ∈ bs.head?, tryBuffer last r pv m = none := by
  unfold bufferRecord
  cases bs with
  | nil => cases tryBuffer newRecordBatch r pv m <;> simp
  | cons last rest =>
    cases hl : tryBuffer last r pv m <;> cases hn : tryBuffer newRecordBatch r pv m <;> simp [hl]

theorem bufferAll_pred (Q : Batch → Prop) (pv m : Int)
    (hstep : ∀ r b b', b = newRecordBatch ∨ Q b → tryBuffer b r pv m = some b' → Q b') (rs : List Rec) (bs : List Batch)
    (h : ∀ b ∈ bs, Q b) : ∀ b ∈ (bufferAll pv m bs rs).1, Q b := by
  induction rs generalizing bs with
  | nil => simpa [bufferAll] using h
  | cons r rs ih =>
    refine ih (bufferRecord bs r pv m).1 fun b hb => ?_
    rcases mem_bufferRecord hb with hb | ⟨b0, hb0, ht⟩
    · exact h b hb
    · exact hstep r b0 b (hb0.imp id (h b0)) ht

theorem maxRecordBatchBytesForTopic_le (c : Cfg) (topic : Bytes) :
    maxRecordBatchBytesForTopic c topic ≤ c.maxRecordBatchBytes := by
  unfold maxRecordBatchBytesForTopic; simp only; omega

theorem rwl_ge (pv : Int) (r : Rec) (n : Nat) : (n : Int) ≤ recordWireLengthFor pv r n := by
  unfold recordWireLengthFor; omega

theorem rwl_ge_ms (pv : Int) (r : Rec) (n : Nat) (h : pv < 3) : messageSet1Length r ≤ recordWireLengthFor pv r n := by
  unfold recordWireLengthFor; omega

theorem tryBuffer_bound (b b' : Batch) (r : Rec) (pv m : Int) (hpv : V2Acct pv)
    (h : tryBuffer b r pv m = some b') : batchLength b' + 1 ≤ m := by
  have hg := bwl_ge pv b hpv
  have hr := rwl_ge pv r (numsWireLength (calculateRecordNumbers b r).1)
  obtain ⟨rfl, hle⟩ := tryBuffer_some h
  simp only [appendRecord, batchLength] at hg ⊢
  omega

/-- `tryBuffer` sizes records as messages for the message-set versions (/repo c322dee) -/
theorem bufferAll_msBound (pv m : Int) (rs : List Rec) :
    ∀ b ∈ (bufferAll pv m [] rs).1, ∀ v, 0 ≤ v → v < 3 → pv < 0 ∨ pv = v → bwl v b ≤ m :=
  bufferAll_pred _ pv m (fun r b b' _ h v h0 h3 hpv => by
    have hr := rwl_ge_ms pv r (numsWireLength (calculateRecordNumbers b r).1) (by omega)
    obtain ⟨rfl, hle⟩ := tryBuffer_some h
    rw [bwl_ms _ h0 h3]
    simp only [appendRecord]
    rcases hpv with hn | rfl
    · have := (bwl_neg b hn).2.1; omega
    · rw [bwl_ms b h0 h3] at hle; omega) rs [] (by simp)

/-- `firstTimestamp + delta` is each record's own timestamp; `maxTimestampDelta` is the largest delta (≥ 0, attained) -/
structure TsInv (b : Batch) : Prop where
  delta : ∀ pr ∈ b.records, b.firstTimestamp + pr.tsDelta = pr.r.ts
  le : ∀ pr ∈ b.records, pr.tsDelta ≤ b.maxTimestampDelta
  empty : b.records = [] → b.maxTimestampDelta = 0
  attained : b.records ≠ [] → ∃ pr ∈ b.records, pr.tsDelta = b.maxTimestampDelta

theorem tsInv_new : TsInv newRecordBatch := by
  constructor <;> simp [newRecordBatch]

theorem tryBuffer_tsInv (b b' : Batch) (r : Rec) (pv m : Int) (hb : TsInv b)
    (h : tryBuffer b r pv m = some b') : TsInv b' := by
  obtain ⟨rfl, -⟩ := tryBuffer_some h
  by_cases he : b.records = []
  · have hm := hb.empty he
    constructor <;> simp [appendRecord, calculateRecordNumbers, he, hm]
  · have hl : ¬ b.records.length = 0 := fun h0 => he (List.length_eq_zero_iff.mp h0)
    constructor
    · intro pr hpr
      simp only [appendRecord, hl, if_false, List.mem_append, List.mem_singleton] at hpr ⊢
      rcases hpr with hpr | rfl
      · exact hb.delta pr hpr
      · simp [calculateRecordNumbers, hl]; omega
    · intro pr hpr
      simp only [appendRecord, hl, if_false, List.mem_append, List.mem_singleton] at hpr ⊢
      rcases hpr with hpr | rfl
      · have := hb.le pr hpr; omega
      · simp only [calculateRecordNumbers, hl, if_false]; omega
    · intro h0; simp [appendRecord] at h0
    · intro _
      simp only [appendRecord, hl, if_false, List.mem_append, List.mem_singleton]
      split
      · exact ⟨_, Or.inr rfl, rfl⟩
      · obtain ⟨pr, hpr, hq⟩ := hb.attained he
        exact ⟨pr, Or.inl hpr, hq⟩

theorem bufferAll_tsInv (pv m : Int) (rs : List Rec) : ∀ b ∈ (bufferAll pv m [] rs).1, TsInv b :=
  bufferAll_pred TsInv pv m (fun r b b' hb h => tryBuffer_tsInv b b' r pv m (hb.elim (· ▸ tsInv_new) id) h) rs [] (by simp)

/-! The accounted length of a record is at least its key, value and header bytes plus 7, so the batch
bound is a bound on the users' bytes *including headers* — the fact a `tryBuffer` that sized a record as a message
(`messageSet1Length`, which has no headers) would lose. -/

def headersBytes : List Header → Nat
  | [] => 0
  | h :: hs => h.key.length + blen h.value + headersBytes hs

def userBytes (r : Rec) : Nat := blen r.key + blen r.value + headersBytes r.headers

def userSum : List PRec → Nat
  | [] => 0
  | pr :: rest => userBytes pr.r + userSum rest

theorem headersBytes_le : ∀ hs : List Header, headersBytes hs + 2 * hs.length ≤ headersLen hs
  | [] => by simp [headersBytes, headersLen]
  | h :: hs => by
    have := headersBytes_le hs
    have := varintLen_pos (h.key.length : Int)
    have := varintLen_pos (blen h.value : Int)
    simp only [headersBytes, headersLen, headerLen, List.length_cons]
    omega

/-- the length field of a record: attributes byte, five varints of at least one byte, and every user byte -/
theorem userBytes_le_recBody (r : Rec) (d : Int) (i : Nat) : userBytes r + 6 ≤ recBody r d i := by
  have := headersBytes_le r.headers
  have := varintLen_pos d
  have := varintLen_pos (i : Int)
  have := varintLen_pos (blen r.key : Int)
  have := varintLen_pos (blen r.value : Int)
  have := varintLen_pos (r.headers.length : Int)
  unfold userBytes recBody
  omega

theorem userSum_le_wireSum (i : Nat) (l : List PRec) (h : AllOK i l) : userSum l + 7 * l.length ≤ wireSum l := by
  induction l generalizing i with
  | nil => simp [userSum, wireSum]
  | cons a l ih =>
    have h1 := ih (i + 1) h.2
    have h2 := userBytes_le_recBody a.r a.tsDelta i
    have h3 : a.length = recBody a.r a.tsDelta i := h.1
    have h4 := varintLen_pos (a.length : Int)
    simp only [userSum, wireSum, numsWireLength, List.length_cons]
    omega

theorem numsWireLength_mono (a b : Nat) (h : a ≤ b) : numsWireLength a ≤ numsWireLength b := by
  have : varintLen a ≤ varintLen b :=
    Proof.C17.lenU_mono (by rw [Proof.C17.zz_natCast, Proof.C17.zz_natCast]; omega)
  simp only [numsWireLength]
  omega

/-- a record's length field is smallest at the head of a batch (both deltas 0, one byte each) -/
theorem lengthField_ge_new (b : Batch) (r : Rec) :
    (calculateRecordNumbers newRecordBatch r).1 ≤ (calculateRecordNumbers b r).1 := by
  have := varintLen_pos (calculateRecordNumbers b r).2
  have := varintLen_pos (b.records.length : Int)
  show recBody r 0 (0 : Nat) ≤ recBody r (calculateRecordNumbers b r).2 b.records.length
  simp only [recBody, varintLen_zero, show varintLen ((0 : Nat) : Int) = 1 from varintLen_zero]
  omega

theorem numsWireLength_new_ge (r : Rec) :
    userBytes r + 7 ≤ numsWireLength (calculateRecordNumbers newRecordBatch r).1 := by
  have := userBytes_le_recBody r 0 (0 : Nat)
  have := varintLen_pos ((recBody r 0 (0 : Nat) : Nat) : Int)
  show userBytes r + 7 ≤ numsWireLength (recBody r 0 (0 : Nat))
  unfold numsWireLength
  omega

theorem tryBuffer_fits_new (b b' : Batch) (r : Rec) (pv m : Int) (hpv : V2Acct pv) (hb : BatchInv b)
    (h : tryBuffer b r pv m = some b') :
    recordBatchOverhead - 4 + numsWireLength (calculateRecordNumbers newRecordBatch r).1 + 1 ≤ m := by
  have hbound := tryBuffer_bound b b' r pv m hpv h
  have hmono := numsWireLength_mono _ _ (lengthField_ge_new b r)
  obtain ⟨rfl, -⟩ := tryBuffer_some h
  have hw := hb.wire
  simp only [appendRecord, batchLength] at hbound
  omega

end Proof.C18
