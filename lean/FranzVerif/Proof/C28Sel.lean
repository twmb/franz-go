import FranzVerif.Model.C28
import FranzVerif.Spec.C28
import FranzVerif.Proof.C28
/-! `doPartition` is two `pickFrom`s around `OnNewBatch` (`doPartition_of_picks`), and a `pickFrom` is one
`partitionN`, the range check and `mapping[pick]` (`pickFrom_of_partitionN`); through these `part_ok` and
`partitionN_keyed` of Proof.C28 become statements about the partition the client places a record on. The mapping
is all partitions whenever `RequiresConsistency` (`mappingOf_consistent`), which for the partitioners with state
holds exactly on the branch that hashes (`requiresConsistency_eq`). -/
namespace Proof.C28
open Model.C28 Spec.C28

/-- `partsData.partitions` is "partition num => partition": the element at index `i` is partition `i`. -/
def Numbered (ps : List Part) : Prop := ∀ (i : Nat) (h : i < ps.length), ps[i].num = i

/-- a mapping the partitioners can be called on: 1 … 2^31-1 partitions (partition counts are int32 on the
wire) whose buffered counters are int64 values. -/
def MappingOk (ps : List Part) : Prop :=
  1 ≤ ps.length ∧ ps.length ≤ 2147483647 ∧ ∀ p ∈ ps, p.buffered ≤ maxInt64

theorem requiresConsistency_eq (k : PKind) (r : Rec) :
    k.requiresConsistency r = ((k.obsKey r).isSome || k.isBasic) := by
  cases k with
  | uniformBytes c =>
    simp only [PKind.requiresConsistency, PKind.obsKey, PKind.isBasic, Bool.or_false]
    cases c.keys <;> simp
  | _ => simp [PKind.requiresConsistency, PKind.obsKey, PKind.isBasic]

theorem rc_of_obsKey (k : PKind) (r : Rec) (key : List UInt8) (h : k.obsKey r = some key) :
    k.requiresConsistency r = true := by
  rw [requiresConsistency_eq, h]; rfl

theorem unhashed_ignores_hasher (k : PKind) (h' : Hasher) (s : PState) (r : Rec) (n : Int) (it : Iter)
    (draws : List Nat) (hkey : k.obsKey r = none) :
    (k.withHasher h').partitionN s r n it draws = k.partitionN s r n it draws := by
  cases k with
  | stickyKey h =>
    simp only [PKind.obsKey] at hkey
    cases s <;> simp [PKind.withHasher, PKind.partitionN, stickyKeyPartition, hkey]
  | uniformBytes c =>
    simp only [PKind.obsKey] at hkey
    cases s <;> simp [PKind.withHasher, PKind.partitionN, UB.partitionByBackup, UB.repick, hkey]
  | _ => rfl

theorem keyed_partitionN (k : PKind) (hk : KindOk k) (r : Rec) (key : List UInt8) (hkey : k.obsKey r = some key)
    (n : Int) (hn : 1 ≤ n) (hn2 : n ≤ 2147483647) :
    ∃ p, kindHasher k key n = some p ∧ 0 ≤ p ∧ p < n ∧
      ∀ s, Inv k s → ∀ (it : Iter) (draws : List Nat), k.partitionN s r n it draws = .ok s p := by
  have hh : HasherOk (kindHasher k) := by
    cases k <;> first | exact hk | simp [PKind.obsKey] at hkey
  obtain ⟨p, hp, h0, h1⟩ := hh key n hn hn2
  exact ⟨p, hp, h0, h1, fun s hs it draws => by rw [partitionN_keyed k s hs r key hkey, hp]⟩

theorem obsKey_newBatch_inv (k : PKind) (s : PState) (hs : Inv k s) : Inv k (k.onNewBatch s) :=
  newBatch_inv k s hs

theorem rejects_iff (p : Int) (len : Nat) : doPartitionRejects p len = false ↔ (0 ≤ p ∧ p < (len : Int)) := by
  unfold doPartitionRejects
  simp only [Bool.or_eq_false_iff, decide_eq_false_iff_not]
  omega

theorem pickFrom_of_partitionN (k : PKind) (s s' : PState) (r : Rec) (ps : List Part) (draws : List Nat) (p : Int)
    (e : k.partitionN s r ps.length (Iter.ofMapping (ps.map (·.buffered))) draws = .ok s' p) (h0 : 0 ≤ p)
    (hi : p.toNat < ps.length) : k.pickFrom s r ps draws = .ok s' ps[p.toNat] := by
  unfold PKind.pickFrom
  rw [e]
  simp only [(rejects_iff p ps.length).2 ⟨h0, by omega⟩, List.getElem?_eq_getElem hi]
  rfl

theorem pickFrom_keyed (k : PKind) (hk : KindOk k) (r : Rec) (key : List UInt8) (hkey : k.obsKey r = some key)
    (ps : List Part) (h1 : 1 ≤ ps.length) (h2 : ps.length ≤ 2147483647) (hnum : Numbered ps) :
    ∃ p part, kindHasher k key ps.length = some p ∧ (part.num : Int) = p ∧ ps[part.num]? = some part ∧
      ∀ s, Inv k s → ∀ draws, k.pickFrom s r ps draws = .ok s part := by
  obtain ⟨p, hp, h0, hlt, he⟩ := keyed_partitionN k hk r key hkey ps.length (by omega) (by omega)
  have hi : p.toNat < ps.length := by omega
  refine ⟨p, ps[p.toNat], hp, by rw [hnum p.toNat hi]; omega, ?_, fun s hs draws =>
    pickFrom_of_partitionN k s s r ps draws p (he s hs _ draws) h0 hi⟩
  rw [hnum p.toNat hi]
  exact List.getElem?_eq_getElem hi

theorem pickFrom_ok (k : PKind) (hk : KindOk k) (s : PState) (hs : Inv k s) (r : Rec) (ps : List Part)
    (hm : MappingOk ps) (draws : List Nat) :
    ∃ s' part, k.pickFrom s r ps draws = .ok s' part ∧ Inv k s' ∧ part ∈ ps := by
  obtain ⟨h1, h2, hb⟩ := hm
  have hv : OpValid k (.part r ps.length (ps.map (·.buffered)) draws) := by
    refine ⟨by omega, by omega, fun _ => ⟨by simp, fun b hb' => ?_⟩⟩
    obtain ⟨q, hq, rfl⟩ := List.mem_map.mp hb'
    exact hb q hq
  obtain ⟨s', p, e, hi, h0, hlt⟩ := part_ok k s r ps.length (ps.map (·.buffered)) draws hk hs hv
  have hidx : p.toNat < ps.length := by omega
  exact ⟨s', ps[p.toNat], pickFrom_of_partitionN k s s' r ps draws p e h0 hidx, hi, List.getElem_mem hidx⟩

theorem mappingOf_consistent (k : PKind) (r : Rec) (t : TopicData) (h : k.requiresConsistency r = true) :
    k.mappingOf r t = t.partitions := by
  unfold PKind.mappingOf; rw [if_pos h]

theorem doPartition_of_picks (k : PKind) (s s₁ s₂ : PState) (t : TopicData) (r : Rec) (d₁ d₂ : List Nat)
    (part part₂ : Part) (hf : t.fatalLoadErr = false) (hne : (k.mappingOf r t).length ≠ 0)
    (e₁ : k.pickFrom s r (k.mappingOf r t) d₁ = .ok s₁ part)
    (e₂ : k.pickFrom (k.onNewBatch s₁) r (k.mappingOf r t) d₂ = .ok s₂ part₂) :
    k.doPartition s t r d₁ d₂ = .placed s₁ part false ∨ k.doPartition s t r d₁ d₂ = .placed s₂ part₂ true := by
  unfold PKind.doPartition
  simp only [hf, Bool.false_eq_true, if_false, if_neg hne, e₁]
  by_cases hc : k.hasOnNewBatch = true ∧ part.room = .newBatch
  · rw [if_pos hc, e₂]; exact Or.inr rfl
  · rw [if_neg hc]; exact Or.inl rfl

theorem doPartition_ok (k : PKind) (hk : KindOk k) (s : PState) (hs : Inv k s) (r : Rec) (t : TopicData)
    (hf : t.fatalLoadErr = false) (hm : MappingOk (k.mappingOf r t)) (d₁ d₂ : List Nat) :
    ∃ s' part b, k.doPartition s t r d₁ d₂ = .placed s' part b ∧ Inv k s' ∧ part ∈ k.mappingOf r t := by
  obtain ⟨s₁, part, e, hi, hmem⟩ := pickFrom_ok k hk s hs r _ hm d₁
  obtain ⟨s₂, part₂, e₂, hi₂, hmem₂⟩ := pickFrom_ok k hk (k.onNewBatch s₁) (newBatch_inv k s₁ hi) r _ hm d₂
  rcases doPartition_of_picks k s s₁ s₂ t r d₁ d₂ part part₂ hf (by have := hm.1; omega) e e₂ with h | h
  · exact ⟨_, _, _, h, hi, hmem⟩
  · exact ⟨_, _, _, h, hi₂, hmem₂⟩

end Proof.C28
