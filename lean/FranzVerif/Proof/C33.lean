import FranzVerif.Model.C33
/-! C33 — three shapes that crashes and restarts preserve.
State logs: a file written as write/sync pairs is, after a crash at any operation, complete frames followed by nothing or a
proper prefix of one frame (`TornOK`, `crash_frames`); `readEntries` returns exactly the complete frames of such a file,
because a proper prefix lacks a header or its intact length field announces more bytes than there are (no CRC assumption);
cutting at the valid length and appending again gives the same shape (`logGenStep_spec`).
Segment file at byte level: the same argument on the length field at byte 8 of a RecordBatch drops a torn last batch
(`loadSegmentAux_torn`), and the walk over complete batches (`AllOK`) stops at the first one without a complete index entry, so
replay yields the first `idx.length / 15` batches, batch k with entry k (`loadSegmentAux_batches_torn`).
Segment and index at record level: the two files hold the same pairs position by position (`ofPairs`), and a generation
adds to them exactly its complete appends and, if the crash kept both records of the append in flight, that pair
(`runGen_ofPairs`: a torn append followed by `recover` is all or nothing); so after any history the disk is `ofPairs` of
what landed, in order (`runGens_ofPairs`).
Partition snapshots: a snapshot never records more bytes than the log has, and every append adds bytes, so its byte sum
equals the current one only while the log is the one it was taken of (`PInv`, `snapshot_matches_only_if_current`). -/
open Model.C33
namespace Proof.C33

def CrcRange (crc : Bytes → Nat) : Prop := ∀ bs, crc bs < 4294967296
def Entry.WF (e : Entry) : Prop := e.version < 65536 ∧ e.data.length + 2 < 4294967296

instance (e : Entry) : Decidable (Entry.WF e) := by unfold Entry.WF; infer_instance

theorem rdLe32_le32 (n : Nat) (h : n < 4294967296) (r : Bytes) : rdLe32 (le32 n ++ r) = n := by
  simp [le32, rdLe32]; omega

theorem rdLe16_le16 (n : Nat) (h : n < 65536) (r : Bytes) : rdLe16 (le16 n ++ r) = n := by
  simp [le16, rdLe16]; omega

theorem le32_length (n : Nat) : (le32 n).length = 4 := by simp [le32]
theorem le16_length (n : Nat) : (le16 n).length = 2 := by simp [le16]

theorem frame_length (crc : Bytes → Nat) (e : Entry) : (frame crc e).length = 10 + e.data.length := by
  simp [frame, le32_length, le16_length]; omega

theorem drop_le32 (n : Nat) (r : Bytes) : (le32 n ++ r).drop 4 = r := List.drop_left' (le32_length n)

theorem readEntriesAux_frame (crc : Bytes → Nat) (hc : CrcRange crc) (e : Entry) (he : Entry.WF e) (fuel : Nat) (rest : Bytes) :
    readEntriesAux crc (fuel + 1) (frame crc e ++ rest) =
      (e :: (readEntriesAux crc fuel rest).1, (frame crc e).length + (readEntriesAux crc fuel rest).2) := by
  obtain ⟨hv, hd⟩ := he
  have hfr : frame crc e ++ rest =
      le32 (2 + e.data.length) ++ (le32 (crc (le16 e.version ++ e.data)) ++ ((le16 e.version ++ e.data) ++ rest)) := by
    simp only [frame, List.append_assoc]
  have hvd : (le16 e.version ++ e.data).length = 2 + e.data.length := by rw [List.length_append, le16_length]
  have hlen : (frame crc e ++ rest).length = 10 + e.data.length + rest.length := by
    rw [List.length_append, frame_length]
  have h1 : rdLe32 (frame crc e ++ rest) = 2 + e.data.length := by
    rw [hfr]; exact rdLe32_le32 _ (by omega) _
  have h2 : rdLe32 ((frame crc e ++ rest).drop 4) = crc (le16 e.version ++ e.data) := by
    rw [hfr, drop_le32]; exact rdLe32_le32 _ (hc _) _
  have h8 : (frame crc e ++ rest).drop 8 = (le16 e.version ++ e.data) ++ rest := by
    rw [hfr, show 8 = 4 + 4 from rfl, ← List.drop_drop, drop_le32, drop_le32]
  have h3 : ((frame crc e ++ rest).drop 8).take (2 + e.data.length) = le16 e.version ++ e.data := by
    rw [h8, ← hvd, List.take_left']; rfl
  have h4 : (frame crc e ++ rest).drop (8 + (2 + e.data.length)) = rest := by
    rw [← List.drop_drop, h8, ← hvd, List.drop_left']; rfl
  have h5 : rdLe16 (le16 e.version ++ e.data) = e.version := rdLe16_le16 _ hv _
  have h6 : (le16 e.version ++ e.data).drop 2 = e.data := List.drop_left' (le16_length _)
  rw [readEntriesAux]
  simp only [hlen, h1, h2, h3, h4, h5, h6, entryHeaderSize, frame_length]
  rw [if_neg (by omega), if_neg (by omega), if_neg (by omega), if_neg (by simp)]
  congr 1; omega

theorem readEntriesAux_fuel (crc : Bytes → Nat) : ∀ (f : Nat) (raw : Bytes) (f' : Nat), raw.length ≤ f → raw.length ≤ f' →
    readEntriesAux crc f raw = readEntriesAux crc f' raw := by
  intro f
  induction f with
  | zero =>
    intro raw f' h _
    have : raw.length = 0 := by omega
    cases f' with
    | zero => rfl
    | succ n => simp [readEntriesAux, entryHeaderSize, this]
  | succ n ih =>
    intro raw f' h h'
    cases f' with
    | zero =>
      have : raw.length = 0 := by omega
      simp [readEntriesAux, entryHeaderSize, this]
    | succ m =>
      rw [readEntriesAux, readEntriesAux]
      by_cases c1 : raw.length < entryHeaderSize
      · simp [c1]
      · by_cases c2 : rdLe32 raw < 2
        · simp [c1, c2]
        · by_cases c3 : 8 + rdLe32 raw > raw.length
          · simp [c1, c2, c3]
          · have hl : (raw.drop (8 + rdLe32 raw)).length ≤ n := by
              simp [List.length_drop]; omega
            have hl' : (raw.drop (8 + rdLe32 raw)).length ≤ m := by
              simp [List.length_drop]; omega
            simp only [ih _ m hl hl']

theorem frames_cons (crc : Bytes → Nat) (e : Entry) (es : List Entry) : frames crc (e :: es) = frame crc e ++ frames crc es := by
  simp [frames]

theorem frames_length_ge (crc : Bytes → Nat) (es : List Entry) : es.length ≤ (frames crc es).length := by
  induction es with
  | nil => simp [frames]
  | cons e es ih => rw [frames_cons, List.length_append, frame_length, List.length_cons]; omega

theorem readEntriesAux_frames (crc : Bytes → Nat) (hc : CrcRange crc) (es : List Entry) (hes : ∀ e ∈ es, Entry.WF e) (f : Nat) (rest : Bytes) :
    readEntriesAux crc (es.length + f) (frames crc es ++ rest) =
      (es ++ (readEntriesAux crc f rest).1, (frames crc es).length + (readEntriesAux crc f rest).2) := by
  induction es with
  | nil => simp [frames]
  | cons e es ih =>
    have he : Entry.WF e := hes e (by simp)
    have hes' : ∀ x ∈ es, Entry.WF x := fun x hx => hes x (by simp [hx])
    have : (e :: es).length + f = (es.length + f) + 1 := by simp; omega
    rw [this, frames_cons, List.append_assoc, readEntriesAux_frame crc hc e he, ih hes']
    simp [List.length_append]; omega

theorem readEntries_frames_append (crc : Bytes → Nat) (hc : CrcRange crc) (es : List Entry) (hes : ∀ e ∈ es, Entry.WF e) (rest : Bytes) :
    readEntries crc (frames crc es ++ rest) =
      (es ++ (readEntries crc rest).1, (frames crc es).length + (readEntries crc rest).2) := by
  unfold readEntries
  rw [readEntriesAux_fuel crc (frames crc es ++ rest).length _ (es.length + (frames crc es ++ rest).length) (Nat.le_refl _) (by omega)]
  rw [readEntriesAux_frames crc hc es hes]
  rw [readEntriesAux_fuel crc (frames crc es ++ rest).length rest rest.length (by simp [List.length_append]) (Nat.le_refl _)]

/-- no CRC assumption: either the header is incomplete, or the length field is intact and announces more bytes than there are. -/
theorem readEntries_partial_frame (crc : Bytes → Nat) (e : Entry) (he : Entry.WF e) (n : Nat) (hn : n < (frame crc e).length) :
    readEntries crc ((frame crc e).take n) = ([], 0) := by
  obtain ⟨hv, hd⟩ := he
  rw [frame_length] at hn
  have hl : ((frame crc e).take n).length = n := by
    rw [List.length_take, frame_length]; omega
  unfold readEntries
  rw [hl]
  cases n with
  | zero => rfl
  | succ m =>
    rw [readEntriesAux, hl, entryHeaderSize]
    by_cases c1 : m + 1 < 10
    · rw [if_pos c1]
    · have h1 : rdLe32 ((frame crc e).take (m + 1)) = 2 + e.data.length := by
        have : (frame crc e).take (m + 1) = le32 (2 + e.data.length) ++
            (le32 (crc (le16 e.version ++ e.data)) ++ (le16 e.version ++ e.data)).take (m + 1 - 4) := by
          rw [frame, List.append_assoc, List.take_append, le32_length, List.take_of_length_le (by rw [le32_length]; omega)]
        rw [this]; exact rdLe32_le32 _ (by omega) _
      rw [if_neg c1]
      simp only [h1]
      rw [if_neg (by omega), if_pos (by omega)]

/-- what can follow the complete frames after a crash: nothing, or a proper prefix of one frame -/
def TornOK (crc : Bytes → Nat) (t : Bytes) : Prop :=
  t = [] ∨ ∃ e n, Entry.WF e ∧ n < (frame crc e).length ∧ t = (frame crc e).take n

theorem tornOK_read (crc : Bytes → Nat) (t : Bytes) (h : TornOK crc t) : readEntries crc t = ([], 0) := by
  rcases h with rfl | ⟨e, n, he, hn, rfl⟩
  · rfl
  · exact readEntries_partial_frame crc e he n hn

theorem readEntries_frames_torn (crc : Bytes → Nat) (hc : CrcRange crc) (es : List Entry) (hes : ∀ e ∈ es, Entry.WF e)
    (t : Bytes) (ht : TornOK crc t) : readEntries crc (frames crc es ++ t) = (es, (frames crc es).length) := by
  rw [readEntries_frames_append crc hc es hes, tornOK_read crc t ht, List.append_nil, Nat.add_zero]

theorem frames_append (crc : Bytes → Nat) (a b : List Entry) : frames crc (a ++ b) = frames crc a ++ frames crc b := by
  simp [frames]

def runF (f : FileSt) (ops : List FOp) : FileSt := ops.foldl FileSt.step f

theorem appendHist_cons (b : Bytes) (r : List Bytes) : appendHist (b :: r) = .write b :: .sync :: appendHist r := by
  simp [appendHist]

theorem crash_appendHist (encs : List Bytes) : ∀ (s0 : Bytes) (k n : Nat),
    ((runF ⟨s0, []⟩ ((appendHist encs).take k)).crash n).all =
      s0 ++ (encs.take (k / 2)).flatten ++ (if k % 2 = 1 then (encs.getD (k / 2) []).take n else []) := by
  induction encs with
  | nil => intro s0 k n; simp [appendHist, runF, FileSt.crash, FileSt.all]
  | cons b r ih =>
    intro s0 k n
    match k with
    | 0 => simp [runF, FileSt.crash, FileSt.all]
    | 1 => simp [appendHist_cons, runF, FileSt.step, FileSt.write, FileSt.crash, FileSt.all]
    | k + 2 =>
      have h1 : (k + 2) / 2 = k / 2 + 1 := by omega
      have h2 : (k + 2) % 2 = k % 2 := by omega
      have := ih (s0 ++ b) k n
      simp only [runF] at this
      simp only [FileSt.all] at this
      simp only [appendHist_cons, runF, List.take_succ_cons, List.foldl_cons, FileSt.step, FileSt.write, FileSt.sync, FileSt.all,
        List.nil_append, h1, h2, List.flatten_cons, List.getD_cons_succ]
      rw [this]
      simp [List.append_assoc]

theorem runF_appendHist (encs : List Bytes) : ∀ s0 : Bytes, runF ⟨s0, []⟩ (appendHist encs) = ⟨s0 ++ encs.flatten, []⟩ := by
  induction encs with
  | nil => intro s0; simp [appendHist, runF]
  | cons b r ih =>
    intro s0
    rw [appendHist_cons, List.flatten_cons, ← List.append_assoc, ← ih (s0 ++ b)]
    rfl

theorem crash_frames (crc : Bytes → Nat) (es : List Entry) (hes : ∀ e ∈ es, Entry.WF e) (s0 : Bytes) (k n : Nat) :
    ∃ m, k / 2 ≤ m ∧ m ≤ k / 2 + 1 ∧ ∃ t, TornOK crc t ∧
      ((runF ⟨s0, []⟩ ((appendHist (es.map (frame crc))).take k)).crash n).all = s0 ++ frames crc (es.take m) ++ t := by
  have hf : ((es.map (frame crc)).take (k / 2)).flatten = frames crc (es.take (k / 2)) := by
    rw [frames, List.map_take]
  rw [crash_appendHist, hf]
  by_cases hfl : k % 2 = 1 ∧ k / 2 < es.length
  · -- a frame is in flight
    obtain ⟨hodd, hlt⟩ := hfl
    have hget : (es.map (frame crc)).getD (k / 2) [] = frame crc es[k / 2] := by
      simp [List.getD_eq_getElem?_getD, hlt]
    rw [if_pos hodd, hget]
    by_cases hn : n < (frame crc es[k / 2]).length
    · exact ⟨k / 2, Nat.le_refl _, by omega, _, .inr ⟨_, _, hes _ (List.getElem_mem hlt), hn, rfl⟩, rfl⟩
    · refine ⟨k / 2 + 1, by omega, Nat.le_refl _, [], .inl rfl, ?_⟩
      rw [List.take_of_length_le (Nat.le_of_not_lt hn), List.take_succ_eq_append_getElem hlt, frames_append]
      simp [frames]
  · refine ⟨k / 2, Nat.le_refl _, by omega, [], .inl rfl, ?_⟩
    congr 1
    split
    · rw [List.getD_eq_getElem?_getD, List.getElem?_eq_none (by rw [List.length_map]; omega)]; exact List.take_nil
    · rfl

-- `FS` read after `set` and after a crash: what `get_run_writeJSON` evaluates `writeJSONOps` with
theorem get_erase_ne (fs : FS) (p q : String) (h : p ≠ q) : (fs.erase p).get q = fs.get q := by
  fun_induction FS.erase fs p <;> simp_all [FS.get]

theorem get_set_eq (fs : FS) (p : String) (f : FileSt) : (fs.set p f).get p = some f := by
  simp [FS.set, FS.get]

theorem get_set_ne (fs : FS) (p q : String) (f : FileSt) (h : p ≠ q) : (fs.set p f).get q = fs.get q := by
  simp [FS.set, FS.get, h, get_erase_ne fs p q h]

theorem get_crash (fs : FS) (keep : String → FileSt → Nat) (p : String) :
    (fs.crash keep).get p = (fs.get p).map (fun f => f.crash (keep p f)) := by
  fun_induction FS.get fs p <;> simp_all [FS.crash, FS.get]

/-- `writeJSONFile` touches `path` with its last operation only: the first three build the temp file, the rename puts it,
synced and holding `data`, at `path`. -/
theorem get_run_writeJSON (fs : FS) (path : String) (data : Bytes) (k : Nat) (hne : path ++ ".tmp" ≠ path) :
    (fs.run ((writeJSONOps path data).take k)).get path = if k < 4 then fs.get path else some ⟨data, []⟩ := by
  have g1 : ((fs.set (path ++ ".tmp") {}).get (path ++ ".tmp")) = some {} := get_set_eq _ _ _
  obtain _ | _ | _ | _ | k := k
  · rfl
  · simp [FS.run, writeJSONOps, FS.apply, get_set_ne _ _ _ _ hne]
  · simp [FS.run, writeJSONOps, FS.apply, g1, get_set_ne _ _ _ _ hne]
  · simp [FS.run, writeJSONOps, FS.apply, g1, get_set_eq, get_set_ne _ _ _ _ hne]
  · rw [if_neg (by omega)]
    simp [FS.run, writeJSONOps, FS.apply, g1, get_set_eq, FileSt.write, FileSt.sync, FileSt.all]

/-- segment and index file holding the pairs `l`, one record of each per pair -/
def ofPairs {β μ} (l : List (β × μ)) : SegIdx β μ := ⟨l.map (·.1), l.map (·.2)⟩

/-- what a generation leaves on disk: its complete appends and, when the crash kept both records of the append in
flight, that pair as well -/
def landed {β μ} (g : Generation β μ) : List (β × μ) :=
  g.done ++ match g.inflight with
    | some (b, m, .both) => [(b, m)]
    | _ => []

theorem paired_ofPairs {β μ} (l : List (β × μ)) : (ofPairs l).paired = l.map fun p => (p.1, some p.2) := by
  induction l with
  | nil => rfl
  | cons x xs ih => exact congrArg (_ :: ·) ih

theorem foldl_append_ofPairs {β μ} (done : List (β × μ)) : ∀ l : List (β × μ),
    done.foldl (fun s bm => s.append bm.1 bm.2) (ofPairs l) = ofPairs (l ++ done) := by
  induction done with
  | nil => intro l; rw [List.append_nil]; rfl
  | cons x xs ih => intro l; rw [List.foldl_cons, List.append_cons, ← ih]; simp [ofPairs, SegIdx.append]

/-- restart after a torn append is all or nothing -/
theorem runGen_ofPairs {β μ} (l : List (β × μ)) (g : Generation β μ) : (ofPairs l).runGen g = ofPairs (l ++ landed g) := by
  unfold SegIdx.runGen landed
  rw [foldl_append_ofPairs, ← List.append_assoc]
  generalize l ++ g.done = L
  rcases g.inflight with _ | ⟨b, m, t⟩
  · simp [ofPairs, SegIdx.recover, List.take_of_length_le]
  · cases t <;> simp [ofPairs, SegIdx.recover, SegIdx.tornAppend, SegIdx.append, List.take_of_length_le]

theorem runGens_ofPairs {β μ} (gs : List (Generation β μ)) : ∀ l : List (β × μ),
    (ofPairs l).runGens gs = ofPairs (l ++ gs.flatMap landed) := by
  induction gs with
  | nil => intro l; rw [List.flatMap_nil, List.append_nil]; rfl
  | cons g gs ih =>
    intro l
    rw [SegIdx.runGens, List.foldl_cons, runGen_ofPairs, ← SegIdx.runGens, ih, List.flatMap_cons, List.append_assoc]

/-- a complete valid RecordBatch as it sits in a segment file, decoding to `b` -/
def BatchOK (crc : Bytes → Nat) (raw : Bytes) (b : Batch) : Prop :=
  raw.length = 12 + beNat (slice raw 8 4) ∧ beNat (slice raw 8 4) ≤ 1073741824 ∧ decodeBatch crc raw = some b

def metaAt (crc : Bytes → Nat) (idx : Bytes) (k : Nat) : IdxMeta :=
  decodeIndexEntry crc (slice idx (k * indexEntrySize) indexEntrySize)

/-- batch k of the file with index entry k -/
def pairIdx (crc : Bytes → Nat) (idx : Bytes) : Nat → List Batch → List (Batch × IdxMeta)
  | _, [] => []
  | k, b :: r => (b, metaAt crc idx k) :: pairIdx crc idx (k + 1) r

/-- `raws` are complete valid batches decoding to `bs` -/
inductive AllOK (crc : Bytes → Nat) : List Bytes → List Batch → Prop
  | nil : AllOK crc [] []
  | cons {raw b raws bs} : BatchOK crc raw b → AllOK crc raws bs → AllOK crc (raw :: raws) (b :: bs)

theorem slice_append_left (a b : Bytes) (lo n : Nat) (h : lo + n ≤ a.length) : slice (a ++ b) lo n = slice a lo n := by
  unfold slice
  rw [List.drop_append_of_le_length (by omega), List.take_append_of_le_length (by simp [List.length_drop]; omega)]

theorem slice_take (a : Bytes) (lo n m : Nat) (h : lo + n ≤ m) : slice (a.take m) lo n = slice a lo n := by
  unfold slice
  rw [List.drop_take, List.take_take]
  congr 1
  omega

theorem loadSegmentAux_batch (crc : Bytes → Nat) (idx : Bytes) (raw : Bytes) (b : Batch) (h : BatchOK crc raw b) (fuel : Nat) (rest : Bytes) (k : Nat) :
    loadSegmentAux crc (some idx) (fuel + 1) (raw ++ rest) k =
      if k * indexEntrySize + indexEntrySize > idx.length then []
      else (b, metaAt crc idx k) :: loadSegmentAux crc (some idx) fuel rest (k + 1) := by
  obtain ⟨hl, hb, hd⟩ := h
  have h12 : 8 + 4 ≤ raw.length := by omega
  have hs : slice (raw ++ rest) 8 4 = slice raw 8 4 := slice_append_left raw rest 8 4 h12
  have ht : (raw ++ rest).take (12 + beNat (slice raw 8 4)) = raw := by rw [← hl, List.take_left']; rfl
  have hdr : (raw ++ rest).drop (12 + beNat (slice raw 8 4)) = rest := by rw [← hl, List.drop_left']; rfl
  rw [loadSegmentAux]
  simp only [hs, ht, hdr, hd, metaAt]
  have a2 : ¬ (beNat (slice raw 8 4) > 1073741824) := by omega
  simp only [List.length_append]
  rw [if_neg (by omega), if_neg a2, if_neg (by omega)]

theorem loadSegmentAux_torn (crc : Bytes → Nat) (idx : Option Bytes) (raw : Bytes) (b : Batch) (h : BatchOK crc raw b) (n : Nat) (hn : n < raw.length)
    (fuel k : Nat) : loadSegmentAux crc idx fuel (raw.take n) k = [] := by
  obtain ⟨hl, hb, hd⟩ := h
  cases fuel with
  | zero => rfl
  | succ f =>
    rw [loadSegmentAux]
    have hlen : (raw.take n).length = n := by rw [List.length_take]; omega
    by_cases c : n < 12
    · simp [hlen, c]
    · have hs : slice (raw.take n) 8 4 = slice raw 8 4 := slice_take raw 8 4 n (by omega)
      have a3 : 12 + beNat (slice raw 8 4) > n := by omega
      simp [hlen, c, hs, a3]

theorem loadSegmentAux_batches_torn (crc : Bytes → Nat) (idx : Bytes) (raws : List Bytes) (bs : List Batch) (h : AllOK crc raws bs)
    (raw0 : Bytes) (b0 : Batch) (h0 : BatchOK crc raw0 b0) (n : Nat) (hn : n < raw0.length) :
    ∀ (fuel k : Nat), raws.length ≤ fuel →
      loadSegmentAux crc (some idx) fuel (raws.flatten ++ raw0.take n) k = pairIdx crc idx k (bs.take (idx.length / indexEntrySize - k)) := by
  induction h with
  | nil => intro fuel k _; simpa [pairIdx] using loadSegmentAux_torn crc (some idx) raw0 b0 h0 n hn fuel k
  | cons hx _ ih =>
    intro fuel k hf
    cases fuel with
    | zero => simp at hf
    | succ f =>
      simp only [List.flatten_cons, List.append_assoc]
      rw [loadSegmentAux_batch crc idx _ _ hx]
      by_cases hk : k * indexEntrySize + indexEntrySize > idx.length
      · have : idx.length / indexEntrySize - k = 0 := by simp only [indexEntrySize] at hk ⊢; omega
        simp [hk, this, pairIdx]
      · obtain ⟨j, hj⟩ : ∃ j, idx.length / indexEntrySize - k = j + 1 := ⟨_, (Nat.sub_add_cancel (by simp only [indexEntrySize] at hk ⊢; omega)).symm⟩
        have hj' : idx.length / indexEntrySize - (k + 1) = j := by omega
        rw [if_neg hk, ih f (k + 1) (by simpa using hf), hj, hj']
        simp [pairIdx]

theorem flatten_length_ge (crc : Bytes → Nat) (raws : List Bytes) (bs : List Batch) (h : AllOK crc raws bs) :
    raws.length ≤ raws.flatten.length := by
  induction h with
  | nil => simp
  | cons hx _ ih => simp only [List.flatten_cons, List.length_append, List.length_cons]; have := hx.1; omega

def LogGenWF (g : LogGen) : Prop := ∀ e ∈ g.es, Entry.WF e

instance (g : LogGen) : Decidable (LogGenWF g) := by unfold LogGenWF; infer_instance

theorem logGenStep_spec (crc : Bytes → Nat) (hc : CrcRange crc) (X : List Entry) (hX : ∀ e ∈ X, Entry.WF e)
    (t : Bytes) (ht : TornOK crc t) (g : LogGen) (hg : LogGenWF g) :
    ∃ m, g.k / 2 ≤ m ∧ m ≤ g.k / 2 + 1 ∧ ∃ t', TornOK crc t' ∧
      logGenStep crc (frames crc X ++ t) g = frames crc (X ++ g.es.take m) ++ t' := by
  obtain ⟨m, h1, h2, t', ht', hcr⟩ := crash_frames crc g.es hg (frames crc X) g.k g.n
  refine ⟨m, h1, h2, t', ht', ?_⟩
  unfold logGenStep
  rw [readEntries_frames_torn crc hc X hX t ht, List.take_left' rfl, frames_append]
  -- `logGenStep` writes the run out as `foldl FileSt.step`, which is `runF` unfolded
  exact hcr

theorem runLog_spec (crc : Bytes → Nat) (hc : CrcRange crc) (gs : List LogGen) :
    (∀ g ∈ gs, LogGenWF g) → ∀ (X : List Entry) (t : Bytes), (∀ e ∈ X, Entry.WF e) → TornOK crc t →
    ∃ ms, LogBounds gs ms ∧ (∀ e ∈ X ++ pickLog gs ms, Entry.WF e) ∧ ∃ t', TornOK crc t' ∧
      gs.foldl (logGenStep crc) (frames crc X ++ t) = frames crc (X ++ pickLog gs ms) ++ t' := by
  induction gs with
  | nil => intro _ X t hX ht; exact ⟨[], trivial, by simpa [pickLog] using hX, t, ht, by simp [pickLog]⟩
  | cons g gs ih =>
    intro hgs X t hX ht
    obtain ⟨m, h1, h2, t1, ht1, hs⟩ := logGenStep_spec crc hc X hX t ht g (hgs g (by simp))
    have hX' : ∀ e ∈ X ++ g.es.take m, Entry.WF e := by
      intro e he
      rcases List.mem_append.mp he with h | h
      · exact hX e h
      · exact hgs g (by simp) e (List.mem_of_mem_take h)
    obtain ⟨ms, hb, hwf, t', ht', hr⟩ := ih (fun x hx => hgs x (by simp [hx])) (X ++ g.es.take m) t1 hX' ht1
    refine ⟨m :: ms, ⟨h1, h2, hb⟩, ?_, t', ht', ?_⟩
    · simpa only [pickLog, List.append_assoc] using hwf
    · simp only [List.foldl_cons, hs, hr, pickLog, List.append_assoc]

theorem sum_addLast (l : List Nat) (j : Nat) : (addLast l j).sum = l.sum + j := by
  induction l with
  | nil => by_cases h : j = 0 <;> simp [addLast, h]
  | cons x r ih =>
    cases r with
    | nil => simp [addLast]
    | cons y r' => simp only [addLast, List.sum_cons] at ih ⊢; omega

theorem rbBytes_append (a b : List RB) : rbBytes (a ++ b) = rbBytes a + rbBytes b := by
  simp [rbBytes, List.sum_append]

theorem rbRecs_append (a b : List RB) : rbRecs (a ++ b) = rbRecs a + rbRecs b := by
  simp [rbRecs, List.sum_append]

theorem sum_bytes_flatten (segs : List (List RB)) : (segs.map rbBytes).sum = rbBytes segs.flatten := by
  induction segs with
  | nil => rfl
  | cons s r ih => simp [List.flatten_cons, rbBytes_append, ih]

theorem sum_bytes_filter (segs : List (List RB)) :
    ((segs.filter (fun s => !s.isEmpty)).map rbBytes).sum = rbBytes segs.flatten := by
  induction segs with
  | nil => rfl
  | cons s r ih =>
    cases s with
    | nil => simpa [List.filter, rbBytes] using ih
    | cons b bs =>
      have : rbBytes (b :: (bs ++ r.flatten)) = rbBytes (b :: bs) + rbBytes r.flatten := by
        rw [← rbBytes_append]; rfl
      simp [List.filter, ih, this]

theorem sizes_sum (d : PDisk) : d.sizes.sum = rbBytes d.segs.flatten + d.junk := by
  simp [PDisk.sizes, sum_addLast, sum_bytes_flatten]

/-- a snapshot on disk records no more bytes than the log has, and as many only while its high watermark is the log's:
every append adds bytes -/
def PInv (d : PDisk) : Prop :=
  ∀ sz h, d.snap = some (sz, h) → sz.sum ≤ rbBytes d.segs.flatten ∧ (sz.sum = rbBytes d.segs.flatten → h = d.count)

theorem pinv_step {d d' : PDisk} (hi : PInv d) (hs : PStep d d') : PInv d' := by
  cases hs with
  | append b segs' hj hb hf =>
    intro sz h hsn
    have hb' : rbBytes [b] = b.size := by simp [rbBytes]
    have := (hi sz h hsn).1
    simp only [hf, rbBytes_append, hb']
    omega
  | crash segs' j hf => simpa only [PInv, PDisk.count, hf] using hi
  | restart => exact hi
  | close hj =>
    intro sz h hsn
    cases hsn
    exact ⟨Nat.le_of_eq (sum_bytes_filter d.segs), fun _ => rfl⟩

theorem pinv_reach {d : PDisk} (h : PReach d) : PInv d := by
  induction h with
  | init => exact fun sz h hs => nomatch hs
  | step _ hs ih => exact pinv_step ih hs

theorem snapshot_matches_only_if_current {d : PDisk} (hi : PInv d) (sz : List Nat) (h : Nat) (hs : d.snap = some (sz, h))
    (hm : sz.sum = d.sizes.sum) : h = d.count ∧ d.junk = 0 := by
  obtain ⟨h1, h2⟩ := hi sz h hs
  rw [sizes_sum] at hm
  exact ⟨h2 (by omega), by omega⟩

end Proof.C33
