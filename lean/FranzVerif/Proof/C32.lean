import FranzVerif.Model.C32
import FranzVerif.Proof.ListFacts
/-! C32 — a request reaches the partition logs (`State.parts`) only through `pushBatch`, `endTxPart` and
`deleteRecords`; everything else it changes lies outside `parts` (producer table, sessions, clock, leaders). So a
predicate of one partition that these three keep (`Pres I`) holds of every partition after every history (`run_inv`).
`PInv` is the first such predicate: the log is contiguous up to the high watermark, and the LSO kfake maintains
incrementally (`pushBatch` adds `n` or leaves it, `recalculateLSO` recomputes it) is at all times `minUnc hwm unc`,
the minimum over the open transactions. -/
namespace Proof.C32
open Model.C32

/-- adjacent batches touch and the last one ends at `e`. -/
def Contig : List Batch → Int → Prop
  | [], _ => True
  | [b], e => b.first + b.n = e
  | b :: c :: r, e => b.first + b.n = c.first ∧ Contig (c :: r) e

structure PInv (pd : Part) : Prop where
  contig : Contig pd.batches pd.hwm
  lso : pd.lso = minUnc pd.hwm pd.unc
  unc_le : ∀ e ∈ pd.unc, e.2 ≤ pd.hwm

theorem minUnc_cons (h p o : Int) (r : List (Int × Int)) : minUnc h ((p, o) :: r) = min o (minUnc h r) := by
  by_cases hlt : o < minUnc h r <;> simp [minUnc, hlt, Int.min_def] <;> omega

theorem minUnc_le (h : Int) (l : List (Int × Int)) : minUnc h l ≤ h := by
  induction l with
  | nil => exact Int.le_refl h
  | cons e r ih => obtain ⟨p, o⟩ := e; rw [minUnc_cons]; omega

theorem minUnc_le_mem (h : Int) (l : List (Int × Int)) : ∀ e ∈ l, minUnc h l ≤ e.2 := by
  induction l with
  | nil => simp
  | cons e r ih =>
    obtain ⟨p, o⟩ := e
    intro x hx
    rw [minUnc_cons]
    rcases List.mem_cons.1 hx with rfl | hx
    · show min o _ ≤ o; omega
    · have := ih x hx; omega

/-- `minUnc` folds from `h`, so its value is an entry's offset only if an entry is `≤ h`; `PInv.unc_le` gives that for all. -/
theorem minUnc_attained (h : Int) (l : List (Int × Int)) (hne : l ≠ []) (hle : ∀ e ∈ l, e.2 ≤ h) :
    ∃ e ∈ l, minUnc h l = e.2 := by
  induction l with
  | nil => exact absurd rfl hne
  | cons e r ih =>
    obtain ⟨p, o⟩ := e
    rw [minUnc_cons]
    by_cases ho : o ≤ minUnc h r
    · exact ⟨(p, o), List.mem_cons_self, by show min o _ = o; omega⟩
    · by_cases hr : r = []
      · have : o ≤ h := hle (p, o) List.mem_cons_self
        subst hr
        exact absurd this ho
      · obtain ⟨x, hx, hm⟩ := ih hr (fun y hy => hle y (List.mem_cons_of_mem _ hy))
        exact ⟨x, List.mem_cons_of_mem _ hx, by omega⟩

/-- this is what makes `pushBatch` leaving the LSO alone correct while a transaction is open. -/
theorem minUnc_raise (h h' : Int) (l : List (Int × Int)) (hne : l ≠ []) (hle : ∀ e ∈ l, e.2 ≤ h) (hh : h ≤ h') :
    minUnc h' l = minUnc h l := by
  induction l with
  | nil => exact absurd rfl hne
  | cons e r ih =>
    obtain ⟨p, o⟩ := e
    rw [minUnc_cons, minUnc_cons]
    by_cases hr : r = []
    · have : o ≤ h := hle (p, o) List.mem_cons_self
      subst hr
      show min o h' = min o h
      omega
    · rw [ih hr (fun y hy => hle y (List.mem_cons_of_mem _ hy))]

theorem minUnc_append (h : Int) (l : List (Int × Int)) (p o : Int) :
    minUnc h (l ++ [(p, o)]) = minUnc (min o h) l := by
  induction l with
  | nil => rw [List.nil_append, minUnc_cons]; rfl
  | cons e r ih => obtain ⟨q, x⟩ := e; rw [List.cons_append, minUnc_cons, minUnc_cons, ih]

theorem contig_snoc (bs : List Batch) (e : Int) (x : Batch) (hx : x.first = e) (h : Contig bs e) :
    Contig (bs ++ [x]) (e + x.n) := by
  induction bs with
  | nil => exact congrArg (· + x.n) hx
  | cons a r ih =>
    cases r with
    | nil => exact ⟨h.trans hx.symm, congrArg (· + x.n) hx⟩
    | cons c r2 => exact ⟨h.1, ih h.2⟩

theorem contig_tail (a : Batch) (r : List Batch) (e : Int) (h : Contig (a :: r) e) : Contig r e := by
  cases r with
  | nil => trivial
  | cons c r2 => exact h.2

theorem contig_dropWhile (f : Batch → Bool) (bs : List Batch) (e : Int) (h : Contig bs e) : Contig (bs.dropWhile f) e := by
  induction bs with
  | nil => exact h
  | cons a r ih =>
    rw [List.dropWhile_cons]
    split
    · exact ih (contig_tail a r e h)
    · exact h

theorem uncSet_of_le (unc : List (Int × Int)) (p off : Int) (hle : ∀ ex, unc.lookup p = some ex → ex ≤ off) :
    uncSet unc p off = if (unc.lookup p).isSome then unc else unc ++ [(p, off)] := by
  unfold uncSet
  cases hlk : unc.lookup p with
  | some ex => have := hle ex hlk; exact if_neg (by omega)
  | none => rfl

theorem pinv_init : PInv ({} : Part) := ⟨trivial, rfl, by simp⟩

/-- `pd'` is `pd` after the batch `x` went in at the high watermark: a marker closes its producer's open transaction
(an abort leaves an index entry for it) and recomputes the LSO, transactional data opens a transaction unless one is open.
Both log appends are instances; what an invariant has to survive is this, once. -/
structure Appended (pd pd' : Part) (x : Batch) : Prop where
  batches : pd'.batches = pd.batches ++ [x]
  first : x.first = pd.hwm
  hwm : pd'.hwm = pd.hwm + x.n
  n : 1 ≤ x.n
  ctl1 : x.ctl = true → x.n = 1
  unc : pd'.unc = if x.ctl = true then pd.unc.filter (fun e => e.1 != x.pid)
    else if x.txn = true ∧ pd.unc.lookup x.pid = none then pd.unc ++ [(x.pid, pd.hwm)] else pd.unc
  aborted : pd'.aborted = pd.aborted ++
    if x.ctl = true ∧ x.commit = false then ((pd.unc.lookup x.pid).map (⟨x.pid, ·, pd.hwm⟩)).toList else []
  lso : pd'.lso = if x.ctl = true then minUnc pd'.hwm pd'.unc else if pd'.unc.isEmpty then pd.lso + x.n else pd.lso

/-- `hle`: the producer's open transaction, if any, starts at or below the high watermark, so `uncSet` keeps it. -/
theorem pushBatch_appended (pd : Part) (b : Batch) (t : Bool) (hn : 1 ≤ b.n) (hctl : b.ctl = false) (htx : b.txn = t)
    (hle : ∀ ex, pd.unc.lookup b.pid = some ex → ex ≤ pd.hwm) :
    Appended pd (pushBatch pd b t) { b with first := pd.hwm } where
  batches := rfl
  first := rfl
  hwm := rfl
  n := hn
  ctl1 hc := by simp [hctl] at hc
  aborted := by simp [pushBatch, hctl]
  lso := by simp [pushBatch, hctl]
  unc := by
    subst htx
    rw [if_neg (by simp [hctl])]
    cases ht : b.txn
    · simp [pushBatch, ht]
    · show uncSet pd.unc b.pid pd.hwm = _
      rw [uncSet_of_le pd.unc b.pid pd.hwm hle]
      cases pd.unc.lookup b.pid <;> simp

theorem endTxPart_appended (pd : Part) (pid epoch : Int) (commit : Bool) :
    Appended pd (endTxPart pd pid epoch commit) ⟨pd.hwm, 1, pid, epoch, -1, true, true, commit, ctlBytes⟩ := by
  have hl : ∀ l : List (Int × Int), (if l.isEmpty then pd.hwm + 1 else minUnc (pd.hwm + 1) l) = minUnc (pd.hwm + 1) l := by
    intro l; cases l <;> rfl
  unfold endTxPart recalcLSO pushBatch
  cases commit <;> cases h : pd.unc.lookup pid <;>
    exact ⟨rfl, rfl, rfl, Int.le_refl _, fun _ => rfl, rfl, by simp [h], hl _⟩

theorem pinv_appended {pd pd' : Part} {x : Batch} (h : PInv pd) (ha : Appended pd pd' x) : PInv pd' := by
  obtain ⟨hc, hl, hu⟩ := h
  have hn := ha.n
  refine ⟨by rw [ha.batches, ha.hwm]; exact contig_snoc _ _ _ ha.first hc, ?_, ?_⟩
  · rw [ha.lso]
    split
    · rfl
    · -- a data batch: `pushBatch` moves the LSO with the high watermark exactly when no transaction is open
      rename_i hctl
      have hunc := ha.unc
      rw [if_neg hctl] at hunc
      rw [ha.hwm]
      split at hunc <;> rw [hunc]
      · rw [if_neg (by simp), minUnc_append, hl]
        congr 1; omega
      · by_cases hne : pd.unc = []
        · rw [hne] at hl ⊢
          show pd.lso + x.n = pd.hwm + x.n
          rw [hl]; rfl
        · rw [if_neg (by simpa using hne), hl]
          exact (minUnc_raise pd.hwm (pd.hwm + x.n) pd.unc hne hu (by omega)).symm
  · intro e he
    rw [ha.hwm]
    rw [ha.unc] at he
    split at he
    · have := hu e (List.mem_filter.1 he).1; omega
    · split at he
      · rcases List.mem_append.1 he with he | he
        · have := hu e he; omega
        · rw [List.mem_singleton.1 he]; show pd.hwm ≤ _; omega
      · have := hu e he; omega

theorem deleteRecords_fst (pd : Part) (off : Int) :
    (deleteRecords pd off).1 = pd ∨
    (deleteRecords pd off).1 = trimLeft { pd with logStart := if off == -1 then pd.hwm else off } := by
  fun_cases deleteRecords pd off
  · exact .inl rfl
  · exact .inr rfl

theorem pinv_delete (pd : Part) (off : Int) (h : PInv pd) : PInv (deleteRecords pd off).1 := by
  rcases deleteRecords_fst pd off with e | e <;> rw [e]
  · exact h
  · exact ⟨contig_dropWhile _ _ _ h.contig, h.lso, h.unc_le⟩

theorem walk_prefix (rc : Bool) (lso mb pm : Int) (bs : List Batch) (pb nb : Int) (ad : Nat) :
    ∃ rest, bs = (walk rc lso mb pm bs pb nb ad).1 ++ rest := by
  fun_induction walk rc lso mb pm bs pb nb ad
  case case5 ih =>
    obtain ⟨rest, hr⟩ := ih
    exact ⟨rest, congrArg (_ :: ·) hr⟩
  all_goals exact ⟨_, rfl⟩

theorem walk_below_lso (lso mb pm : Int) (bs : List Batch) (pb nb : Int) (ad : Nat) :
    ∀ m ∈ (walk true lso mb pm bs pb nb ad).1, m.first < lso := by
  fun_induction walk true lso mb pm bs pb nb ad
  case case5 h _ _ _ ih => exact List.forall_mem_cons.2 ⟨by simpa using h, ih⟩
  all_goals exact fun _ h => nomatch h

/-- The entries of a fetch response, one constructor for each way `fetchLoop` answers a partition. -/
inductive Entry (parts : List Part) (rc : Bool) (mb unk : Int) : PResp → Prop
  | unknown (p : Nat) : Entry parts rc mb unk ⟨p, unk, 0, -1, -1, [], []⟩
  | notLeader (p : Nat) : Entry parts rc mb unk ⟨p, 6, 0, -1, -1, [], []⟩
  | atEnd {p : Nat} {pd : Part} : parts[p]? = some pd → Entry parts rc mb unk ⟨p, 0, pd.hwm, pd.lso, pd.logStart, [], []⟩
  | outOfRange {p : Nat} {pd : Part} : parts[p]? = some pd →
      Entry parts rc mb unk ⟨p, 1, pd.hwm, pd.lso, pd.logStart, [], []⟩
  | found {p : Nat} {pd : Part} {bs : List Batch} (o pm nb : Int) (ad : Nat) : parts[p]? = some pd →
      searchOffset pd o = .found bs →
      Entry parts rc mb unk ⟨p, 0, pd.hwm, pd.lso, pd.logStart, (walk rc pd.lso mb pm bs 0 nb ad).1,
        if rc then abortedFor pd.aborted o (walk rc pd.lso mb pm bs 0 nb ad).1 else []⟩

theorem fetchLoop_mem (parts : List Part) (rc : Bool) (mb unk : Int) (lead : Nat → Bool) (reqs : List FReq)
    (nb : Int) (ad : Nat) : ∀ r ∈ fetchLoop parts rc mb unk lead reqs nb ad, Entry parts rc mb unk r := by
  fun_induction fetchLoop parts rc mb unk lead reqs nb ad
  case case1 => exact fun r hr => nomatch hr
  case case2 ih => exact List.forall_mem_cons.2 ⟨.unknown _, ih⟩
  case case3 ih => exact List.forall_mem_cons.2 ⟨.notLeader _, ih⟩
  case case4 ih => exact List.forall_mem_cons.2 ⟨.atEnd ‹_›, ih⟩
  case case5 ih => exact List.forall_mem_cons.2 ⟨.outOfRange ‹_›, ih⟩
  case case6 => exact List.forall_mem_singleton.2 (.found _ _ _ _ ‹_› ‹_›)
  case case7 ih => exact List.forall_mem_cons.2 ⟨.found _ _ _ _ ‹_› ‹_›, ih⟩

/-- The hypothesis of the all-histories theorems on a produce request. Only `1 ≤ n` is used (`step_inv`). `0 ≤ seq` is
used by no proof and leaves out the batches of a producer without id, which carry sequence −1 on the wire (the
non-vacuity histories of `Props/C32` contain such batches). -/
def Op.valid : Op → Prop
  | .prod _ _ _ seq n _ _ _ => 1 ≤ n ∧ 0 ≤ seq
  | _ => True

/-- what an invariant of one partition must be preserved by: the three log operations, `pushBatch` under what
`produce` guarantees of the batch it pushes (`Op.valid`, a data batch, the `inTx` argument is its transactional bit). -/
structure Pres (I : Part → Prop) : Prop where
  push : ∀ pd b t, 1 ≤ b.n → b.ctl = false → b.txn = t → I pd → I (pushBatch pd b t)
  endTx : ∀ pd k e c, I pd → I (endTxPart pd k e c)
  del : ∀ pd off, I pd → I (deleteRecords pd off).1

def AllI (I : Part → Prop) (s : State) : Prop := ∀ pd ∈ s.parts, I pd

theorem setProd_parts (s : State) (k : Int) (p : Prod) : (setProd s k p).parts = s.parts := by
  unfold setProd; split <;> rfl

theorem pidsGet_parts (s : State) (v12 : Bool) (k : Int) (p : Nat) (tx : Bool) : (pidsGet s v12 k p tx).1.parts = s.parts := by
  fun_cases pidsGet s v12 k p tx <;> simp only [setProd_parts]

theorem getOrCreate_parts (s : State) (k e : Int) (tx : Bool) (f : Option Prod) : (getOrCreate s k e tx f).1.parts = s.parts := by
  fun_cases getOrCreate s k e tx f <;> simp only [setProd_parts]

theorem produce_append_aux (s : State) (v12 : Bool) (k epoch seq n nbytes : Int) (p : Nat) (tx : Bool) :
    (produce s v12 k epoch seq n nbytes p tx).1.parts = s.parts ∨
    ∃ pd, s.parts[p]? = some pd ∧
      (produce s v12 k epoch seq n nbytes p tx).1.parts = s.parts.set p (pushBatch pd ⟨0, n, k, epoch, seq, tx, false, false, nbytes⟩ tx) ∧
      (produce s v12 k epoch seq n nbytes p tx).2.1 = 0 ∧ (produce s v12 k epoch seq n nbytes p tx).2.2.1 = pd.hwm := by
  -- two branches append (no producer id; accepted by the window); on the way to them only the producer table changes
  fun_cases produce s v12 k epoch seq n nbytes p tx
  case case4 | case10 =>
    refine .inr ⟨_, ‹_›, ?_, rfl, rfl⟩
    simp +zetaDelta only [setPart, setProd_parts, getOrCreate_parts, pidsGet_parts, apply_ite State.parts, ite_self]
  all_goals exact .inl (by simp +zetaDelta only [setProd_parts, getOrCreate_parts, pidsGet_parts])

theorem pushBatch_hwm (pd : Part) (b : Batch) (t : Bool) : (pushBatch pd b t).hwm = pd.hwm + b.n := rfl

theorem pushBatch_offsets (pd : Part) (b : Batch) (t : Bool) :
    (pushBatch pd b t).batches = pd.batches ++ [{ b with first := pd.hwm }] ∧ (pushBatch pd b t).hwm = pd.hwm + b.n := ⟨rfl, rfl⟩

theorem fetch_parts (s : State) (f : FetchOp) (ord : List Nat) : (Model.C32.fetch s f ord).1.parts = s.parts := by
  fun_cases Model.C32.fetch s f ord <;> simp +zetaDelta only [apply_ite State.parts, ite_self]

theorem init_inv {I : Part → Prop} (h0 : I {}) (np : Nat) : AllI I (init np) := by
  intro pd hpd
  simp only [init, List.mem_replicate] at hpd
  exact hpd.2 ▸ h0

section
variable {I : Part → Prop}

/-- `AllI` reads `State.parts` only. Every `*_inv` lemma below is this (a branch that changes other fields), `Pres` (a branch
that applies a log operation to one partition, `List.forall_mem_set`), or both. -/
theorem allI_congr {s s' : State} (e : s'.parts = s.parts) : AllI I s' ↔ AllI I s := by unfold AllI; rw [e]

theorem allI_setProd {s : State} {k : Int} {p : Prod} : AllI I (setProd s k p) ↔ AllI I s := allI_congr (setProd_parts s k p)

theorem addParts_inv (s : State) (k e : Int) (ps : List Nat) (h : AllI I s) : AllI I (addParts s k e ps).1 := by
  fun_cases addParts s k e ps <;> simp +zetaDelta only [allI_setProd, h]

variable (hp : Pres I)
include hp

theorem endTx_inv (s : State) (k : Int) (pr : Prod) (c : Bool) (h : AllI I s) : AllI I (endTx s k pr c) := by
  have h : ∀ pd ∈ s.parts, I pd := h
  unfold AllI endTx
  rw [setProd_parts]
  simp only
  generalize pr.txParts = l
  generalize s.parts = ps at h
  induction l generalizing ps with
  | nil => simpa using h
  | cons q r ih =>
    simp only [List.foldl_cons]
    apply ih
    split
    · rename_i pd hpd
      exact List.forall_mem_set h (hp.endTx pd k pr.epoch c (h pd (List.mem_of_getElem? hpd)))
    · exact h

theorem expireOne_inv (s s' : State) (hs' : expireOne s = some s') (h : AllI I s) : AllI I s' := by
  revert hs'
  fun_cases expireOne s <;> intro hs' <;> cases hs' <;> exact endTx_inv hp s _ _ false h

theorem expire_inv (f : Nat) (s : State) (h : AllI I s) : AllI I (expire f s) := by
  induction f generalizing s with
  | zero => exact h
  | succ f ih =>
    rw [expire]
    cases hs : expireOne s with
    | none => exact h
    | some s' => exact ih s' (expireOne_inv hp s s' hs h)

theorem expireAll_inv (s : State) (h : AllI I s) : AllI I (expireAll s) := expire_inv hp _ s h

/- The coordinator requests: every branch answers with `s` or with `endTx s …`, at most with another producer table. -/

theorem initx_inv (s : State) (k t : Int) (h : AllI I s) : AllI I (initx s k t).1 := by
  have h1 := fun pr => endTx_inv hp s k pr false h
  fun_cases initx s k t <;> simp +zetaDelta only [allI_setProd, apply_ite (AllI I), h, h1, ite_self]

theorem initr_inv (s : State) (k e : Int) (h : AllI I s) : AllI I (initr s k e).1 := by
  have h1 := fun pr => endTx_inv hp s k pr false h
  fun_cases initr s k e <;> simp +zetaDelta only [allI_setProd, apply_ite (AllI I), h, h1, ite_self, initx_inv hp s k _ h]

theorem endTxn_inv (s : State) (v : Bool) (k e : Int) (c : Bool) (h : AllI I s) : AllI I (endTxn s v k e c).1 := by
  have h1 := fun pr => endTx_inv hp s k pr c h
  fun_cases endTxn s v k e c <;> simp +zetaDelta only [allI_setProd, h, h1]

theorem waitStep_inv (s : State) (rc : Bool) (w : Watch) (d : Int) (r : State × Watch × Bool) (h : AllI I s)
    (hr : waitStep s rc w d = some r) : AllI I r.1 := by
  revert hr
  fun_cases waitStep s rc w d <;> intro hr <;> cases hr
  rename_i hx
  exact expireOne_inv hp _ _ hx h

theorem waitLoop_inv (n : Nat) (s : State) (rc : Bool) (w : Watch) (d : Int) (h : AllI I s) :
    AllI I (waitLoop n s rc w d) := by
  fun_induction waitLoop n s rc w d
  case case1 | case2 => exact h
  case case3 hstep => exact waitStep_inv hp _ _ _ _ _ h hstep
  case case4 hstep _ ih => exact ih (waitStep_inv hp _ _ _ _ _ h hstep)

theorem fetchW_inv (s : State) (f : FetchOp) (ord : List Nat) (h : AllI I s) : AllI I (fetchW s f ord).1 := by
  fun_cases fetchW s f ord
  case case3 =>
    -- the session part that runs before the wait does not touch the partitions
    refine (allI_congr (fetch_parts _ _ _)).2 (waitLoop_inv hp _ _ _ _ _ ((allI_congr ?_).2 h))
    simp +zetaDelta only [apply_ite State.parts, ite_self]
  all_goals exact (allI_congr (fetch_parts _ _ _)).2 h

theorem step_inv (s : State) (o : Op) (hv : Op.valid o) (h : AllI I s) : AllI I (step s o).1 := by
  cases o with
  | initx k t => exact expireAll_inv hp _ (initx_inv hp s k t h)
  | initr k e => exact expireAll_inv hp _ (initr_inv hp s k e h)
  | addp k e ps => exact expireAll_inv hp _ (addParts_inv s k e ps h)
  | endt v k e c => exact expireAll_inv hp _ (endTxn_inv hp s v k e c h)
  | sleep ms => exact expireAll_inv hp _ h
  | fetch f ord => exact expireAll_inv hp _ (fetchW_inv hp s f ord h)
  | prod v k e q n nb p tx =>
    refine expireAll_inv hp _ ?_
    rcases produce_append_aux s v k e q n nb p tx with h1 | ⟨pd, hpd, h1, -, -⟩
    · exact (allI_congr h1).2 h
    · unfold AllI; rw [h1]
      exact List.forall_mem_set h (hp.push pd _ tx hv.1 rfl rfl (h pd (List.mem_of_getElem? hpd)))
  | del p off =>
    simp only [step]
    split
    · exact h
    · rename_i pd hpd
      split
      · exact expireAll_inv hp s h
      · exact expireAll_inv hp _ (List.forall_mem_set h (hp.del pd off (h pd (List.mem_of_getElem? hpd))))
  | move p b => simp only [step]; split <;> exact h
  | via b => simp only [step]; split <;> exact h

theorem run_inv (ops : List Op) (hv : ∀ o ∈ ops, Op.valid o) (s : State) (h : AllI I s) : AllI I (run s ops) := by
  induction ops generalizing s with
  | nil => exact h
  | cons o os ih => exact ih (fun o' ho' => hv o' (List.mem_cons_of_mem _ ho')) _ (step_inv hp s o (hv o List.mem_cons_self) h)

end

theorem pres_pinv : Pres PInv :=
  ⟨fun pd b t hn hc ht h =>
    pinv_appended h (pushBatch_appended pd b t hn hc ht fun _ hx => h.unc_le _ (List.mem_of_lookup_eq_some hx)),
   fun pd k e c h => pinv_appended h (endTxPart_appended pd k e c), pinv_delete⟩

end Proof.C32
