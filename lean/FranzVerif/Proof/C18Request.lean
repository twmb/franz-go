import FranzVerif.Proof.C18Batch
/-! C18 — the accounting of a request. `p.wireLength` = base length + the closed form `reqAcct` of what `tryAddBatch` adds is
kept by `tryAddBatch` (`tryAddBatch_acct`, from the equation `reqAcct_addBatch`); what the serialisers of partition and topic
write `Fits` the same closed forms layer by layer (`…_length`), and `appendRequest_length` puts the request's frame around
that; `createReq_pred` carries a predicate kept by every admitted step to what `createReq` builds. -/
namespace Proof.C18
open Model.C18
open Spec.C17 (byte encU lenU be zz)

/-! `tryAddBatch` accounts, per partition, 4 bytes of partition index, the batch at the known version and one byte
for the tag section when the version is flexible or unknown; per topic its name or id, the partition-array length
and a tag byte when flexible (while the version is unknown: a topic id's worth where the name is short); and the
growth of the compact topics-array length. The `…N` definitions are that accounting in closed form. -/

/-- the partitions of a topic without their tag sections (Produce v0–v8) -/
def partsAcct (pv : Int) : List PartBatch → Int
  | [] => 0
  | p :: ps => 4 + bwl pv p.batch + partsAcct pv ps

theorem partsAcct_snoc (pv : Int) (l : List PartBatch) (x : PartBatch) :
    partsAcct pv (l ++ [x]) = partsAcct pv l + (4 + bwl pv x.batch) := by
  induction l with
  | nil => simp [partsAcct]
  | cons a l ih => simp [partsAcct, ih]; omega

/-- the partition tag byte `tryAddBatch` accounts: flexible or version unknown -/
def tagP (pv : Int) : Int := if pv ≥ 9 ∨ pv < 0 then 1 else 0

/-- what `tryAddBatch` accounts for a new topic -/
def topicOverheadN (pv : Int) (topic : Bytes) : Int :=
  if pv ≥ 13 then 16 + 1 + 1
  else if pv ≥ 9 then uvarlen topic.length + topic.length + 1 + 1
  else if pv < 0 ∧ (2 + (topic.length : Int) + 4 < 16 + 4 + 1) then 16 + 4 + 1
  else 2 + topic.length + 4

def partsAcctN (pv : Int) : List PartBatch → Int
  | [] => 0
  | p :: ps => 4 + bwl pv p.batch + tagP pv + partsAcctN pv ps

def topicAcctN (pv : Int) (t : TopicBatches) : Int :=
  topicOverheadN pv t.topic + (if pv ≥ 9 then uvarlen t.parts.length - 1 else 0) + partsAcctN pv t.parts

def topicsAcctN (pv : Int) : List TopicBatches → Int
  | [] => 0
  | t :: ts => topicAcctN pv t + topicsAcctN pv ts

/-- the whole accounting of a request's topics: per topic, per partition, and the compact topics-array length
beyond its first byte -/
def reqAcct (pv : Int) (ts : List TopicBatches) : Int :=
  topicsAcctN pv ts + (if pv ≥ 9 then uvarlen ts.length - 1 else 0)

theorem partsAcctN_snoc (pv : Int) (l : List PartBatch) (x : PartBatch) :
    partsAcctN pv (l ++ [x]) = partsAcctN pv l + (4 + bwl pv x.batch + tagP pv) := by
  induction l with
  | nil => simp [partsAcctN]
  | cons a l ih => simp [partsAcctN, ih]; omega

/-- what `tryAddBatch` adds, apart from the growth of the topics-array length -/
def addLen (pv : Int) (topic : Bytes) (existing : Option Nat) (b : Batch) : Int :=
  4 + bwl pv b + tagP pv + (match existing with
    | none => topicOverheadN pv topic
    | some n => if pv ≥ 9 then uvarlen (n + 1) - uvarlen n else 0)

theorem wlfpv_eq (b : Batch) (pv : Int) :
    wireLengthForProduceVersion b pv = (bwl pv b, decide (pv ≥ 9), decide (pv ≥ 13)) := by
  refine Prod.ext rfl ?_
  fun_cases wireLengthForProduceVersion b pv <;> simp <;> omega

theorem tryAddBatchLength_eq (pv : Int) (topic : Bytes) (existing : Option Nat) (nt : Nat) (b : Batch) :
    tryAddBatchLength pv topic existing nt b =
      addLen pv topic existing b + (if existing.isNone ∧ pv ≥ 9 then uvarlen (nt + 1) - uvarlen nt else 0) := by
  unfold tryAddBatchLength addLen topicOverheadN tagP
  rw [wlfpv_eq]
  have hcases : pv < 0 ∨ (0 ≤ pv ∧ pv < 9) ∨ (9 ≤ pv ∧ pv < 13) ∨ 13 ≤ pv := by omega
  cases existing with
  | none =>
    rcases hcases with h | h | h | h
    · simp [h, show ¬ pv ≥ 9 by omega, show ¬ pv ≥ 13 by omega]; omega
    · simp [show ¬ pv < 0 by omega, show ¬ pv ≥ 9 by omega, show ¬ pv ≥ 13 by omega]; omega
    · simp [show ¬ pv < 0 by omega, show pv ≥ 9 by omega, show ¬ pv ≥ 13 by omega]; omega
    · simp [show ¬ pv < 0 by omega, show pv ≥ 9 by omega, show pv ≥ 13 by omega]; omega
  | some n =>
    by_cases h9 : pv ≥ 9
    · simp [h9, show ¬ pv < 0 by omega]; omega
    · by_cases h0 : pv < 0 <;> simp [h9, h0] <;> omega

theorem addBatch_acct (pv : Int) (ts : List TopicBatches) (topic topicID : Bytes) (pb : PartBatch) :
    topicsAcctN pv (addBatch ts topic topicID pb) =
      topicsAcctN pv ts + addLen pv topic (findParts ts topic) pb.batch := by
  unfold addLen
  fun_induction addBatch ts topic topicID pb with
  | case1 =>
    simp [findParts, topicsAcctN, topicAcctN, partsAcctN, uvarlen_lt 1]
    omega
  | case2 t rest ht =>
    simp only [findParts, if_pos ht, topicsAcctN, topicAcctN, partsAcctN_snoc, List.length_append, List.length_cons,
      List.length_nil, Nat.zero_add]
    omega
  | case3 t rest ht ih =>
    simp only [findParts, if_neg ht, topicsAcctN]
    rw [ih]; omega

theorem addBatch_length (ts : List TopicBatches) (topic topicID : Bytes) (pb : PartBatch) :
    (addBatch ts topic topicID pb).length = ts.length + (if (findParts ts topic).isNone then 1 else 0) := by
  fun_induction addBatch ts topic topicID pb with
  | case1 => simp [findParts]
  | case2 t rest ht => simp [findParts, ht]
  | case3 t rest ht ih => simp only [findParts, if_neg ht, List.length_cons, ih]; omega

theorem tryAddBatch_some {limit pv : Int} {p p' : ReqState} {topic topicID : Bytes} {pb : PartBatch}
    (h : tryAddBatch limit pv p topic topicID pb = some p') :
    p'.batches = addBatch p.batches topic topicID pb ∧ p'.wireLength ≤ limit ∧
      p'.wireLength = p.wireLength + tryAddBatchLength pv topic (findParts p.batches topic) p.batches.length pb.batch := by
  unfold tryAddBatch at h
  simp only at h
  split at h
  · simp at h
  · obtain rfl := Option.some.inj h
    exact ⟨rfl, by simp only; omega, rfl⟩

theorem reqAcct_nil (pv : Int) : reqAcct pv [] = 0 := by simp [reqAcct, topicsAcctN, uvarlen_lt 0]

theorem reqAcct_addBatch (pv : Int) (ts : List TopicBatches) (topic topicID : Bytes) (pb : PartBatch) :
    reqAcct pv (addBatch ts topic topicID pb) =
      reqAcct pv ts + tryAddBatchLength pv topic (findParts ts topic) ts.length pb.batch := by
  unfold reqAcct
  rw [addBatch_acct, addBatch_length, tryAddBatchLength_eq]
  cases findParts ts topic with
  | none =>
    simp only [Option.isNone_none, true_and, if_true]
    omega
  | some n =>
    simp only [Option.isNone_some, Bool.false_eq_true, false_and, if_false, Nat.add_zero]
    omega

theorem tryAddBatch_acct {base limit pv : Int} {p p' : ReqState} {topic topicID : Bytes} {pb : PartBatch}
    (hp : p.wireLength = base + reqAcct pv p.batches) (h : tryAddBatch limit pv p topic topicID pb = some p') :
    p'.wireLength = base + reqAcct pv p'.batches := by
  obtain ⟨hb, -, hw⟩ := tryAddBatch_some h
  rw [hb, reqAcct_addBatch, hw, hp, Int.add_assoc]

theorem mem_rotate {α : Type} (xs : List α) (k : Nat) (x : α) (h : x ∈ rotate xs k) : x ∈ xs := by
  unfold rotate at h
  split at h
  · exact h
  · rcases List.mem_append.1 h with h | h
    · exact List.mem_of_mem_drop h
    · exact List.mem_of_mem_take h

theorem createReq_pred (Q : ReqState → Prop) (c : Cfg) (pv : Int) (start : Nat) (rbs : List RecBuf)
    (h0 : Q { wireLength := baseProduceRequestLength c, batches := [] })
    (hstep : ∀ p p' rb b, rb ∈ rbs → b ∈ rb.pending → Q p →
      tryAddBatch c.maxBrokerWriteBytes pv p rb.topic rb.topicID ⟨rb.partition, rb.seq, b⟩ = some p' → Q p') :
    Q (createReq c pv start rbs).1 := by
  have pass : ∀ (l : List RecBuf) (p : ReqState), (∀ rb ∈ l, rb ∈ rbs) → Q p →
      Q (createReqPass c.maxBrokerWriteBytes pv p l).1 := by
    intro l
    induction l with
    | nil => exact fun p _ hp => hp
    | cons rb rest ih =>
      intro p hl hp
      have hrest := fun r hr => hl r (List.mem_cons_of_mem _ hr)
      unfold createReqPass
      cases hpend : rb.pending with
      | nil => exact ih p hrest hp
      | cons b more =>
        simp only
        cases hadd : tryAddBatch c.maxBrokerWriteBytes pv p rb.topic rb.topicID ⟨rb.partition, rb.seq, b⟩ with
        | none => exact ih p hrest hp
        | some p1 =>
          exact ih p1 hrest (hstep p p1 rb b (hl rb (List.mem_cons_self ..)) (hpend ▸ List.mem_cons_self ..) hp hadd)
  exact pass (rotate rbs start) _ (fun rb h => mem_rotate _ _ _ h) h0

def PartsInv : List PartBatch → Prop
  | [] => True
  | p :: ps => (BatchInv p.batch ∧ p.batch.records ≠ []) ∧ PartsInv ps

/-- every batch satisfies the batch invariant and holds a record, topic ids are 16 bytes -/
def TopicsInv : List TopicBatches → Prop
  | [] => True
  | t :: ts => PartsInv t.parts ∧ t.topicID.length = 16 ∧ TopicsInv ts

/-- the length of a version-dependent part, as an integer `if` that `omega` reads -/
theorem length_ite {c : Prop} [Decidable c] (a b : Bytes) :
    ((if c then a else b).length : Int) = if c then (a.length : Int) else b.length := by
  split <;> rfl

theorem partAppendTo_length (e : Env) (v pid ep : Int) (tx : Bool) (pb : PartBatch) (h0 : 0 ≤ v)
    (h : BatchInv pb.batch ∧ pb.batch.records ≠ []) :
    Fits (3 ≤ v ∧ e.comp = none) (partAppendTo e v pid ep tx pb).length (4 + bwl v pb.batch + tagP v) := by
  unfold partAppendTo tagP
  rw [List.length_append, List.length_append, beI_length, Int.natCast_add, Int.natCast_add, length_ite (c := v ≥ 9)]
  refine ((Fits.of_eq rfl).add ?_).add (.of_eq (by simp only [List.length_cons, List.length_nil]; omega))
  by_cases h3 : v < 3
  · rw [if_pos h3]
    exact ⟨appendToAsMessageSet_le e.crc32 e.comp pb v h0 h3 h.1 h.2, fun hx => absurd hx.1 (by omega)⟩
  · rw [if_neg h3]
    exact (batchAppendTo_bwl e.crc32c e.comp pb v pid ep tx (by omega) h.1).mono (·.2)

theorem partsAppendTo_length (e : Env) (v pid ep : Int) (tx : Bool) (ps : List PartBatch) (h0 : 0 ≤ v)
    (h : PartsInv ps) : Fits (3 ≤ v ∧ e.comp = none) (partsAppendTo e v pid ep tx ps).length (partsAcctN v ps) := by
  induction ps with
  | nil => exact .of_eq rfl
  | cons p ps ih =>
    rw [partsAppendTo, partsAcctN, List.length_append, Int.natCast_add]
    exact (partAppendTo_length e v pid ep tx p h0 h.1).add (ih h.2)

theorem topicAppendTo_frame (e : Env) (v pid ep : Int) (tx : Bool) (t : TopicBatches) (h0 : 0 ≤ v)
    (hid : t.topicID.length = 16) :
    ((topicAppendTo e v pid ep tx t).length : Int) + partsAcctN v t.parts =
      topicAcctN v t + (partsAppendTo e v pid ep tx t.parts).length := by
  have hnp := uvarlen_eq t.parts.length
  have hlt := uvarlen_eq t.topic.length
  unfold topicAppendTo topicAcctN topicOverheadN
  by_cases h13 : v ≥ 13
  · simp only [h13, show v ≥ 9 by omega, if_true, List.length_append, compactArrayLen, uvarint_length, hid,
      Int.natCast_add, List.length_cons, List.length_nil]
    omega
  · by_cases h9 : v ≥ 9
    · simp only [h13, h9, if_true, if_false, List.length_append, compactArrayLen, compactString_length, uvarint_length,
        Int.natCast_add, List.length_cons, List.length_nil]
      omega
    · simp only [h13, h9, show ¬ v < 0 by omega, false_and, if_false, List.length_append, arrayLen, string16_length,
        beI_length, Int.natCast_add, List.length_nil]
      omega

theorem topicsAppendTo_length (e : Env) (v pid ep : Int) (tx : Bool) (ts : List TopicBatches) (h0 : 0 ≤ v)
    (h : TopicsInv ts) : Fits (3 ≤ v ∧ e.comp = none) (topicsAppendTo e v pid ep tx ts).length (topicsAcctN v ts) := by
  induction ts with
  | nil => exact .of_eq rfl
  | cons t ts ih =>
    rw [topicsAppendTo, topicsAcctN, List.length_append, Int.natCast_add]
    exact ((partsAppendTo_length e v pid ep tx t.parts h0 h.1).frame (topicAppendTo_frame e v pid ep tx t h0 h.2.1)).add
      (ih h.2.2)

/-- Flexible versions stay a byte below the accounting: the 4-byte topics-array slot of the base
length holds a compact length, the 2-byte transactional-id slot a compact string of at most 16382 bytes, and the
header's tag byte is not accounted; without a transactional id (and without compressor) it is exactly two bytes. -/
theorem appendRequest_length (e : Env) (c : Cfg) (v corr pid ep : Int) (ts : List TopicBatches)
    (h0 : 0 ≤ v) (htxn : v ≥ 9 → blen c.txnId ≤ 16382) (h : TopicsInv ts) :
    ((appendRequest e c v corr pid ep ts).length : Int) + (if v ≥ 9 then 1 else 0)
        ≤ baseProduceRequestLength c + reqAcct v ts ∧
      (3 ≤ v → e.comp = none → (v ≥ 9 → c.txnId = none) →
        ((appendRequest e c v corr pid ep ts).length : Int) + (if v ≥ 9 then 2 else 0)
          = baseProduceRequestLength c + reqAcct v ts) := by
  have ⟨ht, ht'⟩ := topicsAppendTo_length e v pid ep c.txnId.isSome ts h0 h
  have hu := uvarlen_eq ts.length
  unfold appendRequest requestAppendTo baseProduceRequestLength reqAcct
  by_cases h9 : v ≥ 9
  · have htx := compactNullableString_length_le c.txnId (htxn h9)
    simp only [if_pos h9, if_pos (show v ≥ 3 by omega), List.length_append, beI_length, nullableString_length, compactArrayLen,
      uvarint_length, List.length_cons, List.length_nil, Int.natCast_add]
    refine ⟨by omega, fun h3 hc hn => ?_⟩
    have := ht' ⟨h3, hc⟩
    have : (compactNullableString c.txnId).length = 1 := by
      rw [hn h9, compactNullableString, uvarint_length, uvarintLen_lt (by omega)]
    have : blen c.txnId = 0 := by rw [hn h9]; rfl
    omega
  · simp only [if_neg h9, List.length_append, Int.natCast_add, length_ite, beI_length, nullableString_length, arrayLen,
      List.length_nil]
    exact ⟨by omega, fun h3 hc _ => by have := ht' ⟨h3, hc⟩; omega⟩

/-! The accounting at the unknown version dominates the accounting at every written version, up to what the estimate
of a topic leaves over (`flexSlack`). -/

/-- what the unknown-version estimate of a topic (`max(2+lt+4, 16+4+1)`) leaves over once the topic is written
at the flexible version `v`: 4 bytes of partition-array length against the compact length of a topic-id topic
(v13), 6 bytes of name and partition-array lengths against the two compact lengths of a named topic (v9–v12),
minus the topic's tag byte -/
def flexSlack (v : Int) (t : TopicBatches) : Int :=
  if v ≥ 13 then 4 - uvarlen t.parts.length else 5 - uvarlen t.topic.length - uvarlen t.parts.length

def slackSum (v : Int) : List TopicBatches → Int
  | [] => 0
  | t :: ts => flexSlack v t + slackSum v ts

/-- every topic fits its unknown-version estimate -/
def FlexFit (v : Int) (ts : List TopicBatches) : Prop := ∀ t ∈ ts, 0 ≤ flexSlack v t
/-- every topic fits with a byte to spare -/
def FlexSpare (v : Int) (ts : List TopicBatches) : Prop := ∀ t ∈ ts, 1 ≤ flexSlack v t

theorem slackSum_ge (v : Int) (k : Int) (ts : List TopicBatches) (h : ∀ t ∈ ts, k ≤ flexSlack v t) :
    k * ts.length ≤ slackSum v ts := by
  induction ts with
  | nil => simp [slackSum]
  | cons t ts ih =>
    have h1 := h t (List.mem_cons_self ..)
    have h2 := ih (fun x hx => h x (List.mem_cons_of_mem _ hx))
    simp only [slackSum, List.length_cons, Int.natCast_add, Int.mul_add]; omega

theorem partsAcctN_le_unknown (v : Int) (h0 : 0 ≤ v) (ps : List PartBatch) : partsAcctN v ps ≤ partsAcctN (-1) ps := by
  induction ps with
  | nil => exact Int.le_refl _
  | cons p ps ih =>
    have := bwl_le_unknown v h0 p.batch
    simp only [partsAcctN, tagP]
    omega

theorem topicAcctN_le_unknown (v : Int) (h0 : 0 ≤ v) (t : TopicBatches) :
    topicAcctN v t + (if v ≥ 9 then flexSlack v t else 0) ≤ topicAcctN (-1) t := by
  have hp := partsAcctN_le_unknown v h0 t.parts
  unfold topicAcctN topicOverheadN flexSlack
  omega

theorem topicsAcctN_le_unknown (v : Int) (h0 : 0 ≤ v) (ts : List TopicBatches) :
    topicsAcctN v ts + (if v ≥ 9 then slackSum v ts else 0) ≤ topicsAcctN (-1) ts := by
  induction ts with
  | nil => simp [topicsAcctN, slackSum]
  | cons t ts ih =>
    have h1 := topicAcctN_le_unknown v h0 t
    simp only [topicsAcctN, slackSum]
    omega

/-- version unknown while accounting (the topic estimate is `max(2+lt+4, 16+4+1)`, /repo d9ff59f): what is
written at any version 0–13 is at most the accounting. For a flexible written version the hypotheses are: the
transactional id is at most 16382 bytes (config validation), every topic fits its estimate (`FlexFit`: at v13
fewer than 2^28-1 partitions of the topic in the request; at v9–v12 the compact lengths of the topic name and
of its partition count take at most 5 bytes together), and either the request holds fewer than 16383 topics or
every topic fits with a byte to spare (`FlexSpare`) -/
theorem appendRequest_le_unknown (e : Env) (c : Cfg) (v corr pid ep : Int) (ts : List TopicBatches)
    (h0 : 0 ≤ v) (h : TopicsInv ts)
    (hs : v ≥ 9 → blen c.txnId ≤ 16382 ∧ FlexFit v ts ∧ (ts.length < 16383 ∨ FlexSpare v ts)) :
    ((appendRequest e c v corr pid ep ts).length : Int) ≤ baseProduceRequestLength c + reqAcct (-1) ts := by
  have hl := (appendRequest_length e c v corr pid ep ts h0 (fun h9 => (hs h9).1) h).1
  have ht := topicsAcctN_le_unknown v h0 ts
  unfold reqAcct at hl ⊢
  by_cases h9 : v ≥ 9
  · obtain ⟨-, hfit, hT⟩ := hs h9
    have hnn := slackSum_ge v 0 ts hfit
    have hTl : uvarlen ts.length ≤ 2 + slackSum v ts := by
      rcases hT with hT | hT
      · have := uvarintLen_le 2 (n := 1 + ts.length) (by omega) (by omega)
        rw [uvarlen_eq]; omega
      · have := slackSum_ge v 1 ts hT
        have := uvarlen_le_succ ts.length
        omega
    omega
  · omega

def RbInv (rb : RecBuf) : Prop := (∀ b ∈ rb.pending, BatchInv b ∧ b.records ≠ []) ∧ rb.topicID.length = 16

theorem partsInv_snoc (l : List PartBatch) (x : PartBatch) (hl : PartsInv l) (hx : BatchInv x.batch ∧ x.batch.records ≠ []) : PartsInv (l ++ [x]) := by
  induction l with
  | nil => exact ⟨hx, trivial⟩
  | cons a l ih => exact ⟨hl.1, ih hl.2⟩

theorem addBatch_topicsInv (ts : List TopicBatches) (topic topicID : Bytes) (pb : PartBatch)
    (h : TopicsInv ts) (hb : BatchInv pb.batch ∧ pb.batch.records ≠ []) (hid : topicID.length = 16) : TopicsInv (addBatch ts topic topicID pb) := by
  fun_induction addBatch ts topic topicID pb with
  | case1 => exact ⟨⟨hb, trivial⟩, hid, trivial⟩
  | case2 t rest _ => exact ⟨partsInv_snoc _ _ h.1 hb, h.2.1, h.2.2⟩
  | case3 t rest _ ih => exact ⟨h.1, h.2.1, ih h.2.2⟩

theorem createReq_topicsInv (c : Cfg) (pv : Int) (start : Nat) (rbs : List RecBuf) (hr : ∀ rb ∈ rbs, RbInv rb) :
    TopicsInv (createReq c pv start rbs).1.batches :=
  createReq_pred (fun p => TopicsInv p.batches) c pv start rbs trivial
    fun _ _ rb b hrb hb hp h => (tryAddBatch_some h).1 ▸ addBatch_topicsInv _ _ _ _ hp ((hr rb hrb).1 b hb) (hr rb hrb).2

end Proof.C18
