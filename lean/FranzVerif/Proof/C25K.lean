import FranzVerif.Proof.C25
/-! kfake's `assignUniform` keeps prior claims in three nested loops that thread a `seen` list; `Keeps V seen K seen'` is
the one contract all three meet and `Keeps.append` composes them, so no partition is kept twice (`keepMembers_keeps`).
Shedding splits what a member kept into stay + shed, in multiplicity (`kShed_count`); since nothing was kept twice, what
stays is what was kept and not shed, each once, and together with the partitions that are not (kept and not shed) it is a
permutation of all partitions (`perm_stay_append_rest`, a fact about lists), which is what `validPlan_of_tps` asks of
`kFinish_valid`. `assignRange` goes through `validPlan_flatMap` as franz-go's range does. -/
namespace Proof.C25
open Model.C25

theorem validPlan_perm (subs subs' : List (String × List String)) (h : subs.Perm subs') (n : String → Nat)
    (P : List Triple) : validPlan subs n P = validPlan subs' n P := by
  unfold validPlan
  congr 1
  · congr 1; funext x; rw [h.any_eq]
  · exact (h.flatMap_right _).all_eq

theorem kSubsOf_perm (assignor : String) (ms0 : List KMember) :
    ((kSortIDs assignor (ms0.filter (!·.away))).map fun m => (m.id, m.subs)).Perm (kSubsOf ms0) := by
  unfold kSortIDs
  split <;> exact (sortBy_perm _ _).map _

theorem cnt_eq_zero_of_lookup_none (snap : List (String × Nat)) (t : String) (h : (snap.lookup t).isSome ≠ true) :
    cnt snap t = 0 := by
  unfold cnt
  cases hl : snap.lookup t with
  | none => rfl
  | some v => simp [hl] at h

theorem kRangeTopic_parts (ms : List KMember) (snap : List (String × Nat)) (t : String)
    (h : ∃ m ∈ ms, m.subs.contains t = true) :
    (kRangeTopic ms snap t).map (·.2.2) = List.range (cnt snap t) := by
  obtain ⟨m, hm, hc⟩ := h
  have hne : (ms.filter fun m => m.subs.contains t) ≠ [] := List.ne_nil_of_mem (List.mem_filter.mpr ⟨hm, hc⟩)
  unfold kRangeTopic
  simp only []
  generalize (ms.filter fun m => m.subs.contains t) = subs at hne
  rw [tagK_eq, map_part_tagged _ _ _ _ (by rw [length_splitBy, List.length_map, length_indexFrom]; exact Nat.le_refl _),
    flatten_splitBy, sum_quotas_all _ subs hne, List.take_of_length_le (by simp)]

theorem mem_kRangeTopic (ms : List KMember) (snap : List (String × Nat)) (t : String) (x : Triple)
    (hx : x ∈ kRangeTopic ms snap t) : x.2.1 = t ∧ ∃ c ∈ ms, x.1 = c.id ∧ c.subs.contains t = true := by
  unfold kRangeTopic at hx
  simp only [tagK_eq] at hx
  obtain ⟨h1, c, hc, h2⟩ := mem_tagged _ _ _ _ _ hx
  have := List.mem_filter.mp hc
  exact ⟨h1, c, this.1, h2, this.2⟩

theorem mem_kTopicsSorted (ms : List KMember) (snap : List (String × Nat)) (t : String) :
    t ∈ kTopicsSorted ms snap ↔ t ∈ ms.flatMap (·.subs) ∧ (snap.lookup t).isSome = true := by
  unfold kTopicsSorted
  rw [(sortBy_perm _ _).mem_iff, List.mem_filter, kSubscribed, mem_dedup]

theorem nodup_kTopicsSorted (ms : List KMember) (snap : List (String × Nat)) : (kTopicsSorted ms snap).Nodup := by
  unfold kTopicsSorted
  rw [(sortBy_perm _ _).nodup_iff]
  exact (nodup_dedup _).sublist List.filter_sublist

theorem kAssignRange_valid (ms : List KMember) (snap : List (String × Nat)) :
    validPlan (ms.map fun m => (m.id, m.subs)) (cnt snap) (kAssignRange ms snap) = true := by
  refine validPlan_flatMap _ _ _ (nodup_kTopicsSorted ms snap) (fun t ht hn => ?_) _ (fun t _ x hx => ?_)
    (fun t ht => ?_)
  · exact cnt_eq_zero_of_lookup_none snap t fun h =>
      hn ((mem_kTopicsSorted ms snap t).mpr ⟨flatMap_subs KMember.id KMember.subs ms ▸ ht, h⟩)
  · obtain ⟨h1, c, hc, h2, h3⟩ := mem_kRangeTopic ms snap t x hx
    exact ⟨h1, sub_of_member KMember.id KMember.subs ⟨c, hc, h2, List.contains_iff_mem.mp h3⟩⟩
  · obtain ⟨m, hm, h⟩ := List.mem_flatMap.mp ((mem_kTopicsSorted ms snap t).mp ht).1
    rw [kRangeTopic_parts ms snap t ⟨m, hm, List.contains_iff_mem.mpr h⟩]

theorem flatTPs_cons (e : String × List Nat) (l : List (String × List Nat)) :
    flatTPs (e :: l) = e.2.map (fun p => (e.1, p)) ++ flatTPs l := by
  simp [flatTPs]

theorem mem_flatTPs (l : List (String × List Nat)) (tp : TP) :
    tp ∈ flatTPs l ↔ ∃ e ∈ l, e.1 = tp.1 ∧ tp.2 ∈ e.2 := by
  unfold flatTPs
  simp only [List.mem_flatMap, List.mem_map]
  constructor
  · rintro ⟨e, he, p, hp, rfl⟩; exact ⟨e, he, rfl, hp⟩
  · rintro ⟨e, he, h1, h2⟩; exact ⟨e, he, tp.2, h2, by rw [h1]⟩

theorem flatTPs_ite (t : String) (ps : List Nat) (l : List (String × List Nat)) :
    flatTPs (if ps.isEmpty = true then l else (t, ps) :: l) = ps.map (fun p => (t, p)) ++ flatTPs l := by
  cases hk : ps.isEmpty with
  | true => simp [List.isEmpty_iff.mp hk]
  | false => simp [flatTPs_cons]

theorem kShed_count (l : List (String × List Nat)) (e : Nat) (x : TP) :
    List.count x (flatTPs (kShed l e).1) + List.count x (kShed l e).2 = List.count x (flatTPs l) := by
  induction l generalizing e with
  | nil => simp [kShed, flatTPs]
  | cons a as ih =>
    unfold kShed
    by_cases he : e = 0
    · simp [he]
    · simp only [he, if_false, flatTPs_ite, flatTPs_cons, List.count_append]
      have hsplit : List.count x ((a.2.take (a.2.length - min e a.2.length)).map fun p => ((a.1, p) : TP))
          + List.count x ((a.2.drop (a.2.length - min e a.2.length)).map fun p => ((a.1, p) : TP))
          = List.count x (a.2.map fun p => ((a.1, p) : TP)) := by
        rw [← List.count_append, ← List.map_append, List.take_append_drop]
      have := ih (e - min e a.2.length)
      omega

/-- a claim that may be kept by member `m`: it subscribes to the topic and the partition exists. -/
structure ValidClaim (snap : List (String × Nat)) (m : KMember) (tp : TP) : Prop where
  subscribed : m.subs.contains tp.1 = true
  known : (snap.lookup tp.1).isSome = true
  inRange : tp.2 < cnt snap tp.1

theorem mem_kKept (snap : List (String × Nat)) (m : KMember) (tp : TP) (h : tp ∈ flatTPs (kKept snap m)) :
    m.subs.contains tp.1 = true ∧ (snap.lookup tp.1).isSome = true ∧ tp.2 < cnt snap tp.1 := by
  obtain ⟨e, he, h1, h2⟩ := (mem_flatTPs _ _).mp h
  unfold kKept at he
  obtain ⟨e0, _, hsome⟩ := List.mem_filterMap.mp he
  simp only [] at hsome
  split at hsome
  · cases hsome
  · cases hsome
    have := (List.mem_filter.mp h2).2
    simp only [Bool.and_eq_true, decide_eq_true_eq] at this
    rw [← h1]
    exact ⟨this.2, this.1.1, this.1.2⟩

theorem keepParts_spec (V : TP → Prop) (ok : Nat → Bool) (t : String) (hV : ∀ p, ok p = true → V (t, p))
    (seen : List TP) (ps : List Nat) :
    Keeps V seen ((keepParts ok t seen ps).1.map fun p => (t, p)) (keepParts ok t seen ps).2 := by
  induction ps generalizing seen with
  | nil => exact Keeps.nil V seen
  | cons p ps ih =>
    unfold keepParts
    split
    · next h =>
      simp only [Bool.and_eq_true, Bool.not_eq_true', ← Bool.not_eq_true, List.contains_iff_mem] at h
      exact Keeps.append (K₁ := [(t, p)])
        ⟨by simp, fun tp htp => List.mem_singleton.mp htp ▸ ⟨hV p h.1, h.2⟩, fun _ => by
          rw [List.mem_cons, List.mem_singleton, or_comm]⟩ (ih _)
    · exact ih seen

theorem keepEntries_spec (snap : List (String × Nat)) (m : KMember) (seen : List TP) (es : List (String × List Nat)) :
    Keeps (ValidClaim snap m) seen (flatTPs (keepEntries snap m seen es).1) (keepEntries snap m seen es).2 := by
  induction es generalizing seen with
  | nil => exact Keeps.nil _ seen
  | cons e es ih =>
    unfold keepEntries
    simp only []
    rw [flatTPs_ite]
    refine (keepParts_spec (ValidClaim snap m) _ e.1 (fun p hp => ?_) seen e.2).append (ih _)
    simp only [Bool.and_eq_true, decide_eq_true_eq] at hp
    exact ⟨hp.2, hp.1.1, hp.1.2⟩

theorem length_keepMembers (snap : List (String × Nat)) (seen : List TP) (ms : List KMember) :
    (keepMembers snap seen ms).length = ms.length := by
  induction ms generalizing seen with
  | nil => rfl
  | cons m ms ih => rw [keepMembers, List.length_cons, ih, List.length_cons]

theorem keepMembers_keeps (snap : List (String × Nat)) (seen : List TP) (ms : List KMember) :
    ∃ seen', Keeps (fun _ => True) seen ((keepMembers snap seen ms).flatMap flatTPs) seen' := by
  induction ms generalizing seen with
  | nil => exact ⟨seen, Keeps.nil _ seen⟩
  | cons m ms ih =>
    obtain ⟨seen', ik⟩ := ih (keepEntries snap m seen m.target).2
    exact ⟨seen', ((keepEntries_spec snap m seen m.target).mono fun _ _ => trivial).append ik⟩

theorem keepMembers_valid (snap : List (String × Nat)) (seen : List TP) (ms : List KMember) :
    ∀ mk ∈ ms.zip (keepMembers snap seen ms), ∀ tp ∈ flatTPs mk.2, ValidClaim snap mk.1 tp := by
  induction ms generalizing seen with
  | nil => exact fun _ h => nomatch h
  | cons m ms ih =>
    rw [keepMembers, List.zip_cons_cons, List.forall_mem_cons]
    exact ⟨fun tp htp => ((keepEntries_spec snap m seen m.target).valid tp htp).1, ih _⟩

theorem mem_indexFrom (k : Nat) (l : List α) (i : Nat) : i ∈ indexFrom k l ↔ k ≤ i ∧ i < k + l.length := by
  induction l generalizing k with
  | nil => simp [indexFrom]
  | cons a as ih => simp only [indexFrom, List.mem_cons, ih, List.length_cons]; omega

theorem foldl_best (g : Option Nat → Nat → Option Nat) (hg : ∀ b i, g (some b) i = some i ∨ g (some b) i = some b)
    (cs : List Nat) (b : Nat) : ∃ r, cs.foldl g (some b) = some r ∧ r ∈ b :: cs := by
  induction cs generalizing b with
  | nil => exact ⟨b, rfl, List.mem_cons_self⟩
  | cons c cs ih =>
    rw [List.foldl_cons]
    rcases hg b c with e | e <;> rw [e]
    · obtain ⟨r, h1, h2⟩ := ih c
      exact ⟨r, h1, List.mem_cons_of_mem _ h2⟩
    · obtain ⟨r, h1, h2⟩ := ih b
      exact ⟨r, h1, List.mem_cons.mpr ((List.mem_cons.mp h2).imp id (List.mem_cons_of_mem _))⟩

theorem kBest_some (ms : List KMember) (counts : List Nat) (t : String) (h : ∃ m ∈ ms, m.subs.contains t = true) :
    ∃ i m, kBest ms counts t = some i ∧ ms[i]? = some m ∧ m.subs.contains t = true := by
  obtain ⟨m, hm, ht⟩ := h
  obtain ⟨j, hj, hjm⟩ := List.getElem_of_mem hm
  unfold kBest
  simp only []
  generalize hc : ((indexFrom 0 ms).filter fun i => match ms[i]? with
    | some m => m.subs.contains t
    | none => false) = cands
  have hjc : j ∈ cands := by
    rw [← hc]
    refine List.mem_filter.mpr ⟨(mem_indexFrom 0 ms j).mpr ⟨Nat.zero_le _, by omega⟩, ?_⟩
    rw [List.getElem?_eq_getElem hj, hjm]; exact ht
  match cands, hc, hjc with
  | c :: cs, hc, _ =>
    -- the first candidate is taken, every later step keeps it or takes the new one
    obtain ⟨r, hr, hmem⟩ := foldl_best (fun best i => match best with
        | none => some i
        | some b => if counts.getD i 0 < counts.getD b 0 then some i else some b)
      (fun b i => by simp only []; split <;> simp) cs c
    have := (List.mem_filter.mp (hc ▸ hmem)).2
    cases hmr : ms[r]? with
    | none => simp [hmr] at this
    | some m' => exact ⟨r, m', hr, hmr, by simpa only [hmr] using this⟩

theorem kDistribute_spec (ms : List KMember) (counts : List Nat) (us : List TP)
    (h : ∀ tp ∈ us, ∃ m ∈ ms, m.subs.contains tp.1 = true) :
    (kDistribute ms counts us).map Triple.tp = us ∧
    ∀ x ∈ kDistribute ms counts us, ∃ m ∈ ms, x.1 = m.id ∧ m.subs.contains x.2.1 = true := by
  induction us generalizing counts with
  | nil => simp [kDistribute]
  | cons tp rest ih =>
    obtain ⟨t, p⟩ := tp
    obtain ⟨i, m, h1, h2, h3⟩ := kBest_some ms counts t (h (t, p) List.mem_cons_self)
    obtain ⟨i1, i2⟩ := ih (counts.set i (counts.getD i 0 + 1)) (fun tp htp => h tp (List.mem_cons_of_mem _ htp))
    simp only [kDistribute, h1, h2]
    refine ⟨by rw [List.map_cons, i1]; rfl, fun x hx => ?_⟩
    rcases List.mem_cons.mp hx with rfl | hx
    · exact ⟨m, List.mem_of_getElem? h2, rfl, h3⟩
    · exact i2 x hx

/-- What `kPerMember` returns per member: the member, the claims it kept, and those split into what stays and what is
shed. -/
abbrev PerEntry := KMember × List (String × List Nat) × List (String × List Nat) × List TP
abbrev PerEntry.kept (e : PerEntry) : List (String × List Nat) := e.2.1
abbrev PerEntry.stays (e : PerEntry) : List (String × List Nat) := e.2.2.1
abbrev PerEntry.shed (e : PerEntry) : List TP := e.2.2.2

/-- what `kPerMember` guarantees for an entry -/
structure EntryOK (ms : List KMember) (snap : List (String × Nat)) (e : PerEntry) : Prop where
  member : e.1 ∈ ms
  valid : ∀ tp ∈ flatTPs e.kept, ValidClaim snap e.1 tp
  split : ∀ x, List.count x (flatTPs e.stays) + List.count x e.shed = List.count x (flatTPs e.kept)

theorem kAllTPs_perm (ms : List KMember) (snap : List (String × Nat)) :
    (kAllTPs ms snap).Perm (tpsOf ((kSubscribed ms).filter fun t => (snap.lookup t).isSome) (cnt snap)) :=
  sortBy_perm _ _

theorem nodup_kSnapTopics (ms : List KMember) (snap : List (String × Nat)) :
    ((kSubscribed ms).filter fun t => (snap.lookup t).isSome).Nodup :=
  (nodup_dedup _).sublist List.filter_sublist

theorem mem_kAllTPs (ms : List KMember) (snap : List (String × Nat)) (tp : TP) :
    tp ∈ kAllTPs ms snap ↔ tp.1 ∈ ms.flatMap (·.subs) ∧ (snap.lookup tp.1).isSome = true ∧ tp.2 < cnt snap tp.1 := by
  rw [(kAllTPs_perm ms snap).mem_iff, mem_tpsOf, List.mem_filter, kSubscribed, mem_dedup, and_assoc]

theorem count_split_flatMap {α β} [BEq β] (per : List α) (f g h : α → List β) (x : β)
    (hs : ∀ e ∈ per, List.count x (f e) + List.count x (g e) = List.count x (h e)) :
    List.count x (per.flatMap f) + List.count x (per.flatMap g) = List.count x (per.flatMap h) := by
  induction per with
  | nil => simp
  | cons e es ih =>
    simp only [List.flatMap_cons, List.count_append]
    have := hs e List.mem_cons_self
    have := ih (fun e he => hs e (List.mem_cons_of_mem _ he))
    omega

/-- Kept claims `K`, each once, split into what stays `S` and what is shed `Sh`: what stays together with everything
that is not (kept and not shed) is everything, each once. -/
theorem perm_stay_append_rest {β : Type} [BEq β] [LawfulBEq β] {K S Sh L : List β} (hK : K.Nodup) (hL : L.Nodup)
    (hsplit : ∀ x, S.count x + Sh.count x = K.count x) (hsub : ∀ x ∈ K, x ∈ L) :
    (S ++ L.filter fun x => !(K.contains x && !Sh.contains x)).Perm L := by
  have hKle : ∀ x, K.count x ≤ 1 := List.nodup_iff_count.mp hK
  have hmem : ∀ x, x ∈ S ↔ x ∈ K ∧ x ∉ Sh := fun x => by
    have := hsplit x
    have := hKle x
    rw [← List.count_pos_iff, ← List.count_pos_iff, ← List.count_eq_zero]
    omega
  have hun : (L.filter fun x => !(K.contains x && !Sh.contains x)) = L.filter fun x => !S.contains x :=
    List.filter_congr fun x _ => by
      rw [show S.contains x = (K.contains x && !Sh.contains x) by
        rw [Bool.eq_iff_iff]
        simpa only [Bool.and_eq_true, Bool.not_eq_true', ← Bool.not_eq_true, List.contains_iff_mem] using hmem x]
  rw [hun]
  exact List.perm_append_filter_not L S hL
    (List.nodup_iff_count.mpr fun x => by have := hsplit x; have := hKle x; omega) fun x hx => hsub x ((hmem x).mp hx).1

theorem EntryOK.stays_valid {ms : List KMember} {snap : List (String × Nat)} {e : PerEntry} (h : EntryOK ms snap e)
    {tp : TP} (htp : tp ∈ flatTPs e.stays) : ValidClaim snap e.1 tp := by
  refine h.valid tp (List.count_pos_iff.mp ?_)
  have := h.split tp
  have := List.count_pos_iff.mpr htp
  omega

theorem ValidClaim.mem_allTPs {ms : List KMember} {snap : List (String × Nat)} {m : KMember} {tp : TP}
    (hv : ValidClaim snap m tp) (hm : m ∈ ms) : tp ∈ kAllTPs ms snap :=
  (mem_kAllTPs ms snap _).mpr ⟨List.mem_flatMap.mpr ⟨m, hm, List.contains_iff_mem.mp hv.subscribed⟩, hv.known, hv.inRange⟩

theorem kFinish_stay (ms : List KMember) (allTPs : List TP) (per : List PerEntry) :
    (kFinish ms allTPs per).stay = per.flatMap fun e => (flatTPs e.stays).map fun tp => (e.1.id, tp.1, tp.2) := rfl

theorem kFinish_fresh (ms : List KMember) (allTPs : List TP) (per : List PerEntry) :
    (kFinish ms allTPs per).fresh = kDistribute ms (per.map fun e => kCount e.stays) (allTPs.filter fun tp =>
      !((per.flatMap fun e => flatTPs e.kept).contains tp && !(per.flatMap fun e => e.shed).contains tp)) := rfl

theorem kFinish_valid (ms : List KMember) (snap : List (String × Nat))
    (per : List PerEntry) (hper : ∀ e ∈ per, EntryOK ms snap e) (hdisj : (per.flatMap fun x => flatTPs x.kept).Nodup) :
    validPlan (ms.map fun m => (m.id, m.subs)) (cnt snap)
      ((kFinish ms (kAllTPs ms snap) per).stay ++ (kFinish ms (kAllTPs ms snap) per).fresh) = true := by
  rw [kFinish_stay, kFinish_fresh]
  obtain ⟨d1, d2⟩ := kDistribute_spec ms (per.map fun x => kCount x.stays) _ (fun tp htp => by
      obtain ⟨m, hm, h⟩ := List.mem_flatMap.mp ((mem_kAllTPs ms snap tp).mp (List.mem_filter.mp htp).1).1
      exact ⟨m, hm, List.contains_iff_mem.mpr h⟩)
  refine validPlan_of_tps _ _ _ _ (nodup_kSnapTopics ms snap) (fun t ht hn => ?_) (fun x hx => ?_) ?_
  · exact cnt_eq_zero_of_lookup_none snap t fun h =>
      hn (List.mem_filter.mpr ⟨(mem_dedup _ _).mpr (flatMap_subs KMember.id KMember.subs ms ▸ ht), h⟩)
  · rcases List.mem_append.mp hx with hx | hx
    · obtain ⟨e, he, hxe⟩ := List.mem_flatMap.mp hx
      obtain ⟨tp, htp, rfl⟩ := List.mem_map.mp hxe
      exact sub_of_member KMember.id KMember.subs
        ⟨e.1, (hper e he).member, rfl, List.contains_iff_mem.mp ((hper e he).stays_valid htp).subscribed⟩
    · obtain ⟨m, hm, h1, h2⟩ := d2 x hx
      exact sub_of_member KMember.id KMember.subs ⟨m, hm, h1, List.contains_iff_mem.mp h2⟩
  -- what stays and what is handed out are all partitions, each once
  · rw [List.map_append, d1, List.map_flatMap]
    simp only [map_tp_named]
    refine (perm_stay_append_rest hdisj
      ((kAllTPs_perm ms snap).nodup_iff.mpr (nodup_tpsOf _ (nodup_kSnapTopics ms snap) _))
      (fun x => count_split_flatMap per (fun e => flatTPs e.stays) (fun e => e.shed) _ x fun e he => (hper e he).split x)
      fun tp htp => ?_).trans (kAllTPs_perm ms snap)
    obtain ⟨e, he, h⟩ := List.mem_flatMap.mp htp
    exact ((hper e he).valid tp h).mem_allTPs (hper e he).member

theorem kPerMember_ok (ms : List KMember) (snap : List (String × Nat)) (seen : List TP) (allowedOf : Nat → Nat) :
    ∀ e ∈ kPerMember ms (keepMembers snap seen ms) allowedOf, EntryOK ms snap e := by
  intro e he
  unfold kPerMember at he
  obtain ⟨im, him, rfl⟩ := List.mem_map.mp he
  have hz := (List.of_mem_zip him).2
  refine ⟨(List.of_mem_zip hz).1, fun tp htp => keepMembers_valid snap seen ms im.2 hz tp htp, fun x => ?_⟩
  dsimp only [PerEntry.stays, PerEntry.shed, PerEntry.kept]
  rw [kShed_count]
  exact ((sortBy_perm _ _).flatMap_right _).count_eq x

theorem kPerMember_kept (ms : List KMember) (kept : List (List (String × List Nat))) (hl : kept.length = ms.length)
    (allowedOf : Nat → Nat) :
    ((kPerMember ms kept allowedOf).flatMap fun x => flatTPs (PerEntry.kept x)) = kept.flatMap flatTPs := by
  unfold kPerMember
  rw [List.flatMap_map]
  have : ((indexFrom 0 ms).zip (ms.zip kept)).flatMap (fun im => flatTPs im.2.2)
      = ((((indexFrom 0 ms).zip (ms.zip kept)).map Prod.snd).map Prod.snd).flatMap flatTPs := by
    rw [List.map_map, List.flatMap_map]; rfl
  rw [this, List.map_snd_zip (by rw [length_indexFrom, List.length_zip]; omega),
    List.map_snd_zip (by omega)]

theorem kAssignUniform_valid (ms : List KMember) (snap : List (String × Nat)) :
    validPlan (ms.map fun m => (m.id, m.subs)) (cnt snap) (kAssignUniform ms snap) = true := by
  unfold kAssignUniform kAssignUniformParts
  simp only []
  apply kFinish_valid _ snap _ (kPerMember_ok _ snap [] _)
  rw [kPerMember_kept _ _ (length_keepMembers snap [] ms)]
  obtain ⟨_, hk⟩ := keepMembers_keeps snap [] ms
  exact hk.nodup

/-- `computeTargetAssignment`, whatever the assignor's name: it dispatches over the sorted active members (nothing to do
when there is none), whose subscriptions are, up to order, what `kSubsOf` lists. -/
theorem kCompute_valid (assignor : String) (ms0 : List KMember) (snap : List (String × Nat)) :
    validPlan (kSubsOf ms0) (cnt snap) (kCompute assignor ms0 snap) = true := by
  rw [← validPlan_perm _ _ (kSubsOf_perm assignor ms0)]
  unfold kCompute
  simp only []
  split
  · next he => rw [List.isEmpty_iff.mp he]; rfl
  · split
    · exact kAssignRange_valid _ snap
    · exact kAssignUniform_valid _ snap

end Proof.C25
