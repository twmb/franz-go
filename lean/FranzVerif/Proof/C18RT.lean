import FranzVerif.Model.C18
import FranzVerif.Spec.C18
import FranzVerif.Proof.C18Batch
/-! C18 — round trip: the reference decoder of `Spec.C18` reads back what the model's serialisers write.

`R p enc rest v` says that the parser `p` reads exactly `enc`. Every primitive reader has one lemma of that
form against the primitive writer; a record, a batch, a partition, a topic, a request are then chains of
`R_bind`, one link per field in wire order, with `R_else`/`R_then` at the decoder's checks. -/
namespace Proof.C18RT
open Spec.C18 (P CLog)
open Spec.C17 (byte encU lenU be zz unzz unbe signed leb)

abbrev Bytes := List (BitVec 8)

@[simp] theorem ok_bind {ε α β : Type} (a : α) (f : α → Except ε β) : (Except.ok a >>= f) = f a := rfl
@[simp] theorem error_bind {ε α β : Type} (e : ε) (f : α → Except ε β) : ((Except.error e : Except ε α) >>= f) = Except.error e := rfl

def run2 {α : Type} (p : P α) (s : Bytes) (log : CLog) : Except String ((α × Bytes) × CLog) := (p.run s).run log

/-- `p` reads exactly `enc` off the front of `enc ++ rest`, returns `v`, leaves the call log alone -/
def R {α : Type} (p : P α) (enc rest : Bytes) (v : α) : Prop :=
  ∀ log, run2 p (enc ++ rest) log = .ok ((v, rest), log)

theorem run2_bind {α β : Type} (p : P α) (f : α → P β) (s : Bytes) (log : CLog) :
    run2 (p >>= f) s log = (match run2 p s log with
      | .ok ((a, s'), log') => run2 (f a) s' log'
      | .error e => .error e) := by
  simp only [run2, StateT.run_bind]
  cases h : (p.run s).run log with
  | error e => simp
  | ok r => rcases r with ⟨⟨a, s'⟩, log'⟩; simp

theorem R_pure {α : Type} (a : α) (rest : Bytes) : R (pure a : P α) [] rest a := by
  intro log; simp [run2]; rfl

theorem R_pure_eq {α : Type} {a b : α} (rest : Bytes) (h : a = b) : R (pure a : P α) [] rest b :=
  h ▸ R_pure a rest

theorem R_bind {α β : Type} {p : P α} {f : α → P β} {e e' rest : Bytes} {v : α} {w : β}
    (hp : R p e (e' ++ rest) v) (hf : R (f v) e' rest w) : R (p >>= f) (e ++ e') rest w := by
  intro log
  rw [run2_bind, List.append_assoc, hp log]
  exact hf log

theorem R_bind_last {α β : Type} {p : P α} {f : α → P β} {e rest : Bytes} {v : α} {w : β}
    (hp : R p e rest v) (hf : R (f v) [] rest w) : R (p >>= f) e rest w := by
  have := R_bind (e' := []) hp hf
  rwa [List.append_nil] at this

theorem R_nil_bind {α β : Type} {p : P α} {f : α → P β} {e rest : Bytes} {v : α} {w : β}
    (hp : R p [] (e ++ rest) v) (hf : R (f v) e rest w) : R (p >>= f) e rest w := R_bind hp hf

theorem R_then {α : Type} {c : Prop} [Decidable c] {p q : P α} {e rest : Bytes} {v : α} (hc : c)
    (h : R p e rest v) : R (if c then p else q) e rest v := by
  rw [if_pos hc]; exact h

theorem R_else {α : Type} {c : Prop} [Decidable c] {p q : P α} {e rest : Bytes} {v : α} (hc : ¬ c)
    (h : R q e rest v) : R (if c then p else q) e rest v := by
  rw [if_neg hc]; exact h

theorem R_get (rest : Bytes) : R (get : P Bytes) [] rest rest := by
  intro log; simp [run2]; rfl

theorem R_set (e rest : Bytes) : R (set rest : P PUnit) e rest PUnit.unit := by
  intro log; simp [run2]; rfl

theorem R_guard {k : String} {c : Prop} [Decidable c] (hc : ¬ c) (rest : Bytes) :
    R (if c then Spec.C18.err k else pure PUnit.unit : P PUnit) [] rest PUnit.unit :=
  R_else hc (R_pure _ _)

theorem R_takeN (b rest : Bytes) (n : Nat) (h : b.length = n) : R (Spec.C18.takeN n) b rest b := by
  intro log
  subst h
  simp [run2, Spec.C18.takeN]
  rfl

theorem R_within {α : Type} (b : Bytes) (what : String) (p : P α) (a : α) (st : Bytes)
    (hp : R p b [] a) : R (Spec.C18.within b what p) [] st a := by
  intro log
  have hp' : ∀ log, (p.run b).run log = .ok ((a, []), log) := by
    intro log; have := hp log; simpa [run2] using this
  simp [run2, Spec.C18.within, hp']
  rfl

theorem R_repeatP {α β : Type} {p : P β} {enc : α → Bytes} {encs : List α → Bytes} {d : α → β}
    (hnil : encs [] = []) (hcons : ∀ x xs, encs (x :: xs) = enc x ++ encs xs) (xs : List α) (rest : Bytes)
    (h : ∀ x ∈ xs, ∀ r, R p (enc x) r (d x)) :
    R (Spec.C18.repeatP p xs.length) (encs xs) rest (xs.map d) := by
  induction xs with
  | nil => rw [hnil]; exact R_pure [] rest
  | cons x xs ih =>
    rw [hcons]
    exact R_bind (h x (List.mem_cons_self ..) _)
      (R_bind_last (ih fun y hy => h y (List.mem_cons_of_mem _ hy)) (R_pure _ _))

theorem R_u8 (b : BitVec 8) (rest : Bytes) : R Spec.C18.u8 [b] rest (unbe [b]) :=
  R_bind_last (R_takeN [b] rest 1 rfl) (R_pure _ _)

theorem R_uN (k n : Nat) (rest : Bytes) : R (Spec.C18.uN k) (be k n) rest (n % 256 ^ k) :=
  R_bind_last (R_takeN (be k n) rest k (Proof.C17.be_length k n)) (R_pure_eq _ (Proof.C17.unbe_be k n))

theorem R_uN_beI (k m : Nat) (rest : Bytes) (h : m < 256 ^ k) : R (Spec.C18.uN k) (Model.C18.beI k (m : Int)) rest m := by
  have h1 : Model.C18.beI k (m : Int) = be k m := by
    rw [Model.C18.beI, ← Int.natCast_emod, Int.toNat_natCast, Nat.mod_eq_of_lt h]
  have := R_uN k m rest
  rwa [Nat.mod_eq_of_lt h, ← h1] at this

theorem R_iN (k : Nat) (i : Int) (rest : Bytes)
    (h : signed (8 * k) ((i % ((256 ^ k : Nat) : Int)).toNat % 256 ^ k) = i) :
    R (Spec.C18.iN k) (Model.C18.beI k i) rest i :=
  R_bind_last (R_takeN (Model.C18.beI k i) rest k (Proof.C18.beI_length k i))
    (R_pure_eq _ (by rw [Model.C18.beI, Proof.C17.unbe_be, h]))

def I16 (i : Int) : Prop := -32768 ≤ i ∧ i < 32768
def I32 (i : Int) : Prop := -2147483648 ≤ i ∧ i < 2147483648
def I64 (i : Int) : Prop := -9223372036854775808 ≤ i ∧ i < 9223372036854775808

theorem I16_iff {i : Int} : I16 i ↔ -32768 ≤ i ∧ i < 32768 := Iff.rfl
theorem I32_iff {i : Int} : I32 i ↔ -2147483648 ≤ i ∧ i < 2147483648 := Iff.rfl
theorem I64_iff {i : Int} : I64 i ↔ -9223372036854775808 ≤ i ∧ i < 9223372036854775808 := Iff.rfl

theorem R_i16 (i : Int) (rest : Bytes) (h : I16 i) : R (Spec.C18.iN 2) (Model.C18.beI 2 i) rest i :=
  R_iN 2 i rest (by have := I16_iff.1 h; unfold signed; omega)
theorem R_i32 (i : Int) (rest : Bytes) (h : I32 i) : R (Spec.C18.iN 4) (Model.C18.beI 4 i) rest i :=
  R_iN 4 i rest (by have := I32_iff.1 h; unfold signed; omega)
theorem R_i64 (i : Int) (rest : Bytes) (h : I64 i) : R (Spec.C18.iN 8) (Model.C18.beI 8 i) rest i :=
  R_iN 8 i rest (by have := I64_iff.1 h; unfold signed; omega)

theorem R_uvar (n : Nat) (rest : Bytes) (h : lenU n ≤ 10) : R Spec.C18.uvar (encU n) rest n := by
  intro log
  have hlen := Proof.C17.encU_length n
  have ht : (encU n ++ rest).take 10 = encU n ++ rest.take (10 - lenU n) := by
    rw [List.take_append, hlen, List.take_of_length_le (by omega)]
  have hd : (encU n ++ rest).drop (lenU n) = rest := by
    rw [← hlen]; simp
  simp [run2, Spec.C18.uvar, ht, Proof.C17.leb_encU, hd]
  rfl

/-- a 32-bit value is within the ten bytes `uvar` looks at -/
theorem lenU_u32 (n : Nat) (h : n < 4294967296) : lenU n ≤ 10 :=
  Nat.le_trans (Proof.C17.lenU_le5 h) (by decide)

theorem R_svar (i : Int) (rest : Bytes) (h : lenU (zz i) ≤ 10) : R Spec.C18.svar (Model.C18.varint i) rest i :=
  R_bind_last (R_uvar (zz i) rest h) (R_pure_eq _ (Proof.C17.unzz_zz i))

theorem R_varBytes (b : Option Bytes) (rest : Bytes) (h : lenU (zz (Model.C18.blen b)) ≤ 10) :
    R Spec.C18.varBytes (Model.C18.varintBytes b) rest b := by
  unfold Spec.C18.varBytes
  cases b with
  | none =>
    exact R_bind_last (R_svar (-1) rest (Nat.le_trans (Nat.le_of_eq Proof.C18.varintLen_neg1) (by omega)))
      (R_pure none rest)
  | some x =>
    exact R_bind (R_svar x.length _ h)
      (R_else (by omega) (R_bind_last (R_takeN x rest _ (Int.toNat_natCast _).symm) (R_pure _ _)))

def LenOK (n : Nat) : Prop := lenU (zz (n : Int)) ≤ 10
theorem LenOK.of_lt {n : Nat} (h : n < 2147483648) : LenOK n := by
  unfold LenOK; rw [Proof.C17.zz_natCast]; exact lenU_u32 _ (by omega)

def HdrOK (h : Model.C18.Header) : Prop := LenOK h.key.length ∧ LenOK (Model.C18.blen h.value)

def dHeader (h : Model.C18.Header) : Spec.C18.DHeader := ⟨h.key, h.value⟩

theorem R_header (h : Model.C18.Header) (rest : Bytes) (hok : HdrOK h) :
    R Spec.C18.header (Model.C18.varintString h.key ++ Model.C18.varintBytes h.value) rest (dHeader h) :=
  R_bind (R_varBytes (some h.key) _ hok.1) (R_bind_last (R_varBytes h.value _ hok.2) (R_pure _ _))

theorem R_headers (hs : List Model.C18.Header) (rest : Bytes) (hok : ∀ h ∈ hs, HdrOK h) :
    R (Spec.C18.repeatP Spec.C18.header hs.length) (Model.C18.headersTo hs) rest (hs.map dHeader) :=
  R_repeatP rfl (fun _ _ => rfl) hs rest fun h hh r => R_header h r (hok h hh)

/-- well-formedness of a buffered record for the wire: every length and delta fits its varint -/
structure PRecOK (pr : Model.C18.PRec) (i : Nat) : Prop where
  len : LenOK pr.length
  tsd : lenU (zz pr.tsDelta) ≤ 10
  idx : LenOK i
  key : LenOK (Model.C18.blen pr.r.key)
  value : LenOK (Model.C18.blen pr.r.value)
  nh : LenOK pr.r.headers.length
  hdrs : ∀ h ∈ pr.r.headers, HdrOK h
  ok : Proof.C18.RecOK pr i

/-- what the reference decoder returns for a buffered record of a batch with first timestamp `ft` -/
def dRec (ft : Int) (pr : Model.C18.PRec) : Spec.C18.DRec :=
  ⟨some (ft + pr.tsDelta), pr.r.key, pr.r.value, pr.r.headers.map dHeader⟩

theorem R_record (ft : Int) (pr : Model.C18.PRec) (i : Nat) (rest : Bytes) (h : PRecOK pr i) :
    R (Spec.C18.record ft i) (Model.C18.recordAppendTo pr i) rest (dRec ft pr) := by
  have hlen := Proof.C18.recordAppendTo_length pr i h.ok
  unfold Model.C18.recordAppendTo at hlen ⊢
  simp only [List.append_assoc] at hlen ⊢
  rw [List.length_append, Proof.C18.varint_length, Model.C18.numsWireLength] at hlen
  unfold Spec.C18.record
  refine R_bind (R_svar pr.length _ h.len) (R_else (by omega) ?_)
  refine R_bind_last (R_takeN _ rest _ (by omega)) (R_within _ _ _ _ _ ?_)
  refine R_bind (R_u8 0#8 _) (R_else (by decide) ?_)
  refine R_bind (R_svar pr.tsDelta _ h.tsd) (R_bind (R_svar i _ h.idx) (R_else (by simp) ?_))
  refine R_bind (R_varBytes pr.r.key _ h.key) (R_bind (R_varBytes pr.r.value _ h.value) ?_)
  refine R_bind (R_svar pr.r.headers.length _ h.nh) (R_else (by omega) ?_)
  exact R_bind_last (R_headers pr.r.headers [] h.hdrs) (R_pure _ _)

def AllP : Nat → List Model.C18.PRec → Prop
  | _, [] => True
  | i, pr :: rest => PRecOK pr i ∧ AllP (i + 1) rest

theorem R_records (ft : Int) (l : List Model.C18.PRec) (i : Nat) (rest : Bytes) (h : AllP i l) :
    R (Spec.C18.recordsP ft i l.length) (Model.C18.recordsFrom i l) rest (l.map (dRec ft)) := by
  induction l generalizing i with
  | nil => exact R_pure [] rest
  | cons pr l ih => exact R_bind (R_record ft pr i _ h.1) (R_bind_last (ih (i + 1) h.2) (R_pure _ _))

/-- the decoder branches on its `flexible` flag where the writer branches on the version -/
theorem R_flex {α : Type} (c : Prop) [Decidable c] {p q : P α} {e e' rest : Bytes} {v : α}
    (hp : c → R p e rest v) (hq : ¬ c → R q e' rest v) :
    R (if decide c = true then p else q) (if c then e else e') rest v := by
  by_cases hc : c
  · rw [if_pos hc, if_pos (decide_eq_true hc)]; exact hp hc
  · rw [if_neg hc, if_neg (by simpa using hc)]; exact hq hc

theorem R_emptyTags (c : Prop) [Decidable c] (rest : Bytes) :
    R (Spec.C18.emptyTags (decide c)) (if c then [0#8] else []) rest () := by
  have h0 : [0#8] = encU 0 := by rw [Proof.C17.encU_lt (by omega)]; rfl
  rw [h0]
  exact R_flex c (fun _ => R_bind_last (R_uvar 0 rest (lenU_u32 0 (by omega))) (R_else (by decide) (R_pure _ _)))
    (fun _ => R_pure _ _)

theorem R_arrayLenP (c : Prop) [Decidable c] (n : Nat) (rest : Bytes) (h : n < 2147483647) :
    R (Spec.C18.arrayLenP (decide c)) (if c then Model.C18.compactArrayLen n else Model.C18.arrayLen n) rest n :=
  R_flex c
    (fun _ => R_bind_last (R_uvar (1 + n) rest (lenU_u32 _ (by omega))) (R_else (by simp) (R_pure_eq _ (by omega))))
    (fun _ => R_bind_last (R_i32 n rest (I32_iff.2 (by omega))) (R_else (by omega) (R_pure _ _)))

theorem R_lenBytes (c : Prop) [Decidable c] (k : Nat) (b rest : Bytes) (hb : b.length < 2147483647)
    (hk : ∀ r, R (Spec.C18.iN k) (Model.C18.beI k b.length) r b.length) (what : String) :
    R (if decide c = true then (do let l ← Spec.C18.uvar; if l == 0 then Spec.C18.err what else Spec.C18.takeN (l - 1))
       else (do let l ← Spec.C18.iN k; if l < 0 then Spec.C18.err what else Spec.C18.takeN l.toNat))
      (if c then Model.C18.uvarint (1 + b.length) ++ b else Model.C18.beI k b.length ++ b) rest b :=
  R_flex c
    (fun _ => R_bind (R_uvar (1 + b.length) _ (lenU_u32 _ (by omega))) (R_else (by simp) (R_takeN b rest _ (by omega))))
    (fun _ => R_bind (hk _) (R_else (by omega) (R_takeN b rest _ (Int.toNat_natCast _).symm)))

theorem R_nullableString16 (s : Option Bytes) (rest : Bytes) (h : Model.C18.blen s < 32768) :
    R (Spec.C18.nullableStringP false) (Model.C18.nullableString s) rest s := by
  cases s with
  | none => exact R_bind_last (R_i16 (-1) rest (I16_iff.2 (by omega))) (R_pure none rest)
  | some x =>
    exact R_bind (R_i16 x.length _ (I16_iff.2 (by have : x.length < 32768 := h; omega)))
      (R_else (by omega) (R_bind_last (R_takeN x rest _ (Int.toNat_natCast _).symm) (R_pure _ _)))

theorem R_compactNullableString (s : Option Bytes) (rest : Bytes) (h : Model.C18.blen s < 32768) :
    R (Spec.C18.nullableStringP true) (Model.C18.compactNullableString s) rest s := by
  cases s with
  | none => exact R_bind_last (R_uvar 0 rest (lenU_u32 _ (by omega))) (R_pure none rest)
  | some x =>
    exact R_bind (R_uvar (1 + x.length) _ (lenU_u32 _ (by have : x.length < 32768 := h; omega)))
      (R_else (by simp) (R_bind_last (R_takeN x rest _ (by omega)) (R_pure _ _)))

theorem R_nullableStringP (c : Prop) [Decidable c] (s : Option Bytes) (rest : Bytes) (h : Model.C18.blen s < 32768) :
    R (Spec.C18.nullableStringP (decide c))
      (if c then Model.C18.compactNullableString s else Model.C18.nullableString s) rest s :=
  R_flex c (fun _ => R_compactNullableString s rest h) (fun _ => R_nullableString16 s rest h)

/-- a batch as `createReq` hands it to the serialiser, with every fixed-width field in range -/
structure BatchWF (b : Model.C18.Batch) (pid ep seq : Int) : Prop where
  inv : Proof.C18.BatchInv b
  recs : AllP 0 b.records
  ft : I64 b.firstTimestamp
  mt : I64 (b.firstTimestamp + b.maxTimestampDelta)
  pid : I64 pid
  ep : I16 ep
  seq : I32 seq
  ne : b.records ≠ []
  wl : b.wireLength < 2147483648
  n : (b.records.length : Int) < 2147483648

/-- what the reference decoder returns for a written, uncompressed record batch -/
def dBatch (pb : Model.C18.PartBatch) (pid ep : Int) (tx : Bool) (blobLen : Nat) : Spec.C18.DBatch :=
  { partition := pb.partition, blobLen := blobLen, magic := 2, pid := pid, epoch := ep,
    baseSeq := if pid < 0 then 0 else pb.seq, transactional := tx, codec := 0,
    firstTs := pb.batch.firstTimestamp, maxTs := pb.batch.firstTimestamp + pb.batch.maxTimestampDelta,
    recs := pb.batch.records.map (dRec pb.batch.firstTimestamp) }

/-- the CRC-covered part of a written batch (attributes … records), `attrs` = 0 or 16 -/
def crcdBytes (pb : Model.C18.PartBatch) (pid ep : Int) (attrs : Nat) : Bytes :=
  Model.C18.beI 2 (attrs : Int) ++ (Model.C18.beI 4 ((pb.batch.records.length : Int) - 1) ++ (Model.C18.beI 8 pb.batch.firstTimestamp ++
    (Model.C18.beI 8 (pb.batch.firstTimestamp + pb.batch.maxTimestampDelta) ++ (Model.C18.beI 8 pid ++ (Model.C18.beI 2 ep ++
      (Model.C18.beI 4 (if pid < 0 then 0 else pb.seq) ++ (Model.C18.beI 4 (pb.batch.records.length : Int) ++
        Model.C18.recordsFrom 0 pb.batch.records)))))))

/-- a written batch after `baseOffset` and `batchLength` -/
def tailBytes (crc : Bytes → Nat) (pb : Model.C18.PartBatch) (pid ep : Int) (attrs : Nat) : Bytes :=
  Model.C18.beI 4 (-1) ++ ([2#8] ++ (Model.C18.beI 4 (crc (crcdBytes pb pid ep attrs) : Int) ++ crcdBytes pb pid ep attrs))

def attrsOf (tx : Bool) : Nat := if tx then 16 else 0

theorem batchBody_eq (crc : Bytes → Nat) (pb : Model.C18.PartBatch) (v pid ep : Int) (tx : Bool) :
    Model.C18.batchBody crc none pb v pid ep tx =
      Model.C18.beI 8 0 ++ (Model.C18.beI 4 (pb.batch.wireLength - 4 - 8 - 4) ++ tailBytes crc pb pid ep (attrsOf tx)) := by
  simp [Model.C18.batchBody, Model.C18.compressStep, tailBytes, crcdBytes, attrsOf]

theorem tailBytes_length (crc : Bytes → Nat) (pb : Model.C18.PartBatch) (pid ep : Int) (attrs : Nat)
    (h : Proof.C18.BatchInv pb.batch) :
    ((tailBytes crc pb pid ep attrs).length : Int) = pb.batch.wireLength - 4 - 8 - 4 := by
  have hrf := Proof.C18.recordsFrom_length 0 pb.batch.records h.ok
  have hw := h.wire
  simp only [Model.C18.recordBatchOverhead] at hw
  simp [tailBytes, crcdBytes, hrf]
  omega

def env0 (crc crc32 : Bytes → Nat) : Model.C18.Env := { crc32c := crc, crc32 := crc32, comp := none }

theorem batchAppendTo_none (crc : Bytes → Nat) (pb : Model.C18.PartBatch) (v pid ep : Int) (tx : Bool)
    (h : Proof.C18.BatchInv pb.batch) :
    Model.C18.batchAppendTo crc none pb v pid ep tx =
      if v ≥ 9 then Model.C18.uvarint (1 + (Model.C18.batchBody crc none pb v pid ep tx).length)
          ++ Model.C18.batchBody crc none pb v pid ep tx
      else Model.C18.beI 4 (Model.C18.batchBody crc none pb v pid ep tx).length
          ++ Model.C18.batchBody crc none pb v pid ep tx := by
  have hb := Proof.C18.batchBody_length crc none pb v pid ep tx h
  unfold Model.C18.batchLength at hb
  rw [Proof.C18.batchAppendTo_eq, Proof.C18.uvar32_natCast, hb]

def dParts (crc : Bytes → Nat) (v pid ep : Int) (tx : Bool) (ps : List Model.C18.PartBatch) : List Spec.C18.DBatch :=
  ps.map fun pb => dBatch pb pid ep tx (Model.C18.batchBody crc none pb v pid ep tx).length

def PartsWF (pid ep : Int) : List Model.C18.PartBatch → Prop
  | [] => True
  | pb :: ps => (I32 pb.partition ∧ BatchWF pb.batch pid ep (if pid < 0 then 0 else pb.seq)) ∧ PartsWF pid ep ps

def dTopic (crc : Bytes → Nat) (v pid ep : Int) (tx : Bool) (t : Model.C18.TopicBatches) : Spec.C18.DTopic :=
  ⟨if v ≥ 13 then none else some t.topic, if v ≥ 13 then some t.topicID else none, dParts crc v pid ep tx t.parts⟩

structure TopicWF (pid ep : Int) (t : Model.C18.TopicBatches) : Prop where
  id : t.topicID.length = 16
  name : t.topic.length < 32768
  np : t.parts.length < 2147483647
  parts : PartsWF pid ep t.parts

theorem topicAppendTo_eq (e : Model.C18.Env) (v pid ep : Int) (tx : Bool) (t : Model.C18.TopicBatches) :
    Model.C18.topicAppendTo e v pid ep tx t =
      (if v ≥ 13 then t.topicID else if v ≥ 9 then Model.C18.compactString t.topic else Model.C18.string16 t.topic) ++
      ((if v ≥ 9 then Model.C18.compactArrayLen t.parts.length else Model.C18.arrayLen t.parts.length) ++
        (Model.C18.partsAppendTo e v pid ep tx t.parts ++ (if v ≥ 9 then [0#8] else []))) := by
  unfold Model.C18.topicAppendTo
  by_cases h13 : v ≥ 13
  · simp [h13, show v ≥ 9 by omega]
  · by_cases h9 : v ≥ 9 <;> simp [h13, h9]

/-- a frame after its size field, as `AppendRequest` writes it -/
def restOf (e : Model.C18.Env) (c : Model.C18.Cfg) (v corr pid ep : Int) (ts : List Model.C18.TopicBatches) : Bytes :=
  Model.C18.beI 2 0 ++ Model.C18.beI 2 v ++ Model.C18.beI 4 corr ++ Model.C18.nullableString c.clientId
    ++ (if v ≥ 9 then [0#8] else []) ++ Model.C18.requestAppendTo e c v pid ep ts

theorem appendRequest_eq (e : Model.C18.Env) (c : Model.C18.Cfg) (v corr pid ep : Int) (ts : List Model.C18.TopicBatches) :
    Model.C18.appendRequest e c v corr pid ep ts = Model.C18.beI 4 ((restOf e c v corr pid ep ts).length : Int) ++ restOf e c v corr pid ep ts := rfl

def dReq (crc : Bytes → Nat) (frameLen : Nat) (c : Model.C18.Cfg) (v corr pid ep : Int) (ts : List Model.C18.TopicBatches) : Spec.C18.DReq :=
  ⟨frameLen, v, corr, c.clientId, c.txnId, c.acks, c.timeoutMs, ts.map (dTopic crc v pid ep c.txnId.isSome)⟩

structure ReqWF (c : Model.C18.Cfg) (v corr pid ep : Int) (ts : List Model.C18.TopicBatches) : Prop where
  v3 : 3 ≤ v
  v13 : v ≤ 13
  corr : I32 corr
  cid : Model.C18.blen c.clientId < 32768
  txn : Model.C18.blen c.txnId < 32768
  acks : I16 c.acks
  timeout : I32 c.timeoutMs
  nt : ts.length < 2147483647
  topics : ∀ t ∈ ts, TopicWF pid ep t

section
variable {crc crc32 : Bytes → Nat} (hcrc : ∀ x, crc x < 4294967296)
include hcrc

theorem R_batchTail (pb : Model.C18.PartBatch) (pid ep : Int) (tx : Bool)
    (blobLen : Nat) (h : BatchWF pb.batch pid ep (if pid < 0 then 0 else pb.seq)) :
    R (Spec.C18.batchTail crc false pb.partition blobLen) (tailBytes crc pb pid ep (attrsOf tx)) [] (dBatch pb pid ep tx blobLen) := by
  have hn := h.n
  unfold Spec.C18.batchTail tailBytes
  refine R_bind (R_i32 (-1) _ (I32_iff.2 (by omega))) (R_else (by decide) ?_)
  refine R_bind (R_u8 2#8 _) (R_else (by decide) ?_)
  -- the CRC is computed over everything that follows it
  refine R_bind (R_uN_beI 4 (crc _) _ (hcrc _)) (R_nil_bind (R_get _) (R_else (by simp) ?_))
  refine R_bind (R_uN_beI 2 (attrsOf tx) _ (by cases tx <;> decide)) (R_else (by cases tx <;> decide) ?_)
  refine R_bind (R_i32 _ _ (I32_iff.2 (by omega))) (R_bind (R_i64 _ _ h.ft) (R_bind (R_i64 _ _ h.mt) ?_))
  refine R_bind (R_i64 _ _ h.pid) (R_bind (R_i16 _ _ h.ep) (R_bind (R_i32 _ _ h.seq) ?_))
  refine R_bind (R_i32 _ _ (I32_iff.2 (by omega))) (R_else (by omega) (R_else (by simp) ?_))
  -- the records are parsed out of the remaining bytes, against an empty input
  refine R_nil_bind (R_get _) (R_bind_last (R_set _ _) (R_nil_bind (R_pure none _) ?_))
  rw [List.append_nil]
  refine R_nil_bind (R_then (by cases tx <;> decide) (R_pure _ _)) ?_
  refine R_bind_last (R_within _ _ _ _ _ (R_records _ _ 0 [] h.recs)) (R_pure_eq _ ?_)
  cases tx <;> rfl

theorem R_recordBatch (pb : Model.C18.PartBatch) (v pid ep : Int) (tx : Bool)
    (st : Bytes) (h : BatchWF pb.batch pid ep (if pid < 0 then 0 else pb.seq)) :
    R (Spec.C18.recordBatch crc false pb.partition (Model.C18.batchBody crc none pb v pid ep tx)) [] st
      (dBatch pb pid ep tx (Model.C18.batchBody crc none pb v pid ep tx).length) := by
  have hTL := tailBytes_length crc pb pid ep (attrsOf tx) h.inv
  have hwl := h.wl
  have hw := h.inv.wire
  unfold Spec.C18.recordBatch
  refine R_within _ _ _ _ _ ?_
  rw [batchBody_eq]
  refine R_bind (R_i64 0 _ (I64_iff.2 (by omega))) (R_else (by decide) ?_)
  refine R_bind (R_i32 _ _ (I32_iff.2 (by unfold Model.C18.recordBatchOverhead at hw; omega))) (R_nil_bind (R_get _) ?_)
  rw [List.append_nil]
  exact R_else (by simp [hTL]) (R_batchTail hcrc pb pid ep tx _ h)

theorem R_partition (pb : Model.C18.PartBatch) (v pid ep : Int) (tx : Bool)
    (rest : Bytes) (hv : 3 ≤ v) (hp : I32 pb.partition) (h : BatchWF pb.batch pid ep (if pid < 0 then 0 else pb.seq)) :
    R (Spec.C18.partitionP crc crc32 false v) (Model.C18.partAppendTo (env0 crc crc32) v pid ep tx pb) rest
      (dBatch pb pid ep tx (Model.C18.batchBody crc none pb v pid ep tx).length) := by
  have hb := Proof.C18.batchBody_length crc none pb v pid ep tx h.inv
  have hwl := h.wl
  unfold Model.C18.batchLength at hb
  unfold Model.C18.partAppendTo Spec.C18.partitionP Spec.C18.recordsBlobP
  simp only [env0, if_neg (Int.not_lt.2 hv)]
  rw [batchAppendTo_none crc pb v pid ep tx h.inv, List.append_assoc]
  refine R_bind (R_i32 pb.partition _ hp) (R_bind (R_lenBytes _ 4 (Model.C18.batchBody crc none pb v pid ep tx) _ (by omega) (fun r => R_i32 _ r ?_) _) ?_)
  · exact I32_iff.2 (by omega)
  · exact R_bind_last (R_emptyTags _ _) (R_recordBatch hcrc pb v pid ep tx _ h)

theorem R_parts (v pid ep : Int) (tx : Bool) (hv : 3 ≤ v)
    (ps : List Model.C18.PartBatch) (rest : Bytes) (h : PartsWF pid ep ps) :
    R (Spec.C18.repeatP (Spec.C18.partitionP crc crc32 false v) ps.length)
      (Model.C18.partsAppendTo (env0 crc crc32) v pid ep tx ps) rest (dParts crc v pid ep tx ps) := by
  induction ps with
  | nil => exact R_pure [] rest
  | cons pb ps ih =>
    exact R_bind (R_partition hcrc pb v pid ep tx _ hv h.1.1 h.1.2) (R_bind_last (ih h.2) (R_pure _ _))

theorem R_topic (v pid ep : Int) (tx : Bool) (hv : 3 ≤ v)
    (t : Model.C18.TopicBatches) (rest : Bytes) (h : TopicWF pid ep t) :
    R (Spec.C18.topicP crc crc32 false v) (Model.C18.topicAppendTo (env0 crc crc32) v pid ep tx t) rest (dTopic crc v pid ep tx t) := by
  have hname := h.name
  rw [topicAppendTo_eq]
  unfold Spec.C18.topicP Spec.C18.stringP
  refine R_bind (v := (if v ≥ 13 then none else some t.topic, if v ≥ 13 then some t.topicID else none)) ?_ ?_
  · by_cases h13 : v ≥ 13
    · simp only [if_pos h13]
      exact R_bind_last (R_takeN t.topicID _ 16 h.id) (R_pure _ _)
    · simp only [if_neg h13]
      exact R_bind_last (R_lenBytes _ 2 _ _ (by omega) (fun r => R_i16 _ r (I16_iff.2 (by omega))) _) (R_pure _ _)
  · exact R_bind (R_arrayLenP _ _ _ h.np) (R_bind (R_parts hcrc v pid ep tx hv t.parts _ h.parts)
      (R_bind_last (R_emptyTags _ _) (R_pure _ _)))

theorem R_topics (v pid ep : Int) (tx : Bool) (hv : 3 ≤ v)
    (ts : List Model.C18.TopicBatches) (rest : Bytes) (h : ∀ t ∈ ts, TopicWF pid ep t) :
    R (Spec.C18.repeatP (Spec.C18.topicP crc crc32 false v) ts.length)
      (Model.C18.topicsAppendTo (env0 crc crc32) v pid ep tx ts) rest (ts.map (dTopic crc v pid ep tx)) :=
  R_repeatP rfl (fun _ _ => rfl) ts rest fun t ht r => R_topic hcrc v pid ep tx hv t r (h t ht)

theorem R_requestTail (c : Model.C18.Cfg) (v corr pid ep : Int)
    (ts : List Model.C18.TopicBatches) (frameLen : Nat) (h : ReqWF c v corr pid ep ts) :
    R (Spec.C18.requestTail crc crc32 false frameLen) (restOf (env0 crc crc32) c v corr pid ep ts) [] (dReq crc frameLen c v corr pid ep ts) := by
  have hv3 := h.v3
  have hv13 := h.v13
  unfold Spec.C18.requestTail restOf Model.C18.requestAppendTo
  simp only [List.append_assoc, if_pos hv3]
  refine R_bind (R_i16 0 _ (I16_iff.2 (by omega))) (R_else (by decide) ?_)
  refine R_bind (R_i16 v _ (I16_iff.2 (by omega))) (R_else (by simp; omega) ?_)
  refine R_bind (R_i32 corr _ h.corr) (R_bind (R_nullableString16 c.clientId _ h.cid) ?_)
  refine R_bind (R_emptyTags _ _) (R_bind (R_then hv3 (R_nullableStringP _ c.txnId _ h.txn)) ?_)
  refine R_bind (R_i16 c.acks _ h.acks) (R_bind (R_i32 c.timeoutMs _ h.timeout) ?_)
  refine R_bind (R_arrayLenP _ _ _ h.nt) (R_bind (R_topics hcrc v pid ep _ hv3 ts _ h.topics) ?_)
  exact R_bind_last (R_emptyTags _ _) (R_pure _ _)

theorem R_request (c : Model.C18.Cfg) (v corr pid ep : Int)
    (ts : List Model.C18.TopicBatches) (st : Bytes) (h : ReqWF c v corr pid ep ts)
    (hlen : (Model.C18.appendRequest (env0 crc crc32) c v corr pid ep ts).length < 2147483648) :
    R (Spec.C18.requestP crc crc32 false (Model.C18.appendRequest (env0 crc crc32) c v corr pid ep ts)) [] st
      (dReq crc (Model.C18.appendRequest (env0 crc crc32) c v corr pid ep ts).length c v corr pid ep ts) := by
  unfold Spec.C18.requestP
  refine R_within _ _ _ _ _ ?_
  rw [appendRequest_eq] at hlen ⊢
  rw [List.length_append, Proof.C18.beI_length] at hlen
  refine R_bind (R_i32 _ _ (I32_iff.2 (by omega))) (R_nil_bind (R_get _) ?_)
  rw [List.append_nil]
  exact R_else (by simp) (R_requestTail hcrc c v corr pid ep ts _ h)

end

end Proof.C18RT
