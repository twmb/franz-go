import FranzVerif.Model.Commit
/-! History-level observables for the commit-order monitor (C09). -/
namespace Proof.Commit
open Model.Commit

/-- the offsets of the OffsetCommit requests in the order they reached the coordinator -/
def wireOffsets (h : List Ev) : List Nat :=
  h.filterMap (fun e => match e with | .wireReq _ _ off => some off | _ => none)

/-- offset carried for partition `p` by the last request for `p` that the coordinator answered without
error, scanning the history in order (`none` if there is none) -/
def lastApplied (p : Nat) (h : List Ev) : Option Nat :=
  let rec go (reqs : List (Nat × Nat × Nat)) (cur : Option Nat) : List Ev → Option Nat
    | [] => cur
    | .wireReq n q off :: rest => go ((n, q, off) :: reqs) cur rest
    | .wireResp n q err :: rest =>
      if q == p && err == 0 then
        match reqs.find? (fun w => w.1 == n && w.2.1 == p) with
        | some (_, _, off) => go reqs (some off) rest
        | none => go reqs cur rest
      else go reqs cur rest
    | _ :: rest => go reqs cur rest
  go [] none h

/-- is partition `p` tainted at the end of the history: the fault layer rewrote one of its successful answers
into an error (`taint p`) and no later answer for `p` was a success -/
def taintedAtEnd (p : Nat) (h : List Ev) : Bool :=
  let rec go (cur : Bool) : List Ev → Bool
    | [] => cur
    | .taint q :: rest => go (cur || q == p) rest
    | .wireResp _ q err :: rest => go (cur && !(q == p && err == 0)) rest
    | _ :: rest => go cur rest
  go false h

/-- was topic `t` deleted during the history -/
def topicDeleted (t : Nat) (h : List Ev) : Bool := h.any (fun e => e == .topicDeleted t)

def isIncomplete (h : List Ev) : Bool := h.any (fun e => e == .incomplete)

end Proof.Commit
