import FranzVerif.Proof.ConnInv
/-! Invariants of the connection monitor that concern SASL re-authentication (C22): which requests reached the wire,
which outcome times the monitor remembers, and where in the history a parked request became ready for its replay. With both
invariants in hand the file ends in `accepted_at`, from which the theorems of `Props.C22` about one event of an accepted history
start. -/
namespace Proof.Conn
open Model.Conn Model.C22Frame Proof.C22Frame Proof.Monitor

/-- ids of the requests the peer read off the wire, in order -/
def writtenIds (h : List Ev) : List Nat :=
  h.filterMap (fun e => match e with | .written w => some w.id | _ => none)

/-- (request, time) of an outcome event -/
def outOf : Ev → Option (Nat × Nat)
  | .ok i _ t => some (i, t)
  | .err i _ t => some (i, t)
  | _ => none

def isPark (i : Nat) : Ev → Bool
  | .park j _ => j == i
  | _ => false

structure SInv (h : List Ev) (s : St) : Prop where
  waiters : s.waiters.map (·.id) = writtenIds h
  outsMem : ∀ e ∈ h, ∀ i t, outOf e = some (i, t) → ∃ b, (i, b, t) ∈ s.outs
  parkedMem : ∀ i t, Ev.park i t ∈ h → i ∈ s.parked
  parkedSplit : ∀ i ∈ s.parked, ∃ h₁ tp h₂, h = h₁ ++ Ev.park i tp :: h₂ ∧ h₂.any (isPark i) = false
  -- only `h₃` is free of parkings of `i`: `tp` need not be the last parking before the `authEnd`
  ready : ∀ i c, (i, c) ∈ s.ready →
    ∃ h₁ h₂ h₃ tp n l t, h = h₁ ++ Ev.park i tp :: h₂ ++ Ev.authEnd c n l t :: h₃ ∧ h₃.any (isPark i) = false

theorem writtenIds_append (a b : List Ev) : writtenIds (a ++ b) = writtenIds a ++ writtenIds b := List.filterMap_append

theorem apply_waiters_ids (s : St) (e : Ev) : (apply s e).waiters.map (·.id) = s.waiters.map (·.id) ++ writtenIds [e] := by
  cases e with
  | written w => exact List.map_append
  | _ => exact (List.append_nil _).symm

theorem outs_subset_apply {s : St} (e : Ev) {x : Nat × Bool × Nat} (h : x ∈ s.outs) : x ∈ (apply s e).outs := by
  cases e with
  | ok _ _ _ | err _ _ _ => exact List.mem_cons_of_mem _ h
  | _ => exact h

theorem outOf_mem_apply (s : St) {e : Ev} {i t : Nat} (h : outOf e = some (i, t)) : ∃ b, (i, b, t) ∈ (apply s e).outs := by
  cases e with
  | ok _ _ _ => cases h; exact ⟨true, List.mem_cons_self⟩
  | err _ _ _ => cases h; exact ⟨false, List.mem_cons_self⟩
  | _ => cases h

theorem isPark_park {i : Nat} {e : Ev} (h : isPark i e = true) : ∃ t, e = .park i t := by
  cases e with
  | park j t => exact ⟨t, by rw [show j = i by simpa [isPark] using h]⟩
  | _ => cases h

theorem mem_parked_apply {s : St} {e : Ev} {i : Nat} : i ∈ (apply s e).parked ↔ isPark i e = true ∨ i ∈ s.parked := by
  cases e with
  | park j t => exact List.mem_cons.trans (or_congr_left (eq_comm.trans beq_iff_eq.symm))
  | _ => exact (or_iff_right Bool.false_ne_true).symm

theorem ready_of_apply {s : St} {e : Ev} {i c : Nat} (h : (i, c) ∈ (apply s e).ready) :
    ((i, c) ∈ s.ready ∧ isPark i e = false) ∨ (i ∈ s.parked ∧ ∃ n l t, e = .authEnd c n l t) := by
  cases e with
  | authEnd c' n l t =>
    rcases List.mem_append.1 h with h | h
    · obtain ⟨j, hj, he⟩ := List.mem_map.1 h
      cases he
      exact .inr ⟨hj, n, l, t, rfl⟩
    · exact .inl ⟨h, rfl⟩
  | park j t =>
    obtain ⟨h, hne⟩ := List.mem_filter.1 h
    exact .inl ⟨h, beq_false_of_ne (Ne.symm (by simpa using hne))⟩
  | _ => exact .inl ⟨h, rfl⟩

/-- A history split at a parking of `i` with none after it stays so split when an event that is no parking of `i` comes. -/
theorem split_snoc {i : Nat} {h h₁ h₂ : List Ev} {p e : Ev} (hh : h = h₁ ++ p :: h₂) (hn : h₂.any (isPark i) = false)
    (hp : isPark i e = false) : h ++ [e] = h₁ ++ p :: (h₂ ++ [e]) ∧ (h₂ ++ [e]).any (isPark i) = false := by
  simp [hh, hn, hp]

theorem SInv.step (h : List Ev) (s : St) (e : Ev) (hi : SInv h s) (_ : check s e = none) : SInv (h ++ [e]) (apply s e) where
  waiters := by rw [apply_waiters_ids, hi.waiters, writtenIds_append]
  outsMem := by
    intro e' he' i t hoe
    rcases List.mem_append.1 he' with he' | he'
    · obtain ⟨b, hb⟩ := hi.outsMem e' he' i t hoe
      exact ⟨b, outs_subset_apply e hb⟩
    · rw [List.mem_singleton.1 he'] at hoe
      exact outOf_mem_apply s hoe
  parkedMem := by
    intro i t hm
    rcases List.mem_append.1 hm with hm | hm
    · exact mem_parked_apply.2 (.inr (hi.parkedMem i t hm))
    · rw [← List.mem_singleton.1 hm]
      exact List.mem_cons_self
  parkedSplit := by
    intro i hm
    cases hp : isPark i e with
    | true =>
      obtain ⟨t, rfl⟩ := isPark_park hp
      exact ⟨h, t, [], rfl, rfl⟩
    | false =>
      obtain ⟨h₁, tp, h₂, hh, hn⟩ := hi.parkedSplit i ((mem_parked_apply.1 hm).resolve_left (hp ▸ Bool.false_ne_true))
      exact ⟨h₁, tp, h₂ ++ [e], split_snoc hh hn hp⟩
  ready := by
    intro i c hm
    rcases ready_of_apply hm with ⟨hr, hp⟩ | ⟨hpk, n, l, t, rfl⟩
    · obtain ⟨h₁, h₂, h₃, tp, n, l, t, hh, hn⟩ := hi.ready i c hr
      exact ⟨h₁, h₂, h₃ ++ [e], tp, n, l, t, split_snoc hh hn hp⟩
    · obtain ⟨h₁, tp, h₂, hh, hn⟩ := hi.parkedSplit i hpk
      exact ⟨h₁, h₂, [], tp, n, l, t, by rw [hh], rfl⟩

theorem SInv.init : SInv [] ({} : St) :=
  ⟨rfl, by simp, by simp, by intro i hi; simp at hi, by intro i c hi; simp at hi⟩

theorem sinv_of_run {h : List Ev} {s : St} (hr : run {} h = some s) : SInv h s :=
  isMonitor.inv SInv.step SInv.init hr

theorem writtenIds_nodup {h : List Ev} {s : St} (hr : run {} h = some s) : (writtenIds h).Nodup :=
  (sinv_of_run hr).waiters ▸ (inv_of_run hr).waitersNodup

theorem accepted_at {h₁ h₂ : List Ev} {e : Ev} (hacc : (run {} (h₁ ++ e :: h₂)).isSome) :
    ∃ s, run {} h₁ = some s ∧ check s e = none ∧ Inv h₁ s ∧ SInv h₁ s := by
  obtain ⟨s, hr, hchk⟩ := isMonitor.split_isSome hacc
  exact ⟨s, hr, hchk, inv_of_run hr, sinv_of_run hr⟩

end Proof.Conn
