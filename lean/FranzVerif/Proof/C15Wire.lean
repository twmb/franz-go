import FranzVerif.Proof.C15Step
import FranzVerif.Proof.WireFacts
/-! Each reader of the schema interpreter inverts its writer: fixed-width integers, varints, primitive types, strings and bytes,
array headers, the presence byte and the tag section. -/
namespace Proof.C15
open Model.C15

theorem byte_toNat {n : Nat} (h : n < 256) : (byte n).toNat = n := by
  simp [byte, h]

theorem span_append (bs rest : Bytes) (l : Int) (h : l = bs.length) : span l (bs ++ rest) = .ok bs rest := by
  subst h
  rw [span_eq, if_neg (by simp only [List.length_append]; omega), Int.toNat_natCast, List.take_left', List.drop_left']
  all_goals rfl

theorem be_length (n x : Nat) : (be n x).length = n := by
  induction n with
  | zero => rfl
  | succ n ih => simp [be, ih]

theorem ofBE_append (a b : Bytes) (acc : Nat) : ofBE (a ++ b) acc = ofBE b (ofBE a acc) := by
  induction a generalizing acc with
  | nil => rfl
  | cons x xs ih => simp [ofBE, ih]

theorem ofBE_be (n x acc : Nat) : ofBE (be n x) acc = acc * 256 ^ n + x % 256 ^ n := by
  induction n generalizing acc with
  | zero => simp [be, ofBE, Nat.mod_one]
  | succ n ih =>
    have hb : x / 256 ^ n % 256 < 256 := Nat.mod_lt _ (by decide)
    simp only [be, ofBE, byte_toNat hb, ih]
    rw [Nat.pow_succ, Wire.digit_add_mod]

theorem readBE_be (n x : Nat) (rest : Bytes) : readBE n (be n x ++ rest) = .ok (x % 256 ^ n) rest := by
  rw [readBE, span_append _ _ _ (by rw [be_length]), Res.map_ok, ofBE_be, Nat.zero_mul, Nat.zero_add]

theorem fromU_toU (m : Nat) (h i : Int) (hm : (m : Int) = 2 * h) (hi : inRange (-h) h i = true) : fromU m (toU m i) = i := by
  simp only [inRange, Bool.and_eq_true, decide_eq_true_eq] at hi
  have e : i % (m : Int) = if i < 0 then i + m else i := by
    split
    · rw [← Int.add_emod_right, Int.emod_eq_of_lt] <;> omega
    · exact Int.emod_eq_of_lt (by omega) (by omega)
  simp only [fromU, toU, e]
  split <;> split <;> omega

theorem toU_lt (m : Nat) (i : Int) (hm : 0 < m) : toU m i < m := by
  have h1 := Int.emod_lt_of_pos i (Int.natCast_pos.2 hm)
  have h2 := Int.emod_nonneg i (Int.natCast_ne_zero.2 (Nat.ne_of_gt hm))
  simp only [toU]
  omega

theorem readInt_enc (n m : Nat) (h i : Int) (rest : Bytes) (hn : m = 256 ^ n) (hm : (m : Int) = 2 * h)
    (hi : inRange (-h) h i = true) : readInt n m (be n (toU m i) ++ rest) = .ok i rest := by
  rw [readInt, readBE_be, Res.map_ok, ← hn, Nat.mod_eq_of_lt (toU_lt m i (hn ▸ Nat.pow_pos (by decide))), fromU_toU m h i hm hi]

theorem readUint_enc (n h : Nat) (i : Int) (rest : Bytes) (hn : h = 256 ^ n) (hi : inRange 0 h i = true) :
    readUint n (be n i.toNat ++ rest) = .ok i rest := by
  simp only [inRange, Bool.and_eq_true, decide_eq_true_eq] at hi
  rw [readUint, readBE_be, Res.map_ok, ← hn, Nat.mod_eq_of_lt (by omega)]
  congr 1
  omega

theorem inRange_of {lo hi i : Int} (h1 : lo ≤ i) (h2 : i < hi) : inRange lo hi i = true := by
  simp [inRange, h1, h2]

theorem readInt16_enc (i : Int) (rest : Bytes) (h : inRange (-32768) 32768 i = true) :
    readInt 2 m16 (encInt16 i ++ rest) = .ok i rest :=
  readInt_enc 2 m16 32768 i rest rfl rfl h

theorem readInt32_enc (i : Int) (rest : Bytes) (h : inRange (-2147483648) 2147483648 i = true) :
    readInt 4 m32 (encInt32 i ++ rest) = .ok i rest :=
  readInt_enc 4 m32 2147483648 i rest rfl rfl h

theorem uvEnc_length_pos (f n : Nat) : 1 ≤ (uvEnc (f + 1) n).length := by
  simp only [uvEnc]; split <;> simp

/-- the bound: `k` groups of 7 bits and a last byte `≤ lastMax`. -/
theorem uvDec_uvEnc (k lastMax n : Nat) (rest : Bytes) (hl : lastMax < 128) (h : n < 128 ^ k * (lastMax + 1)) :
    uvDec k lastMax (uvEnc (k + 1) n ++ rest) = some (n, rest) := by
  induction k generalizing n with
  | zero =>
    rw [Nat.pow_zero, Nat.one_mul] at h
    rw [uvEnc, if_pos (by omega), List.singleton_append, uvDec, byte_toNat (by omega), if_pos (by omega)]
  | succ k ih =>
    rw [uvEnc]
    split
    · rw [List.singleton_append, uvDec, byte_toNat (by omega), if_pos ‹_›]
    · rw [Nat.pow_succ, Nat.mul_right_comm] at h
      rw [List.cons_append, uvDec, byte_toNat (by omega), if_neg (by omega), ih _ (Nat.div_lt_of_lt_mul (Nat.mul_comm _ _ ▸ h))]
      simp only [Option.some.injEq, Prod.mk.injEq, and_true]
      omega

theorem readUvarint_enc (n : Nat) (rest : Bytes) (h : n < 4294967296) :
    readUvarint (encUvarint n ++ rest) = .ok n rest := by
  simp only [readUvarint, encUvarint, uvDec_uvEnc 4 15 n rest (by decide) h]

theorem readUvarlong_enc (n : Nat) (rest : Bytes) (h : n < 18446744073709551616) :
    readUvarlong (uvEnc 10 n ++ rest) = .ok n rest := by
  simp only [readUvarlong, uvDec_uvEnc 9 1 n rest (by decide) h]

theorem readUvarint_zero (rest : Bytes) : readUvarint ((0 : UInt8) :: rest) = .ok 0 rest :=
  readUvarint_enc 0 rest (by decide)

theorem unzz_zz (i : Int) : unzz (zz i) = i := by
  simp only [unzz, zz]
  split <;> split <;> omega

theorem zz_lt (h i : Int) (hi : inRange (-h) h i = true) : (zz i : Int) < 2 * h := by
  simp only [inRange, Bool.and_eq_true, decide_eq_true_eq] at hi
  simp only [zz]; split <;> omega

theorem readVarint_enc (i : Int) (rest : Bytes) (h : inRange (-2147483648) 2147483648 i = true) :
    readVarint (encVarint i ++ rest) = .ok i rest := by
  have := zz_lt _ i h
  rw [readVarint, encVarint, ← encUvarint, readUvarint_enc _ _ (by omega), Res.map_ok, unzz_zz]

theorem readVarlong_enc (i : Int) (rest : Bytes) (h : inRange (-9223372036854775808) 9223372036854775808 i = true) :
    readVarlong (uvEnc 10 (zz i) ++ rest) = .ok i rest := by
  have := zz_lt _ i h
  rw [readVarlong, readUvarlong_enc _ _ (by omega), Res.map_ok, unzz_zz]

theorem decPrim_encPrim (p : Prim) (v : Val) (bs rest : Bytes) : encPrim p v = some bs →
    decPrim p (bs ++ rest) = .ok v rest := by
  have hb : ∀ x : Nat, x < 2 → decPrim .bool (be 1 x ++ rest) = .ok (.int x) rest := by
    intro x hx
    rw [decPrim, readBE_be, Res.map_ok, Nat.mod_eq_of_lt (by omega)]
    congr 2
    split <;> omega
  -- the arms of `encPrim` in their order, two cases for each range test; the refused values have no encoding
  fun_cases encPrim p v <;> intro h <;> cases h <;> try rw [decPrim]
  case case1 => exact hb 0 (by decide)
  case case2 => exact hb 1 (by decide)
  case case4 i hr => rw [readInt_enc 1 m8 128 i rest rfl rfl hr]; rfl
  case case6 i hr => rw [readInt_enc 2 m16 32768 i rest rfl rfl hr]; rfl
  case case8 i hr => rw [readUint_enc 2 65536 i rest rfl hr]; rfl
  case case10 i hr => rw [readInt_enc 4 m32 2147483648 i rest rfl rfl hr]; rfl
  case case12 i hr => rw [readUint_enc 4 4294967296 i rest rfl hr]; rfl
  case case14 i hr => rw [readInt_enc 8 m64 9223372036854775808 i rest rfl rfl hr]; rfl
  case case16 i hr => rw [readUint_enc 8 18446744073709551616 i rest rfl hr]; rfl
  case case18 i hr => rw [← encVarint, readVarint_enc i rest hr]; rfl
  case case20 i hr => rw [readVarlong_enc i rest hr]; rfl
  case case22 hr => rw [span_append _ _ _ (by rw [hr]; rfl)]; rfl

theorem strLen_encSome (flex : Bool) (k : SKind) (b rest : Bytes) (hl : lenOK flex k b.length = true) :
    strLen flex k (encSome flex k b ++ rest) = .ok b.length (b ++ rest) := by
  have hu : ∀ n : Nat, n + 1 < 4294967296 →
      (readUvarint (encUvarint (n + 1) ++ (b ++ rest))).map (fun u => (u : Int) - 1) = .ok (n : Int) (b ++ rest) := by
    intro n hn
    rw [readUvarint_enc _ _ hn, Res.map_ok]
    congr 1
    omega
  cases k <;> cases flex <;> simp only [lenOK, if_true, if_false, decide_eq_true_eq, Bool.false_eq_true] at hl <;>
    simp only [strLen, encSome, List.append_assoc, if_true, if_false, Bool.false_eq_true]
  case str.true | nstr.true | bytes.true | nbytes.true => exact hu _ hl
  case str.false | nstr.false => exact readInt16_enc _ _ (inRange_of (by omega) (by omega))
  case bytes.false | nbytes.false => exact readInt32_enc _ _ (inRange_of (by omega) (by omega))
  all_goals exact readVarint_enc _ _ (inRange_of (by omega) (by omega))

theorem noPayload_nonneg (k : SKind) (l : Int) (h : 0 ≤ l) : noPayload k l = false := by
  cases k <;> simp only [noPayload, decide_eq_false_iff_not] <;> omega

theorem decStr_some (ver : Int) (flex : Bool) (k : SKind) (b rest : Bytes) (hl : lenOK flex (k.eff ver) b.length = true) :
    decStr ver flex k (encSome flex (k.eff ver) b ++ rest) = .ok (.blob (some b)) rest := by
  rw [decStr_eq, strLen_encSome flex _ b rest hl, Res.andThen_ok, noPayload_nonneg _ _ (by omega),
    if_neg Bool.false_ne_true, span_append b rest _ rfl, Res.map_ok]

/-- the null prefixes `-1` (fixed width, varint) and `0` (compact) -/
theorem strLen_null (flex : Bool) (k : SKind) (bs rest : Bytes) (hk : nullVal k = .blob none) (h : encNull flex k = some bs) :
    strLen flex k (bs ++ rest) = .ok (-1) rest := by
  have compact : (readUvarint ([0] ++ rest)).map (fun u => (u : Int) - 1) = .ok (-1) rest := by
    rw [List.singleton_append, readUvarint_zero]; rfl
  cases flex <;> cases k <;> (try cases hk) <;> cases h
  · exact readInt16_enc (-1) rest (by decide)
  · exact readInt32_enc (-1) rest (by decide)
  · exact readVarint_enc (-1) rest (by decide)
  · exact compact
  · exact compact
  · exact readVarint_enc (-1) rest (by decide)

theorem lenOK_eff (ver : Int) (flex : Bool) (k : SKind) (n : Nat) : lenOK flex (k.eff ver) n = lenOK flex k n := by
  cases k <;> simp only [SKind.eff] <;> try rfl
  split <;> rfl

theorem decStr_encStr (ver : Int) (flex : Bool) (k : SKind) (v : Val) (bs rest : Bytes)
    (h : encStr ver flex k v = some bs) : decStr ver flex k (bs ++ rest) = .ok (canonStr ver k v) rest := by
  -- a null that the effective kind keeps: the null prefix, and `canon` leaves it alone
  have null : ∀ k', k.eff ver = k' → nullVal k' = .blob none → encNull flex k' = some bs →
      decStr ver flex k (bs ++ rest) = .ok (canonStr ver k (.blob none)) rest := by
    intro k' he hk hn
    rw [decStr_eq, he, strLen_null flex k' bs rest hk hn, Res.andThen_ok]
    simp only [canonStr, he]
    cases k' <;> cases hk <;> rfl
  -- a null that is written as the empty value
  have empty : ∀ k', k.eff ver = k' → canonStr ver k (.blob none) = .blob (some []) → bs = encSome flex k' [] →
      decStr ver flex k (bs ++ rest) = .ok (canonStr ver k (.blob none)) rest := by
    intro k' he hc hb
    rw [hc, hb, ← he]
    exact decStr_some ver flex k [] rest (by rw [he]; cases k' <;> cases flex <;> rfl)
  cases v <;> simp only [encStr, reduceCtorEq] at h
  rename_i ob
  cases ob with
  | some b =>
    simp only [Option.ite_none_right_eq_some, Option.some.injEq] at h
    obtain ⟨hl, rfl⟩ := h
    exact decStr_some ver flex k b rest (by rw [lenOK_eff]; exact hl)
  | none =>
    cases k with
    | str => cases h
    | vstr => cases h
    | nstr n =>
      simp only at h
      split at h
      · rename_i hv
        have he : (SKind.nstr n).eff ver = .str := by simp only [SKind.eff, hv, if_true]
        exact empty .str he (by simp only [canonStr, he]) (Option.some.inj h).symm
      · rename_i hv
        exact null (.nstr n) (by simp only [SKind.eff, hv, if_false]) rfl h
    | bytes => exact empty .bytes rfl rfl (Option.some.inj h).symm
    | nbytes => exact null .nbytes rfl rfl h
    | vbytes => exact null .vbytes rfl rfl h

theorem wrapLen_succ (len : Nat) (h : len < 2147483647) : wrapLen (len + 1) = (len : Int) := by
  simp only [wrapLen]; split <;> omega

/-- `h2`: the check of the length against the remaining bytes has to let it through. -/
theorem decArrLen_encArrHdr (ver : Int) (flex : Bool) (k : AKind) (isNull : Bool) (len : Nat) (rest : Bytes)
    (h1 : len < 2147483647) (h2 : len ≤ rest.length) :
    decArrLen flex k (encArrHdr ver flex k isNull len ++ rest) = .ok (if k.nullableAt ver && isNull then -1 else len) rest := by
  have hc : chkLen (len : Int) rest = .ok len rest := by rw [chkLen, if_neg (by omega)]
  have hcn : chkLen (-1) rest = .ok (-1) rest := by rw [chkLen, if_neg (by omega)]
  have hv := readVarint_enc (len : Int) rest (inRange_of (by omega) (by omega))
  have h32 := readInt32_enc (len : Int) rest (inRange_of (by omega) (by omega))
  have hn32 := readInt32_enc (-1) rest (by decide)
  have huv := readUvarint_enc (len + 1) rest (by omega)
  have hw : wrapLen 0 = -1 := rfl
  cases k <;> cases flex <;>
    simp only [decArrLen, encArrHdr, AKind.nullableAt, Bool.false_and, Bool.false_eq_true, if_false, if_true] <;>
    (try split) <;>
    simp only [*, readUvarint_zero, List.singleton_append, Res.andThen_ok, wrapLen_succ len h1, Bool.false_eq_true, if_true, if_false]

theorem emptyArr_null (ver : Int) (k : AKind) (hv : 0 ≤ ver) (h : k.nullableAt ver = true) : emptyArr ver k (-1) = .null := by
  cases k with
  | normal => cases h
  | varint => cases h
  | nullable n =>
    simp only [AKind.nullableAt, decide_eq_true_eq] at h
    rw [emptyArr, if_neg (by omega)]

theorem goMake_ok (len cap : Nat) (h : len ≤ cap) : goMake (len : Int) cap = .ok len [] := by
  rw [goMake, if_neg (by omega), if_neg (by omega), Int.toNat_natCast]

/-- `Int8()` reads the byte back; `-1` alone means nil -/
theorem structPre_byte (i : Int) (x : Bytes) (hi : inRange (-128) 128 i = true) :
    structPre true (be 1 (toU m8 i) ++ x) = .ok (decide (i ≠ -1)) x := by
  rw [structPre, if_pos rfl, readInt_enc 1 m8 128 i x rfl rfl hi, Res.map_ok]

theorem structPre_pre (nullable : Bool) (x : Bytes) :
    structPre nullable ((if nullable then [1] else []) ++ x) = .ok true x := by
  cases nullable
  · rfl
  · exact structPre_byte 1 x (by decide)

theorem structPre_nil (x : Bytes) : structPre true ((255 : UInt8) :: x) = .ok false x := by
  have := structPre_byte (-1) x (by decide)
  rwa [show be 1 (toU m8 (-1)) = [255] by decide] at this

theorem readRawTags_enc (l : List (Nat × Bytes)) (rest : Bytes) (h : entriesOK l = true) :
    readRawTags l.length (encTagEntries l ++ rest) = .ok l rest := by
  induction l with
  | nil => rfl
  | cons e r ih =>
    obtain ⟨k, b⟩ := e
    simp only [entriesOK, List.all_cons, Bool.and_eq_true, decide_eq_true_eq] at h
    obtain ⟨⟨hk, hb⟩, hr⟩ := h
    have he : tagEntry (encTagEntries ((k, b) :: r) ++ rest) = .ok (k, b) (encTagEntries r ++ rest) := by
      simp only [tagEntry, encTagEntries, List.append_assoc]
      rw [readUvarint_enc k _ hk, Res.andThen_ok, readUvarint_enc b.length _ hb, Res.andThen_ok, span_append b _ _ rfl]
      rfl
    rw [List.length_cons, readRawTags_succ, he]
    simp only [ih hr, Res.map_ok]

theorem tagSet_append (acc : List (Nat × Bytes)) (k : Nat) (b : Bytes) (h : ∀ x ∈ acc, x.1 < k) :
    tagSet acc k b = acc ++ [(k, b)] := by
  induction acc with
  | nil => rfl
  | cons x xs ih =>
    have hx : x.1 < k := h x List.mem_cons_self
    rw [tagSet, if_neg (by omega), if_neg (by omega), ih fun y hy => h y (List.mem_cons_of_mem _ hy)]
    rfl

theorem keysSorted_cons {a : Nat × Bytes} {l : List (Nat × Bytes)} (h : keysSorted (a :: l) = true) :
    keysSorted l = true ∧ ∀ x ∈ l, a.1 < x.1 := by
  induction l generalizing a with
  | nil => exact ⟨rfl, fun _ => nofun⟩
  | cons b r ih =>
    simp only [keysSorted, Bool.and_eq_true, decide_eq_true_eq] at h
    refine ⟨h.2, fun x hx => ?_⟩
    cases hx with
    | head => exact h.1
    | tail _ hx' => exact Nat.lt_trans h.1 ((ih h.2).2 x hx')

theorem foldl_tagSet (l acc : List (Nat × Bytes)) (h1 : ∀ x ∈ acc, ∀ y ∈ l, x.1 < y.1) (h2 : keysSorted l = true) :
    l.foldl (fun acc (e : Nat × Bytes) => tagSet acc e.1 e.2) acc = acc ++ l := by
  induction l generalizing acc with
  | nil => simp
  | cons e r ih =>
    rw [List.foldl_cons, tagSet_append acc e.1 e.2 (fun x hx => h1 x hx e List.mem_cons_self),
      ih (acc ++ [e]) _ (keysSorted_cons h2).1, List.append_assoc]
    · rfl
    · intro x hx y hy
      cases List.mem_append.1 hx with
      | inl hx => exact h1 x hx y (List.mem_cons_of_mem _ hy)
      | inr hx => cases List.mem_singleton.1 hx; exact (keysSorted_cons h2).2 y hy

theorem mem_encTagEntries_le (l : List (Nat × Bytes)) (e : Nat × Bytes) (h : e ∈ l) :
    e.2.length ≤ (encTagEntries l).length := by
  induction l with
  | nil => cases h
  | cons x r ih =>
    simp only [encTagEntries, List.length_append]
    cases h with
    | head => omega
    | tail _ h' => have := ih h'; omega

theorem filter_unk_known (known : List Nat) (unk : List (Nat × Bytes))
    (h : (unk.all fun e => !known.contains e.1) = true) (k : Nat) (hk : k ∈ known) :
    unk.filter (fun e => e.1 == k) = [] := by
  rw [List.filter_eq_nil_iff]
  intro e he hek
  have := List.all_eq_true.1 h e he
  simp [(beq_iff_eq.1 hek : e.1 = k), hk] at this

theorem unknownOf_eq (known : List Nat) (tags unk : List (Nat × Bytes))
    (h1 : ∀ e ∈ tags, e.1 ∈ known) (h2 : unkOK known unk = true) : unknownOf known (tags ++ unk) = unk := by
  simp only [unkOK, Bool.and_eq_true] at h2
  have e1 : tags.filter (fun e => !known.contains e.1) = [] :=
    List.filter_eq_nil_iff.2 fun e he => by simp [h1 e he]
  have e2 : unk.filter (fun e => !known.contains e.1) = unk :=
    List.filter_eq_self.2 (List.all_eq_true.1 h2.2)
  rw [unknownOf, List.filter_append, e1, e2, List.nil_append, foldl_tagSet unk [] (fun _ => nofun) h2.1]
  rfl

theorem encTags_keys (ver : Int) (flex : Bool) : ∀ (fs : Fields) (vals : Vals) (tags : List (Nat × Bytes)),
    encTags ver flex fs vals = some tags → ∀ e ∈ tags, e.1 ∈ knownTags fs
  | .nil, .nil, tags, h => by cases h; exact fun _ => nofun
  | .nil, .cons .., _, h => by simp [encTags] at h
  | .cons name minV maxV none d t rest, vals, tags, h => by
    obtain ⟨v, r, l, rfl, hl, rfl⟩ := encTags_cons_some h
    exact encTags_keys ver flex rest r tags hl
  | .cons name minV maxV (some k) d t rest, vals, tags, h => by
    obtain ⟨v, r, l, rfl, hl, h⟩ := encTags_cons_some h
    have ih : ∀ e ∈ l, e.1 ∈ k :: knownTags rest := fun e he =>
      List.mem_cons_of_mem _ (encTags_keys ver flex rest r l hl e he)
    rcases h with ⟨_, rfl⟩ | ⟨_, a, _, rfl⟩
    · exact ih
    · exact List.forall_mem_cons.2 ⟨List.mem_cons_self, ih⟩

end Proof.C15
