import FranzVerif.Model.C32
import FranzVerif.Proof.C32
/-! C32 — read_committed exactness. The log's verdict on a transactional data batch (its producer's next marker is
not a commit) and the consumer's verdict (it holds the producer as aborted when it reaches the batch) are both shown
equivalent to one condition on kfake's index: an entry of the producer covers the batch (`aborted_iff_covered` from the
invariant `RInv`, `clientAborted_iff_covered` from `CState`, which reads the two lists `clientFilter` threads as predicates
of the batches seen so far). `clientFilter_spec` turns agreement at every such batch into
`clientFilter … = committedData …`. -/
namespace Proof.C32
open Model.C32

/-- strictly increasing, non-overlapping batches with at least one record each. -/
def Ord (l : List Batch) : Prop := l.Pairwise (fun a b => a.first + a.n ≤ b.first) ∧ ∀ b ∈ l, 1 ≤ b.n

theorem ord_append {l1 l2 : List Batch} : Ord (l1 ++ l2) ↔ Ord l1 ∧ Ord l2 ∧ ∀ a ∈ l1, ∀ b ∈ l2, a.first + a.n ≤ b.first := by
  simp only [Ord, List.pairwise_append, List.forall_mem_append]
  constructor
  · rintro ⟨⟨h1, h2, h3⟩, n1, n2⟩
    exact ⟨⟨h1, n1⟩, ⟨h2, n2⟩, h3⟩
  · rintro ⟨⟨h1, n1⟩, ⟨h2, n2⟩, h3⟩
    exact ⟨⟨h1, h2, h3⟩, n1, n2⟩

theorem ord_cons {a : Batch} {l : List Batch} : Ord (a :: l) ↔ 1 ≤ a.n ∧ Ord l ∧ ∀ b ∈ l, a.first + a.n ≤ b.first := by
  simp only [Ord, List.pairwise_cons, List.forall_mem_cons]
  constructor
  · rintro ⟨⟨h1, h2⟩, na, n2⟩
    exact ⟨na, ⟨h2, n2⟩, h1⟩
  · rintro ⟨na, ⟨h2, n2⟩, h1⟩
    exact ⟨⟨h1, h2⟩, na, n2⟩

theorem Ord.sublist {l l' : List Batch} (h : Ord l) (hs : l'.Sublist l) : Ord l' :=
  ⟨h.1.sublist hs, fun b hb => h.2 b (hs.subset hb)⟩

theorem ord_lt_of_split {A B : List Batch} {x : Batch} (h : Ord (A ++ x :: B)) :
    (∀ a ∈ A, a.first + a.n ≤ x.first) ∧ (∀ b ∈ B, x.first + x.n ≤ b.first) ∧ 1 ≤ x.n := by
  obtain ⟨hA, hxB, hAB⟩ := ord_append.1 h
  obtain ⟨nx, hB, hxb⟩ := ord_cons.1 hxB
  exact ⟨fun a ha => hAB a ha x (by simp), hxb, nx⟩

theorem ord_after {A B : List Batch} {x y : Batch} (h : Ord (A ++ x :: B)) (hy : y ∈ A ++ x :: B) (hlt : x.first < y.first) : y ∈ B := by
  rcases List.mem_append.1 hy with h1 | h1
  · have := (ord_lt_of_split h).1 y h1; have := h.2 y hy; omega
  · exact (List.mem_cons.1 h1).resolve_left fun e => by rw [e] at hlt; exact Int.lt_irrefl _ hlt

theorem ord_before {A B : List Batch} {x y : Batch} (h : Ord (A ++ x :: B)) (hy : y ∈ A ++ x :: B) (hlt : y.first < x.first) : y ∈ A := by
  refine (List.mem_append.1 hy).resolve_right fun h1 => ?_
  rcases List.mem_cons.1 h1 with rfl | h2
  · exact Int.lt_irrefl _ hlt
  · have := (ord_lt_of_split h).2.1 y h2; have := (ord_lt_of_split h).2.2; omega

theorem ord_end {l : List Batch} (h : Ord l) : l.Pairwise (fun a b => a.first + a.n < b.first + b.n) :=
  h.1.imp_of_mem fun _ hb hab => by have := h.2 _ hb; omega

theorem ord_lt {l : List Batch} (h : Ord l) {x y : Batch} (hx : x ∈ l) (hy : y ∈ l) (hlt : x.first < y.first) :
    x.first + x.n ≤ y.first := by
  induction l with
  | nil => cases hx
  | cons a l ih =>
    obtain ⟨na, hl, ha⟩ := ord_cons.1 h
    rcases List.mem_cons.1 hx with rfl | hx' <;> rcases List.mem_cons.1 hy with rfl | hy'
    · omega
    · exact ha y hy'
    · have := ha x hx'; omega
    · exact ih hl hx' hy'

theorem mem_dropWhile_sorted {α : Type} {R : α → α → Prop} {p : α → Bool} {l : List α} (h : l.Pairwise R)
    (hp : ∀ x y, R x y → p y = true → p x = true) (c : α) : c ∈ l.dropWhile p ↔ c ∈ l ∧ p c = false := by
  induction l with
  | nil => simp
  | cons x r ih =>
    rw [List.pairwise_cons] at h
    rw [List.dropWhile_cons]
    by_cases hx : p x = true
    · rw [if_pos hx, ih h.2, List.mem_cons]
      exact ⟨fun ⟨h1, h2⟩ => ⟨.inr h1, h2⟩, fun ⟨h1, h2⟩ => ⟨h1.resolve_left (fun e => by rw [e, hx] at h2; cases h2), h2⟩⟩
    · rw [if_neg hx, List.mem_cons]
      refine ⟨fun h1 => ⟨h1, ?_⟩, fun h1 => h1.1⟩
      rcases h1 with rfl | h1
      · simpa using hx
      · cases hc : p c
        · rfl
        · exact absurd (hp x c (h.1 c h1) hc) hx

theorem mem_search {l : List Batch} (h : Ord l) (o : Int) (x : Batch) :
    x ∈ l.dropWhile (fun m => decide (m.first + m.n ≤ o)) ↔ x ∈ l ∧ o < x.first + x.n :=
  (mem_dropWhile_sorted (ord_end h) (fun x y hxy hy => by simp only [decide_eq_true_eq] at *; omega) x).trans
    (by simp only [decide_eq_false_iff_not, Int.not_le])

theorem mem_dropWhile_last {ab : List Aborted} (h : ab.Pairwise (fun x y => x.last < y.last)) (o : Int) (a : Aborted) :
    a ∈ ab.dropWhile (fun e => decide (e.last < o)) ↔ a ∈ ab ∧ ¬ a.last < o :=
  (mem_dropWhile_sorted h (fun x y hxy hy => by simp only [decide_eq_true_eq] at *; omega) a).trans
    (by simp only [decide_eq_false_iff_not])

/-- a listed aborted transaction of `P` has started within `seen` (`first <` the end of a batch there) and no abort marker
of `P` among `pr` lies behind its start. -/
def Started (ab : List (Int × Int)) (seen pr : List Batch) (P : Int) : Prop :=
  ∃ e ∈ ab, e.1 = P ∧ (∃ b ∈ seen, e.2 < b.first + b.n) ∧
    ∀ c ∈ pr, c.ctl = true → c.commit = false → c.pid = P → c.first + c.n ≤ e.2

/-- the producers the consumer holds as "aborted" when it reaches batch `m` after `pr`: `m` counts for the start, not yet
as a marker. -/
def ClientAborted (ab : List (Int × Int)) (pr : List Batch) (m : Batch) (P : Int) : Prop := Started ab (pr ++ [m]) pr P

/-- the state of `clientFilter` after the batches `pr`. -/
structure CState (ab : List (Int × Int)) (pr : List Batch) (pend : List (Int × Int)) (act : List Int) : Prop where
  pend : ∀ e, e ∈ pend ↔ e ∈ ab ∧ ∀ b ∈ pr, b.first + b.n ≤ e.2
  act : ∀ P, P ∈ act ↔ Started ab pr pr P

theorem act1_char {ab : List (Int × Int)} {pr : List Batch} {pend : List (Int × Int)} {act : List Int}
    (hs : CState ab pr pend act) (m : Batch) (P : Int) :
    P ∈ act ++ ((pend.filter (fun e => decide (e.2 ≤ m.first + m.n - 1))).map (·.1)) ↔ ClientAborted ab pr m P := by
  simp only [ClientAborted, Started, List.mem_append, List.mem_map, List.mem_filter, decide_eq_true_eq, hs.act P, hs.pend,
    List.mem_singleton, Int.le_sub_one_iff]
  constructor
  · rintro (⟨e, he, hp, hb, hc⟩ | ⟨e, ⟨⟨he, hn⟩, hm⟩, hp⟩)
    · exact ⟨e, he, hp, hb.imp fun b hb => ⟨.inl hb.1, hb.2⟩, hc⟩
    · exact ⟨e, he, hp, ⟨m, .inr rfl, hm⟩, fun c hc _ _ _ => hn c hc⟩
  · rintro ⟨e, he, hp, ⟨b, hb, hbl⟩, hc⟩
    by_cases hex : ∃ b ∈ pr, e.2 < b.first + b.n
    · exact .inl ⟨e, he, hp, hex, hc⟩
    · refine .inr ⟨e, ⟨⟨he, fun c hc => Int.not_lt.1 fun hlt => hex ⟨c, hc, hlt⟩⟩, ?_⟩, hp⟩
      rcases hb with hb | rfl
      · exact absurd ⟨b, hb, hbl⟩ hex
      · exact hbl

theorem cstate_init (ab : List (Int × Int)) : CState ab [] ab [] := ⟨by simp, by simp [Started]⟩

theorem cstate_step {ab : List (Int × Int)} {pr : List Batch} {pend : List (Int × Int)} {act : List Int}
    (hs : CState ab pr pend act) (m : Batch) (hord : Ord (pr ++ [m])) :
    CState ab (pr ++ [m]) (pend.filter (fun e => !(decide (e.2 ≤ m.first + m.n - 1))))
      (if m.ctl && !m.commit then (act ++ ((pend.filter (fun e => decide (e.2 ≤ m.first + m.n - 1))).map (·.1))).filter (· != m.pid)
       else act ++ ((pend.filter (fun e => decide (e.2 ≤ m.first + m.n - 1))).map (·.1))) := by
  refine ⟨fun e => ?_, fun P => ?_⟩
  · simp only [List.mem_filter, hs.pend, List.forall_mem_append, List.forall_mem_singleton, Bool.not_eq_eq_eq_not,
      Bool.not_true, decide_eq_false_iff_not, Int.not_le, Int.sub_one_lt_iff, and_assoc]
  ·
    have hA := act1_char hs m P
    generalize act ++ ((pend.filter (fun e => decide (e.2 ≤ m.first + m.n - 1))).map (·.1)) = A at hA ⊢
    have h1 : P ∈ (if m.ctl && !m.commit then A.filter (· != m.pid) else A) ↔
        ClientAborted ab pr m P ∧ ¬ (m.ctl = true ∧ m.commit = false ∧ P = m.pid) := by
      rw [← hA]
      by_cases hm : (m.ctl && !m.commit) = true
      · rw [if_pos hm, List.mem_filter]
        simp only [Bool.and_eq_true, Bool.not_eq_eq_eq_not, Bool.not_true] at hm
        simp only [bne_iff_ne, ne_eq, hm, true_and]
      · rw [if_neg hm]
        simp only [Bool.and_eq_true, Bool.not_eq_eq_eq_not, Bool.not_true] at hm
        exact (and_iff_left fun h => hm ⟨h.1, h.2.1⟩).symm
    have hQ : ∀ x : Int, (∃ b ∈ pr ++ [m], x < b.first + b.n) → ¬ m.first + m.n ≤ x := by
      rintro x ⟨b, hb, hbl⟩
      rcases List.mem_append.1 hb with hb | hb
      · have := (ord_lt_of_split hord).1 b hb; have := hord.2 m (by simp); omega
      · rw [List.mem_singleton.1 hb] at hbl; omega
    rw [h1]
    simp only [ClientAborted, Started, List.forall_mem_append, List.forall_mem_singleton]
    constructor
    · rintro ⟨⟨e, he, hp, hb, hc⟩, hnm⟩
      exact ⟨e, he, hp, hb, hc, fun h2 h3 h4 => absurd ⟨h2, h3, h4.symm⟩ hnm⟩
    · rintro ⟨e, he, hp, hb, hc, hcm⟩
      exact ⟨⟨e, he, hp, hb, hc⟩, fun ⟨h2, h3, h4⟩ => hQ e.2 hb (hcm h2 h3 h4.symm)⟩

/-- `hkey` speaks of the positions of the whole list `pr ++ todo`: the induction moves the head of `todo` to the end of
`pr` and leaves that list, hence `hkey`, as it is. -/
theorem clientFilter_spec (ab : List (Int × Int)) (rest : List Batch) (todo pr : List Batch) (pend : List (Int × Int)) (act : List Int)
    (hord : Ord (pr ++ todo)) (hs : CState ab pr pend act)
    (hkey : ∀ p m td, pr ++ todo = p ++ m :: td → m.ctl = false → m.txn = true →
      (ClientAborted ab p m m.pid ↔ statusIn (td ++ rest) m.pid ≠ .committed)) :
    clientFilter todo pend act = committedData todo rest := by
  induction todo generalizing pr pend act with
  | nil => rfl
  | cons m r ih =>
    have hord' : Ord ((pr ++ [m]) ++ r) := by simpa using hord
    have hrec := ih (pr ++ [m]) _ _ hord' (cstate_step hs m (ord_append.1 hord').1)
      (fun p m' td h => hkey p m' td (by simpa using h))
    rw [clientFilter, committedData]
    cases hc : m.ctl
    · simp only [hc, Bool.false_and, Bool.false_eq_true, if_false] at hrec
      rw [if_neg Bool.false_ne_true, if_neg Bool.false_ne_true, hrec]
      cases ht : m.txn
      · rfl
      · have h1 := (act1_char hs m m.pid).trans (hkey pr m r rfl hc ht)
        simp only [Bool.true_and, Bool.not_true, Bool.false_or, List.contains_iff_mem, beq_iff_eq, h1]
        exact ite_not ..
    · simp only [hc, Bool.true_and] at hrec
      rw [if_pos rfl, if_pos rfl, ← hrec]
      cases m.commit <;> rfl

theorem Appended.lookup {pd pd' : Part} {x : Batch} (ha : Appended pd pd' x) (P f : Int) :
    pd'.unc.lookup P = some f ↔ (x.ctl = true → P ≠ x.pid) ∧
      (pd.unc.lookup P = some f ∨ x.ctl = false ∧ x.txn = true ∧ P = x.pid ∧ pd.unc.lookup P = none ∧ f = pd.hwm) := by
  rw [ha.unc]
  cases hc : x.ctl
  · rw [if_neg Bool.false_ne_true]
    simp only [Bool.false_eq_true, false_imp_iff, true_and]
    split
    · rename_i ht
      rw [List.lookup_append, List.lookup_singleton, Option.or_eq_some_iff]
      simp only [Option.ite_none_right_eq_some, beq_iff_eq, Option.some.injEq, ht.1, true_and]
      exact or_congr_right ⟨fun ⟨a, b, c⟩ => ⟨b, a, c.symm⟩, fun ⟨b, a, c⟩ => ⟨a, b, c.symm⟩⟩
    · rename_i ht
      exact ⟨.inl, fun h => h.resolve_right fun ⟨h2, h3, h4, _⟩ => ht ⟨h2, h3 ▸ h4⟩⟩
  · rw [if_pos rfl, List.lookup_filter (· != x.pid)]
    simp only [Bool.true_eq_false, false_and, or_false, true_imp_iff, Option.ite_none_right_eq_some, bne_iff_ne, ne_eq]

/-- ties the aborted index and `uncommittedPIDs` to the log: one index entry per abort marker that still has data of
its transaction, open transactional data tracked with its first offset. -/
structure RInv (pd : Part) : Prop where
  ord : Ord pd.batches
  le : ∀ b ∈ pd.batches, b.first + b.n ≤ pd.hwm
  ctl1 : ∀ b ∈ pd.batches, b.ctl = true → b.n = 1
  abSorted : pd.aborted.Pairwise (fun x y => x.last < y.last)
  abMarker : ∀ a ∈ pd.aborted, ∃ c ∈ pd.batches, c.ctl = true ∧ c.commit = false ∧ c.pid = a.pid ∧ c.first = a.last
  abLt : ∀ a ∈ pd.aborted, a.first < a.last
  /-- no marker of the entry's producer lies inside the entry, in front of its own marker -/
  abNoCtl : ∀ a ∈ pd.aborted, ∀ c ∈ pd.batches, c.ctl = true → c.pid = a.pid → a.first ≤ c.first → c.first < a.last → False
  /-- an abort marker `c` that is the next marker of its producer behind transactional data `m` (no marker of the producer
  between them: the inner `∀`) has an entry that reaches back to `m` -/
  abCover : ∀ c ∈ pd.batches, c.ctl = true → c.commit = false → ∀ m ∈ pd.batches, m.ctl = false → m.txn = true → m.pid = c.pid →
      m.first < c.first → (∀ c' ∈ pd.batches, c'.ctl = true → c'.pid = c.pid → m.first < c'.first → c'.first < c.first → False) →
      ∃ a ∈ pd.aborted, a.pid = c.pid ∧ a.last = c.first ∧ a.first ≤ m.first
  /-- transactional data with no marker of its producer behind it (the inner `∀`) is tracked as open -/
  openTracked : ∀ m ∈ pd.batches, m.ctl = false → m.txn = true →
      (∀ c ∈ pd.batches, c.ctl = true → c.pid = m.pid → c.first ≤ m.first) → ∃ f, pd.unc.lookup m.pid = some f ∧ f ≤ m.first
  uncAfterCtl : ∀ P f, pd.unc.lookup P = some f → ∀ c ∈ pd.batches, c.ctl = true → c.pid = P → c.first < f
  uncLt : ∀ P f, pd.unc.lookup P = some f → f < pd.hwm

theorem rinv_init : RInv ({} : Part) :=
  ⟨⟨List.Pairwise.nil, by simp⟩, by simp, by simp, List.Pairwise.nil, by simp, by simp, by simp, by simp, by simp, by simp, by simp⟩

theorem rinv_appended {pd pd' : Part} {x : Batch} (h : RInv pd) (ha : Appended pd pd' x) : RInv pd' := by
  have hU := ha.lookup
  obtain ⟨hb, hxf, hh, hxn, hx1, -, hA, -⟩ := ha
  have hmem : ∀ y, y ∈ pd'.batches ↔ y ∈ pd.batches ∨ y = x := fun y => by rw [hb, List.mem_append, List.mem_singleton]
  have hamem : ∀ a, a ∈ pd'.aborted ↔ a ∈ pd.aborted ∨
      (x.ctl = true ∧ x.commit = false ∧ ∃ f, pd.unc.lookup x.pid = some f ∧ a = ⟨x.pid, f, pd.hwm⟩) := by
    intro a; rw [hA, List.mem_append]
    refine or_congr_right ?_
    split
    · rename_i hc
      cases pd.unc.lookup x.pid <;> simp [hc.1, hc.2]
    · rename_i hc
      exact Iff.intro (fun h => nomatch h) (fun h => absurd ⟨h.1, h.2.1⟩ hc)
  have hend : ∀ y ∈ pd.batches, y.first < pd.hwm := fun y hy => by have := h.le y hy; have := h.ord.2 y hy; omega
  have hablast : ∀ a ∈ pd.aborted, a.last < pd.hwm := by
    intro a ha'
    obtain ⟨c, hc, _, _, _, h4⟩ := h.abMarker a ha'
    have := hend c hc; omega
  have hold : ∀ y, y ∈ pd'.batches → y.first < pd.hwm → y ∈ pd.batches := fun y hy hlt =>
    ((hmem y).1 hy).resolve_right fun e => by rw [e, hxf] at hlt; exact Int.lt_irrefl _ hlt
  exact {
    ord := by
      rw [hb]
      refine ord_append.2 ⟨h.ord, ⟨List.pairwise_singleton _ _, by simpa using hxn⟩, fun a ha b hb' => ?_⟩
      rw [List.mem_singleton.1 hb', hxf]
      exact h.le a ha
    le y hy := by
      rw [hh]
      rcases (hmem y).1 hy with hy | rfl
      · have := h.le y hy; omega
      · omega
    ctl1 y hy := by
      rcases (hmem y).1 hy with hy | rfl
      · exact h.ctl1 y hy
      · exact hx1
    abSorted := by
      rw [hA]
      split <;> cases pd.unc.lookup x.pid <;>
        simp only [Option.map_none, Option.map_some, Option.toList_none, Option.toList_some, List.append_nil,
          List.pairwise_append, List.pairwise_singleton, List.forall_mem_singleton, h.abSorted, true_and]
      exact hablast
    abMarker a ha' := by
      rcases (hamem a).1 ha' with ha1 | ⟨hc, hcm, f, hf, rfl⟩
      · exact (h.abMarker a ha1).imp fun c hc => ⟨(hmem c).2 (.inl hc.1), hc.2⟩
      · exact ⟨x, (hmem x).2 (.inr rfl), hc, hcm, rfl, hxf⟩
    abLt a ha' := by
      rcases (hamem a).1 ha' with ha1 | ⟨hc, hcm, f, hf, rfl⟩
      · exact h.abLt a ha1
      · exact h.uncLt _ _ hf
    abNoCtl a ha' c hc hcc hp hge hlt := by
      rcases (hamem a).1 ha' with ha1 | ⟨-, -, f, hf, rfl⟩
      · have := hablast a ha1
        exact h.abNoCtl a ha1 c (hold c hc (by omega)) hcc hp hge hlt
      · have := h.uncAfterCtl _ _ hf c (hold c hc hlt) hcc hp
        exact absurd hge (by simp only; omega)
    abCover c hc hcc hcm m hm hmc hmt hp hlt hbtw := by
      have hcle : c.first ≤ pd.hwm := by
        rcases (hmem c).1 hc with hc' | rfl
        · exact Int.le_of_lt (hend c hc')
        · exact Int.le_of_eq hxf
      have hm' := hold m hm (by omega)
      rcases (hmem c).1 hc with hc' | rfl
      · obtain ⟨a, ha', hcov⟩ := h.abCover c hc' hcc hcm m hm' hmc hmt hp hlt (fun c' hc'' => hbtw c' ((hmem c').2 (.inl hc'')))
        exact ⟨a, (hamem a).2 (.inl ha'), hcov⟩
      · -- the new marker: no earlier marker of the producer lies behind `m`, so `m`'s transaction is open in the old log
        obtain ⟨f, hf, hfl⟩ := h.openTracked m hm' hmc hmt (fun c' hc' hcc' hp' => Int.not_lt.1 fun hgt => by
          have := hend c' hc'
          exact hbtw c' ((hmem c').2 (.inl hc')) hcc' (hp'.trans hp) hgt (by omega))
        rw [hp] at hf
        exact ⟨⟨c.pid, f, pd.hwm⟩, (hamem _).2 (.inr ⟨hcc, hcm, f, hf, rfl⟩), rfl, hxf.symm, hfl⟩
    openTracked m hm hmc hmt hlast := by
      rcases (hmem m).1 hm with hm' | rfl
      · have hx : x.ctl = true → m.pid ≠ x.pid := fun hc hp => by
          have := hlast x ((hmem x).2 (.inr rfl)) hc hp.symm
          have := hend m hm'; omega
        obtain ⟨f, hf, hfl⟩ := h.openTracked m hm' hmc hmt (fun c hc => hlast c ((hmem c).2 (.inl hc)))
        exact ⟨f, (hU _ _).2 ⟨hx, .inl hf⟩, hfl⟩
      · have hx : m.ctl = true → m.pid ≠ m.pid := fun hc => by simp [hmc] at hc
        cases hl : pd.unc.lookup m.pid with
        | some f => exact ⟨f, (hU _ _).2 ⟨hx, .inl hl⟩, by have := h.uncLt _ _ hl; omega⟩
        | none => exact ⟨pd.hwm, (hU _ _).2 ⟨hx, .inr ⟨hmc, hmt, rfl, hl, rfl⟩⟩, Int.le_of_eq hxf.symm⟩
    uncAfterCtl P f hf c hc hcc hp := by
      obtain ⟨hne, hf⟩ := (hU P f).1 hf
      rcases (hmem c).1 hc with hc' | rfl
      · rcases hf with hf | ⟨-, -, -, -, rfl⟩
        · exact h.uncAfterCtl P f hf c hc' hcc hp
        · exact hend c hc'
      · exact absurd hp.symm (hne hcc)
    uncLt P f hf := by
      rw [hh]
      rcases ((hU P f).1 hf).2 with hf | ⟨-, -, -, -, rfl⟩
      · have := h.uncLt P f hf; omega
      · omega }

theorem rinv_trim (pd : Part) (ls : Int) (h : RInv pd) : RInv (trimLeft { pd with logStart := ls }) := by
  have hB : ∀ x, x ∈ (trimLeft { pd with logStart := ls }).batches ↔ x ∈ pd.batches ∧ ls < x.first + x.n := fun x => by
    simp only [trimLeft, Int.sub_one_lt_iff]
    exact mem_search h.ord ls x
  have hA : ∀ a, a ∈ (trimLeft { pd with logStart := ls }).aborted ↔ a ∈ pd.aborted ∧ ¬ a.last < ls :=
    mem_dropWhile_last h.abSorted ls
  have hlater : ∀ m ∈ (trimLeft { pd with logStart := ls }).batches, ∀ c ∈ pd.batches, m.first < c.first →
      c ∈ (trimLeft { pd with logStart := ls }).batches := by
    intro m hm c hc hlt
    obtain ⟨hm, hk⟩ := (hB m).1 hm
    have := ord_lt h.ord hm hc hlt; have := h.ord.2 c hc
    exact (hB c).2 ⟨hc, by omega⟩
  exact {
    ord := h.ord.sublist (List.dropWhile_sublist _)
    le x hx := h.le x ((hB x).1 hx).1
    ctl1 x hx := h.ctl1 x ((hB x).1 hx).1
    abSorted := h.abSorted.sublist (List.dropWhile_sublist _)
    abLt a ha := h.abLt a ((hA a).1 ha).1
    abNoCtl a ha c hc := h.abNoCtl a ((hA a).1 ha).1 c ((hB c).1 hc).1
    uncAfterCtl P f hf c hc := h.uncAfterCtl P f hf c ((hB c).1 hc).1
    uncLt := h.uncLt
    abMarker a ha := by
      obtain ⟨ha, hk⟩ := (hA a).1 ha
      obtain ⟨c, hc, hcc, hcm, hp, hfl⟩ := h.abMarker a ha
      have := h.ctl1 c hc hcc
      exact ⟨c, (hB c).2 ⟨hc, by omega⟩, hcc, hcm, hp, hfl⟩
    abCover c hc hcc hcm m hm hmc hmt hp hlt hbtw := by
      obtain ⟨hc', hk⟩ := (hB c).1 hc
      obtain ⟨a, ha, hap, hal, haf⟩ := h.abCover c hc' hcc hcm m ((hB m).1 hm).1 hmc hmt hp hlt
        (fun c' hc' hcc' hp' hgt => hbtw c' (hlater m hm c' hc' hgt) hcc' hp' hgt)
      have := h.ctl1 c hc' hcc
      exact ⟨a, (hA a).2 ⟨ha, by omega⟩, hap, hal, haf⟩
    openTracked m hm hmc hmt hlast :=
      h.openTracked m ((hB m).1 hm).1 hmc hmt fun c hc hcc hp =>
        Int.not_lt.1 fun hgt => absurd (hlast c (hlater m hm c hc hgt) hcc hp) (Int.not_le.2 hgt) }

theorem rinv_delete (pd : Part) (off : Int) (h : RInv pd) : RInv (deleteRecords pd off).1 := by
  rcases deleteRecords_fst pd off with e | e <;> rw [e]
  · exact h
  · exact rinv_trim pd _ h

theorem searchOffset_found (pd : Part) (o : Int) (bs : List Batch) (h : searchOffset pd o = .found bs) :
    bs = pd.batches.dropWhile (fun m => decide (m.first + m.n ≤ o)) := by
  revert h
  fun_cases searchOffset pd o <;> intro h <;> cases h
  rfl

theorem getLast_ge (out : List Batch) (l : Batch) (h : Ord out) (hl : out.getLast? = some l) :
    ∀ m ∈ out, m.first + m.n ≤ l.first + l.n := by
  obtain ⟨ys, rfl⟩ := List.getLast?_eq_some_iff.1 hl
  intro m hm
  rcases List.mem_append.1 hm with h1 | h1
  · have := (ord_append.1 h).2.2 m h1 l (by simp)
    have := h.2 l (by simp); omega
  · rw [List.mem_singleton.1 h1]; omega

theorem mem_abortedFor (aborted : List Aborted) (hs : aborted.Pairwise (fun x y => x.last < y.last)) (o : Int)
    (out : List Batch) (l : Batch) (hl : out.getLast? = some l) (e : Int × Int) :
    e ∈ abortedFor aborted o out ↔ ∃ a ∈ aborted, ¬ (a.last < o) ∧ a.first < l.first + l.n ∧ e = (a.pid, a.first) := by
  unfold abortedFor
  rw [hl]
  simp only [List.mem_map, List.mem_filter, decide_eq_true_eq, mem_dropWhile_last hs, and_assoc, eq_comm (a := e)]

theorem aborted_iff_covered {pd : Part} (hP : PInv pd) (hR : RInv pd) {A B : List Batch} {m : Batch}
    (hL : pd.batches = A ++ m :: B) (hc : m.ctl = false) (ht : m.txn = true) (hlso : m.first < pd.lso) :
    statusIn B m.pid ≠ .committed ↔ ∃ a ∈ pd.aborted, a.pid = m.pid ∧ a.first < m.first + m.n ∧ m.first + m.n ≤ a.last := by
  have hO : Ord (A ++ m :: B) := hL ▸ hR.ord
  obtain ⟨hmn, hOB, hmB⟩ := ord_cons.1 (ord_append.1 hO).2.1
  have hBL : ∀ b ∈ B, b ∈ pd.batches := fun b hb => hL ▸ List.mem_append_right _ (List.mem_cons_of_mem _ hb)
  have hmL : m ∈ pd.batches := hL ▸ List.mem_append_right _ List.mem_cons_self
  unfold statusIn
  cases hf : B.find? (fun c => c.ctl && c.pid == m.pid) with
  | none =>
    -- no marker of the producer behind `m`: its transaction is open, so it lies at or beyond the LSO
    rw [List.find?_eq_none] at hf
    obtain ⟨f, hf', hfl⟩ := hR.openTracked m hmL hc ht fun c hcL h1 h2 =>
      Int.not_lt.1 fun hlt => hf c (ord_after hO (hL ▸ hcL) hlt) (by simp [h1, h2])
    have := minUnc_le_mem pd.hwm pd.unc (m.pid, f) (List.mem_of_lookup_eq_some hf')
    rw [← hP.lso] at this
    exact absurd hlso (by simp only at this; omega)
  | some c =>
    obtain ⟨hcp, B1, B2, hB, hB1⟩ := List.find?_eq_some_iff_append.1 hf
    obtain ⟨hcc, hcpid⟩ : c.ctl = true ∧ c.pid = m.pid := by simpa using hcp
    have hcB : c ∈ B := hB ▸ List.mem_append_right _ List.mem_cons_self
    have hmc := hmB c hcB
    have hB1 : ∀ x ∈ B1, x.ctl = true → x.pid = m.pid → False := fun x hx h1 h2 => by simpa [h1, h2] using hB1 x hx
    rw [hB] at hOB
    constructor
    · intro hne
      have hcm : c.commit = false := by
        cases hcm : c.commit
        · rfl
        · simp [hcm] at hne
      obtain ⟨a, ha, hap, hal, haf⟩ := hR.abCover c (hBL c hcB) hcc hcm m hmL hc ht hcpid.symm (by omega)
        fun c' hc'L h1 h2 h3 h4 =>
          hB1 c' (ord_before hOB (hB ▸ ord_after hO (hL ▸ hc'L) h3) h4) h1 (h2.trans hcpid)
      exact ⟨a, ha, hap.trans hcpid, by omega, by omega⟩
    · rintro ⟨a, ha, hap, haf, hal⟩
      obtain ⟨ca, hcaL, h1, h2, h3, h4⟩ := hR.abMarker a ha
      have hcaB : ca ∈ B1 ++ c :: B2 := hB ▸ ord_after hO (hL ▸ hcaL) (by omega)
      rcases List.mem_append.1 hcaB with h5 | h5
      · exact absurd (hB1 ca h5 h1 (h3.trans hap)) id
      · rcases List.mem_cons.1 h5 with rfl | h5
        · simp [h2]
        · have := (ord_lt_of_split hOB).2.1 ca h5; have := hR.ord.2 c (hBL c hcB)
          exact absurd (hR.abNoCtl a ha c (hBL c hcB) hcc (hcpid.trans hap.symm) (by omega) (by omega)) id

theorem clientAborted_iff_covered {pd : Part} (hR : RInv pd) {o : Int} {p td rest : List Batch} {m : Batch}
    (hbs : pd.batches.dropWhile (fun m => decide (m.first + m.n ≤ o)) = p ++ m :: (td ++ rest)) (hc : m.ctl = false) :
    ClientAborted (abortedFor pd.aborted o (p ++ m :: td)) p m m.pid ↔
      ∃ a ∈ pd.aborted, a.pid = m.pid ∧ a.first < m.first + m.n ∧ m.first + m.n ≤ a.last := by
  have hmem := fun x => hbs ▸ mem_search hR.ord o x
  have hO : Ord (p ++ m :: (td ++ rest)) := hbs ▸ hR.ord.sublist (List.dropWhile_sublist _)
  obtain ⟨hpm, hmT, hmn⟩ := ord_lt_of_split hO
  obtain ⟨l, hl⟩ : ∃ l, (p ++ m :: td).getLast? = some l := ⟨_, List.getLast?_eq_some_getLast (by simp)⟩
  have hU := getLast_ge _ l (by simpa using (ord_append.1 ((List.append_assoc p (m :: td) rest) ▸ hO)).1) hl m (by simp)
  have hab := mem_abortedFor pd.aborted hR.abSorted o _ l hl
  have hom := ((hmem m).1 (by simp)).2
  constructor
  · rintro ⟨e, he, hep, ⟨b, hb, hbl⟩, hmk⟩
    obtain ⟨a, ha, hao, -, rfl⟩ := (hab e).1 he
    simp only at hbl hmk
    have hbm : b.first + b.n ≤ m.first + m.n := by
      rcases List.mem_append.1 hb with h1 | h1
      · have := hpm b h1; omega
      · rw [List.mem_singleton.1 h1]; exact Int.le_refl _
    -- the entry's marker is behind `m`: it is neither in front of `o` nor one the consumer has seen
    obtain ⟨ca, hcaL, h1, h2, h3, h4⟩ := hR.abMarker a ha
    have := hR.ctl1 ca hcaL h1; have := hR.abLt a ha
    refine ⟨a, ha, hep, by omega, ?_⟩
    rcases List.mem_append.1 ((hmem ca).2 ⟨hcaL, by omega⟩) with h5 | h5
    · have := hmk ca h5 h1 h2 (h3.trans hep); omega
    · rcases List.mem_cons.1 h5 with rfl | h5
      · exact absurd (h1.symm.trans hc) (by simp)
      · have := hmT ca h5; omega
  · rintro ⟨a, ha, hap, haf, hal⟩
    refine ⟨(a.pid, a.first), (hab _).2 ⟨a, ha, by omega, by omega, rfl⟩,
      hap, ⟨m, by simp, haf⟩, fun c2 hc2 h1 h2 h3 => Int.not_lt.1 fun (hlt : a.first < c2.first + c2.n) => ?_⟩
    have hc2L := ((hmem c2).1 (by simp [hc2])).1
    have := hpm c2 hc2; have := hR.ctl1 c2 hc2L h1
    exact hR.abNoCtl a ha c2 hc2L h1 (h3.trans hap.symm) (by omega) (by omega)

theorem rc_exact_run {pd : Part} (hP : PInv pd) (hR : RInv pd) (o : Int) (out rest : List Batch)
    (hbs : pd.batches.dropWhile (fun m => decide (m.first + m.n ≤ o)) = out ++ rest) (hlso : ∀ m ∈ out, m.first < pd.lso) :
    clientView (abortedFor pd.aborted o out) out = committedData out rest := by
  have hO : Ord (out ++ rest) := hbs ▸ hR.ord.sublist (List.dropWhile_sublist _)
  refine clientFilter_spec _ rest out [] _ [] (ord_append.1 hO).1 (cstate_init _) fun p m td hsplit hc ht => ?_
  obtain rfl : out = p ++ m :: td := hsplit
  rw [List.append_assoc, List.cons_append] at hbs
  have hL : pd.batches = (pd.batches.takeWhile (fun m => decide (m.first + m.n ≤ o)) ++ p) ++ m :: (td ++ rest) := by
    rw [List.append_assoc, ← hbs, List.takeWhile_append_dropWhile]
  exact (clientAborted_iff_covered hR hbs hc).trans (aborted_iff_covered hP hR hL hc ht (hlso m (by simp))).symm

end Proof.C32
