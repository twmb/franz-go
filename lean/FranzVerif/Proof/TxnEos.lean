import FranzVerif.Model.Txn
import FranzVerif.Proof.Txn
import FranzVerif.Proof.Monitor
import FranzVerif.Proof.Ledger
/-! The exactly-once pipeline monitor `Model.Eos` (C10): what an accepted event tells, and the invariant `Inv h s`
relating the state reached by `run` to the history-level observables (inputs and output ids are the reversed
observables; every stored batch is a `batch` event of the history; output ids are unique, are inputs, and lie in
the batch of the transaction that wrote them). -/
namespace Proof.Eos
open Model.Eos Proof.Monitor Proof.Ledger

theorem isMonitor : IsMonitor check apply step run :=
  ⟨⟨fun _ => rfl, fun s e es => by rw [run]; cases step s e <;> rfl⟩,
   fun s e => by rw [step]; cases check s e <;> rfl⟩

theorem output_check {s : St} {off part t : Nat} {id : Id} (h : check s (.output off id part t) = none) :
    id ∈ s.inputs ∧ id ∉ s.outs.map (·.1) ∧ ∃ ids, (t, ids) ∈ s.batches ∧ id ∈ ids := by
  simp only [check, ite_some_eq_none] at h
  obtain ⟨h1, h2, h3⟩ := h
  refine ⟨by simpa using h1, by simpa only [List.mem_map, not_exists, not_and, List.any_eq_true, beq_iff_eq] using h2, ?_⟩
  split at h3
  · cases h3
  · rename_i t' ids hf
    have hk := List.find?_some hf
    obtain rfl : t' = t := beq_iff_eq.1 hk
    exact ⟨ids, List.mem_of_find?_eq_some hf, by simpa using h3⟩

theorem quiesce_check {s : St} (h : check s .quiesce = none) (hinc : s.incomplete = false) :
    ∀ i ∈ s.inputs, i ∈ s.outs.map (·.1) := by
  simp only [check, hinc, Bool.false_eq_true, if_false, ite_some_eq_none, and_true, List.any_eq_true, not_exists,
    not_and] at h
  intro i hi
  cases ho : s.outs.any (·.1 == i) with
  | true => exact (List.any_beq_iff _ _ _).1 ho
  | false => exact absurd (by rw [ho]; rfl) (h i hi)

def batchEv : Ev → Option (Nat × List Id) | .batch _ t ids => some (t, ids) | _ => none

structure Inv (h : List Ev) (s : St) : Prop where
  inputs : s.inputs = (inputsOf h).reverse
  outs : s.outs.map (·.1) = (outputIds h).reverse
  incomplete : s.incomplete = isIncomplete h
  batches : ∀ b ∈ s.batches, ∃ m, Ev.batch m b.1 b.2 ∈ h
  outNodup : (outputIds h).Nodup
  outIn : ∀ id ∈ outputIds h, id ∈ inputsOf h
  outBatch : ∀ off id part t, Ev.output off id part t ∈ h → ∃ m ids, Ev.batch m t ids ∈ h ∧ id ∈ ids

theorem inputs_of_run {h : List Ev} {s : St} (hr : run {} h = some s) : s.inputs = (inputsOf h).reverse :=
  isMonitor.field (f := (·.inputs)) (fun s ev => by cases ev <;> rfl) rfl hr

theorem batches_of_run {h : List Ev} {s : St} (hr : run {} h = some s) :
    ∀ b ∈ s.batches, ∃ m, Ev.batch m b.1 b.2 ∈ h := by
  intro b hb
  rw [isMonitor.field (f := (·.batches)) (g := batchEv) (fun s ev => by cases ev <;> rfl) rfl hr, List.mem_reverse] at hb
  obtain ⟨ev, hev, he⟩ := List.mem_filterMap.1 hb
  cases ev <;> cases he
  exact ⟨_, hev⟩

/-- The fields that only record are read off `apply` (`IsMonitor.field`/`flag`); output ids stay distinct because `check`
refuses a second one; `outIn` and `outBatch` restate the rule of `output` at the event (`IsMonitor.check_of_mem`), the
inputs and batches it names being still there at the end. -/
theorem inv_of_run {h : List Ev} {s : St} (hr : run {} h = some s) : Inv h s := by
  have outs : s.outs.map (·.1) = (outputIds h).reverse :=
    isMonitor.field (f := fun s => s.outs.map (·.1)) (fun s ev => by cases ev <;> rfl) rfl hr
  have nodup : (s.outs.map (·.1)).Nodup := by
    refine isMonitor.inv_state (I := fun s => (s.outs.map (·.1)).Nodup) (s₀ := {}) (fun s ev hn hchk => ?_)
      List.nodup_nil hr
    cases ev with
    | output off id part t => exact List.nodup_cons.2 ⟨(output_check hchk).2.1, hn⟩
    | _ => exact hn
  exact {
    inputs := inputs_of_run hr
    outs
    incomplete := isMonitor.flag (f := (·.incomplete)) (fun s ev => by cases ev <;> rfl) rfl hr
    batches := batches_of_run hr
    outNodup := List.nodup_reverse.1 (outs ▸ nodup)
    outIn := fun id hid => by
      obtain ⟨ev, hev, he⟩ := List.mem_filterMap.1 hid
      cases ev <;> cases he
      obtain ⟨h₁, h₂, s₁, rfl, hr₁, hchk⟩ := isMonitor.check_of_mem hr hev
      exact mem_filterMap_append_left (List.mem_reverse.1 (inputs_of_run hr₁ ▸ (output_check hchk).1)) _
    outBatch := fun off id part t hm => by
      obtain ⟨h₁, h₂, s₁, rfl, hr₁, hchk⟩ := isMonitor.check_of_mem hr hm
      obtain ⟨-, -, ids, hb, hid⟩ := output_check hchk
      obtain ⟨m, hm'⟩ := batches_of_run hr₁ _ hb
      exact ⟨m, ids, List.mem_append_left _ hm', hid⟩ }

end Proof.Eos
