import FranzVerif.Proof.C31Gate
/-! C31 — the gate at the observable level: the ghost bookkeeping `out` (polls outstanding by returns of
`waitAndAddPoller` / `unaddPoller` / `AllowRebalance`) against the rebalance section, under the hypothesis
`viol = false` (no `AllowRebalance` returned while a thread was inside its fill). -/
namespace Model.C31.Gate

/-- incremented the poller count, `waitAndAddPoller` not yet returned -/
def pu (t : Th) : Nat := match t.pc with | .pUnlock _ => 1 | _ => 0
/-- ran the decrement of `unaddPoller`, not yet returned -/
def uu (t : Th) : Nat := match t.pc with | .uUnlock _ => 1 | _ => 0
/-- reset the poller count, `AllowRebalance` not yet returned -/
def au (t : Th) : Nat := match t.pc with | .aUnlock => 1 | _ => 0
/-- inside its fill: `waitAndAddPoller` returned, `unaddPoller` not yet -/
def fl (t : Th) : Nat := match t.pc with | .uLock _ | .uUnlock _ => 1 | _ => 0
/-- inside its fill with a poll that an `AllowRebalance` already cleared -/
def stale (ep : Nat) (t : Th) : Nat := match t.pc with
  | .uLock e | .uUnlock e => if e = ep then 0 else 1 | _ => 0
/-- between the return of `waitAndAddRebalance` and the return of `unaddRebalance` -/
def insObs (t : Th) : Nat := match t.pc with | .xLock | .xUnlock => 1 | _ => 0

/-- The invariant of the bookkeeping as a relation between the shared state and the numbers of threads with
a stale poll (`s`), in their fill (`f`), at `uUnlock` (`u`), `pUnlock` (`p`), `aUnlock` (`a`), and in the
rebalance section (`i`). -/
structure ONum (sh : Sh) (s f u p a i : Nat) : Prop where
  st : s = 0
  F : sh.fill = f
  O : a = 0 → sh.pollers + u = sh.out + p
  A : a > 0 → sh.pollers = 0
  G : sh.fill ≤ sh.out
  H : i > 0 → sh.out = 0 ∧ f = 0 ∧ p = 0

def OI (s : St Sh Th) : Prop :=
  ONum s.sh (cnt (stale s.sh.ep) s.ths) (cnt fl s.ths) (cnt uu s.ths) (cnt pu s.ths) (cnt au s.ths) (cnt ins s.ths)

def CInv (s : St Sh Th) : Prop := GInv s ∧ (s.sh.viol = false → OI s)

theorem start_zero' (p : List Op) :
    pu (start p) = 0 ∧ uu (start p) = 0 ∧ au (start p) = 0 ∧ fl (start p) = 0 ∧ ∀ ep, stale ep (start p) = 0 := by
  rcases p with _ | ⟨_ | _ | _ | _, _⟩ <;> exact ⟨rfl, rfl, rfl, rfl, fun _ => rfl⟩

theorem init_cinv (progs : List (List Op)) : CInv (init progs) := by
  refine ⟨init_inv progs, fun _ => ?_⟩
  constructor <;> simp [init, cnt_map_eq_zero, start_zero, start_zero']

theorem obs_le (l : List Th) : cnt pu l + cnt uu l + cnt au l ≤ cnt hold l ∧ cnt insObs l ≤ cnt ins l := by
  refine ⟨?_, cnt_le ?_ l⟩
  · rw [← cnt_add, ← cnt_add]; apply cnt_le; intro t; obtain ⟨pc, p⟩ := t; cases pc <;> simp [pu, uu, au, hold]
  · intro t; obtain ⟨pc, p⟩ := t; cases pc <;> simp [insObs, ins]

theorem stale_le (ep : Nat) (l : List Th) : cnt (stale ep) l ≤ cnt fl l := by
  apply cnt_le; intro t; obtain ⟨pc, p⟩ := t; cases pc <;> simp [stale, fl] <;> split <;> omega

theorem Step.viol_mono {sh : Sh} {t : Th} {sh' : Sh} {t' : Th} {b : Bool}
    (h : Step sh t sh' t' b) (hv : sh'.viol = false) : sh.viol = false := by
  cases h with
  | allow => exact (Bool.or_eq_false_iff.1 hv).1
  | _ => exact hv

theorem cinv_step (sh : Sh) (t : Th) (r : List Th) (sh' : Sh) (t' : Th) (b : Bool) (ev : String)
    (hI : CInv ⟨sh, t :: r⟩) (hs : stepT sh t = some (sh', t', b, ev)) : CInv ⟨sh', t' :: sys.wakeAll b r⟩ := by
  obtain ⟨hg, ho⟩ := hI
  refine ⟨inv_step _ _ _ _ _ _ _ hg hs, fun hv => ?_⟩
  have hs := Step.of_stepT hs
  have ho := ho (hs.viol_mono hv)
  simp only [GInv, OI, cnt_cons, cnt_wakeAll pu, cnt_wakeAll uu, cnt_wakeAll au, cnt_wakeAll fl,
    fun ep => cnt_wakeAll (stale ep), cnt_wakeAll ins] at hg ho ⊢
  obtain ⟨mu, reb, -, excl, -, -⟩ := hg
  obtain ⟨st, F, O, A, G, H⟩ := ho
  have hle := ins_le r
  -- no other thread holds the mutex, so `O` and `A` speak of the acting thread alone
  have h0 := hs.rest_free mu
  obtain ⟨hp, hu, ha⟩ : cnt pu r = 0 ∧ cnt uu r = 0 ∧ cnt au r = 0 := by have := (obs_le r).1; omega
  simp only [hp, hu, ha, Nat.add_zero] at O A H ⊢
  have hsl := stale_le (sh.ep + 1) r
  obtain ⟨z1, z2, z3, z4, z5⟩ := start_zero' t.prog
  have z7 := (start_zero t.prog).2.2.1
  cases hs
  -- the thread's own poll is not stale (`st`): its `unaddPoller` takes it out of `out`
  case' unadd e => obtain rfl : e = sh.ep := Decidable.byContradiction fun h => by simp [stale, h] at st
  -- `viol` stays false: no thread is in its fill, so no poll goes stale
  case' allow => have hf : ¬sh.fill > 0 := of_decide_eq_false (Bool.or_eq_false_iff.1 hv).2
  all_goals
    simp only [hold, rcount, ins, pu, uu, au, fl, stale, if_true, true_implies, and_true] at mu reb excl st F O A G H
    constructor <;>
      simp only [↓z1, ↓z2, ↓z3, ↓z4, ↓z5, ↓z7, ins, pu, uu, au, fl, stale, if_true, implies_true, true_implies,
        true_and, and_true] <;>
      omega

theorem reach_cinv {progs : List (List Op)} {s : St Sh Th} (hr : sys.Reach (init progs) s) : CInv s :=
  Sys.inv_of_local sys (init_cinv progs) (by simp [CInv, GInv, OI, cnt_mid]) cinv_step hr

end Model.C31.Gate
