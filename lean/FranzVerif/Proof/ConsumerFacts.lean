import FranzVerif.Model.Consumer
import FranzVerif.Proof.Consumer
import FranzVerif.Proof.ConsumerInv
import FranzVerif.Proof.Ledger
/-! Facts read off the invariant of the direct-consumer monitor: what `txnOf` finds, what the `quiesce`
rules say, and how `ret`/`decided`/`nret` evolve along a run (`Mono`: a decision entry added later carries an index at
least the earlier `nret`, which orders a decision and a returned record). -/
namespace Proof.Consumer
open Model.Consumer

theorem txnOf_some_mem {s : St} {part off : Nat} {id : Id} {k : Nat} (h : txnOf s part off id = some k) :
    (id, part, off, k) ∈ s.prod := by
  obtain ⟨⟨i, p, o, k'⟩, hm, hp, rfl⟩ := Proof.Ledger.find?_map_some h
  simp only [Bool.and_eq_true, beq_iff_eq] at hp
  obtain ⟨⟨rfl, rfl⟩, rfl⟩ := hp
  exact hm

theorem txnOf_of_mem {s : St} (hp : s.prod.Pairwise (fun a b => a.1 ≠ b.1)) {part off : Nat} {id : Id} {k : Nat}
    (h : (id, part, off, k) ∈ s.prod) : txnOf s part off id = some k := by
  cases hf : txnOf s part off id with
  | none =>
    unfold txnOf at hf
    simp only [Option.map_eq_none_iff, List.find?_eq_none] at hf
    exact absurd (by simp) (hf _ h)
  | some k' =>
    have := Proof.Ledger.eq_of_key_nodup Prod.fst (List.pairwise_map.2 hp) (txnOf_some_mem hf) h rfl
    simp only [Prod.mk.injEq, true_and] at this
    rw [this]

theorem Inv.txnOf {c : Cfg} {h : List Ev} {s : St} (hi : Inv c h s) {part off : Nat} {id : Id} {k : Nat}
    (hp : (id, part, off, k) ∈ producedOf h) : txnOf s part off id = some k :=
  txnOf_of_mem hi.prodId (by rw [hi.prod]; exact List.mem_reverse.2 hp)

theorem Inv.mem_returnedOf {c : Cfg} {h : List Ev} {s : St} (hi : Inv c h s) (r : Nat × Nat × Id × Bool) :
    r ∈ returnedOf h ↔ ∃ x ∈ s.ret, retKey x = r := List.mem_iff_of_map_eq_reverse hi.ret r

theorem Inv.mem_decisionsOf {c : Cfg} {h : List Ev} {s : St} (hi : Inv c h s) (d : Nat × Bool) :
    d ∈ decisionsOf h ↔ ∃ x ∈ s.decided, decKey x = d := List.mem_iff_of_map_eq_reverse hi.decided d

structure Quiet (c : Cfg) (s : St) : Prop where
  /-- every returned data record is a produced record at its acknowledged place -/
  ack : ∀ r ∈ s.ret, r.2.2.2.1 = false → (txnOf s r.1 r.2.1 r.2.2.1).isSome = true
  /-- read_committed: nothing of an aborted transaction -/
  noAbort : c.committed = true → ∀ r ∈ s.ret, r.2.2.2.1 = false → ∀ k, txnOf s r.1 r.2.1 r.2.2.1 = some k → k ≠ 0 →
    ∀ d ∈ s.decided, d.1 = k → d.2.1 = true
  /-- read_committed: nothing of a transaction not yet decided to commit -/
  noOpen : c.committed = true → ∀ r ∈ s.ret, r.2.2.2.1 = false → ∀ k, txnOf s r.1 r.2.1 r.2.2.1 = some k → k ≠ 0 →
    ∃ d ∈ s.decided, d.1 = k ∧ d.2.1 = true ∧ d.2.2 ≤ r.2.2.2.2
  buffered : s.buffered = []
  gauge : s.gauge = some 0
  complete : s.incomplete = false → ∀ p ∈ s.prod, c.start ≤ p.2.2.1 →
    (c.committed = false ∨ p.2.2.2 = 0 ∨ ∃ d ∈ s.decided, d.1 = p.2.2.2 ∧ d.2.1 = true) →
    ∃ r ∈ s.ret, r.1 = p.2.1 ∧ r.2.1 = p.2.2.1 ∧ r.2.2.1 = p.1

theorem committedBefore_iff {s : St} {k i : Nat} :
    committedBefore s k i = true ↔ ∃ d ∈ s.decided, d.1 = k ∧ d.2.1 = true ∧ d.2.2 ≤ i := by
  simp only [committedBefore, List.any_eq_true, Bool.and_eq_true, beq_iff_eq, decide_eq_true_eq, and_assoc]

theorem quiesce_check {c : Cfg} {s : St} (hchk : check c s .quiesce = none) : Quiet c s := by
  -- the rules as propositions: `ack`, `buffered`, `gauge`, `complete` are then the rules themselves
  simp only [check, Proof.Monitor.ite_some_eq_none, ite_eq_left_iff, ite_eq_right_iff, reduceCtorEq, and_false, imp_false,
    List.any_eq_true, Bool.and_eq_true, Bool.or_eq_true, Bool.not_eq_true', Bool.not_eq_true, beq_iff_eq,
    decide_eq_true_eq, not_exists, not_and, Bool.not_eq_false, and_assoc, or_assoc, ge_iff_le,
    Option.isNone_eq_false_iff, List.isEmpty_iff, bne_eq_false_iff_eq] at hchk
  obtain ⟨q1, q2, q3, q4, q5, q6⟩ := hchk
  -- the two read_committed rules match on the transaction of the record; at `some k` with `k ≠ 0` they say
  have txn : c.committed = true → ∀ r ∈ s.ret, r.2.2.2.1 = false → ∀ k, txnOf s r.1 r.2.1 r.2.2.1 = some k → k ≠ 0 →
      (∀ d ∈ s.decided, d.1 = k → d.2.1 = true) ∧ committedBefore s k r.2.2.2.2 = true := by
    intro hcm r hr hc k hk hk0
    obtain ⟨n, rfl⟩ := Nat.exists_eq_add_one_of_ne_zero hk0
    have a := q2 hcm r hr hc
    have b := q3 hcm r hr hc
    simp only [hk, List.any_eq_false, Bool.and_eq_true, beq_iff_eq, Bool.not_eq_true', not_and, Bool.not_eq_false,
      Bool.not_eq_false'] at a b
    exact ⟨a, b⟩
  exact ⟨q1, fun hcm r hr hc k hk hk0 => (txn hcm r hr hc k hk hk0).1,
    fun hcm r hr hc k hk hk0 => committedBefore_iff.1 (txn hcm r hr hc k hk hk0).2, q4, q5, q6⟩

theorem at_quiesce {c : Cfg} {h : List Ev} {s : St} (hacc : run c {} (h ++ [Ev.quiesce]) = some s) :
    ∃ s₁, run c {} h = some s₁ ∧ Inv c h s₁ ∧ Quiet c s₁ :=
  let ⟨s₁, h1, hchk, _⟩ := (isMonitor c).snoc hacc
  ⟨s₁, h1, inv_of_run h1, quiesce_check hchk⟩

theorem eligible_returned {c : Cfg} {h : List Ev} {s : St} (hacc : run c {} (h ++ [Ev.quiesce]) = some s)
    (hcomplete : isIncomplete h = false) {id : Id} {part off txn : Nat} (hp : (id, part, off, txn) ∈ producedOf h)
    (hoff : c.start ≤ off) (hel : c.committed = false ∨ txn = 0 ∨ (txn, true) ∈ decisionsOf h) :
    ∃ ctl, (part, off, id, ctl) ∈ returnedOf h := by
  obtain ⟨s₁, _, hi, hq⟩ := at_quiesce hacc
  have hm : (id, part, off, txn) ∈ s₁.prod := by rw [hi.prod]; exact List.mem_reverse.2 hp
  have hel' : c.committed = false ∨ txn = 0 ∨ ∃ d ∈ s₁.decided, d.1 = txn ∧ d.2.1 = true :=
    hel.imp_right fun h => h.imp_right fun hd => let ⟨x, hx, e⟩ := (hi.mem_decisionsOf _).1 hd; ⟨x, hx, congrArg (·.1) e, congrArg (·.2) e⟩
  obtain ⟨r, hr, r1, r2, r3⟩ := hq.complete (hi.incomplete.trans hcomplete) _ hm hoff hel'
  exact ⟨r.2.2.2.1, (hi.mem_returnedOf _).2 ⟨r, hr, by simp only [retKey, r1, r2, r3]⟩⟩

structure Mono (s s' : St) : Prop where
  ret : ∀ r ∈ s.ret, r ∈ s'.ret
  nret : s.nret ≤ s'.nret
  decided : ∀ d ∈ s'.decided, d ∈ s.decided ∨ s.nret ≤ d.2.2

theorem Mono.refl (s : St) : Mono s s := ⟨fun _ h => h, Nat.le_refl _, fun _ h => Or.inl h⟩

theorem Mono.trans {a b d : St} (h1 : Mono a b) (h2 : Mono b d) : Mono a d := by
  refine ⟨fun r hr => h2.ret r (h1.ret r hr), Nat.le_trans h1.nret h2.nret, ?_⟩
  intro x hx
  rcases h2.decided x hx with h | h
  · exact h1.decided x h
  · exact Or.inr (Nat.le_trans h1.nret h)

theorem Mono.apply (c : Cfg) (s : St) (ev : Ev) : Mono s (apply c s ev) := by
  cases ev with
  | endDone t cm ok => cases ok <;> exact ⟨fun _ h => h, Nat.le_refl _, fun _ h => Or.inl h⟩
  | endDecided t cm =>
    refine ⟨fun _ h => h, Nat.le_refl _, ?_⟩
    intro d hd
    simp only [Model.Consumer.apply, List.mem_cons] at hd
    rcases hd with rfl | hd
    · exact Or.inr (Nat.le_refl _)
    · exact Or.inl hd
  | returned p o i ctl =>
    exact ⟨fun r h => List.mem_cons_of_mem _ h, Nat.le_succ _, fun _ h => Or.inl h⟩
  | _ => exact ⟨fun _ h => h, Nat.le_refl _, fun _ h => Or.inl h⟩

theorem Mono.run {c : Cfg} {s s' : St} {h : List Ev} (hr : run c s h = some s') : Mono s s' :=
  (isMonitor c).inv_state (fun s₁ e hm _ => hm.trans (Mono.apply c s₁ e)) (Mono.refl s) hr

theorem mem_of_lastGauge {h : List Ev} {n : Nat} (hg : lastGauge h = some n) : Ev.gauge n ∈ h := by
  rw [lastGauge_eq] at hg
  have := List.mem_of_getLast? hg
  obtain ⟨e, he, hn⟩ := List.mem_filterMap.1 this
  cases e <;> simp [gaugeEv] at hn
  subst hn; exact he

theorem returnedOffsets_eq_filter (part : Nat) (h : List Ev) :
    returnedOffsets part h = ((returnedOf h).filter (·.1 == part)).map (·.2.1) := by
  rw [returnedOffsets_eq, returnedOf_eq, List.filter_filterMap, List.map_filterMap]
  congr 1
  funext e
  cases e <;> simp [offEv, retEv, Option.filter]

theorem returned_place_at_most_once {part : Nat} {h : List Ev} (hp : (returnedOffsets part h).Pairwise (· < ·))
    (off : Nat) : ((returnedOf h).filter (fun r => r.1 == part && r.2.1 == off)).length ≤ 1 := by
  rw [returnedOffsets_eq_filter, List.pairwise_map] at hp
  have h2 := hp.filter (fun r => r.2.1 == off)
  rw [List.filter_filter] at h2
  have heq : (fun (a : Nat × Nat × Id × Bool) => (a.2.1 == off && a.1 == part)) = (fun r => r.1 == part && r.2.1 == off) := by
    funext a; exact Bool.and_comm _ _
  rw [heq] at h2
  refine List.length_le_one_of_pairwise h2 ?_
  intro a ha b hb
  have ha' := (List.mem_filter.1 ha).2
  have hb' := (List.mem_filter.1 hb).2
  simp only [Bool.and_eq_true, beq_iff_eq] at ha' hb'
  omega
end Proof.Consumer
