import FranzVerif.Proof.Conn
import FranzVerif.Proof.Ledger
/-! What `check` demands of an outcome (with what `expectOf` replays for it), a wire request and `quiesce` in the connection
monitor (C22), and the invariant `Inv`: the state's outcome and issue ids are those of the history, and no request has two
outcomes or two waiters. -/
namespace Proof.Conn
open Model.Conn Model.C22Frame Proof.C22Frame Proof.Monitor

/-- what is replayed for a request that reached the wire: the stream of its connection against that connection's FIFO -/
theorem expectOf_of_mem {s : St} (hn : (s.waiters.map (·.id)).Nodup) {x : Waiter} (hx : x ∈ s.waiters) :
    expectOf s x.id = lookup x.id (simulate s.maxRead (closedOf s x.c) (fifoOf s x.c) (streamOf s x.c)) := by
  rw [expectOf, List.find?_of_nodup_map (·.id) hn hx]

theorem expectOf_deliver {s : St} {i : Nat} {body : Bytes} (h : expectOf s i = .deliver body) :
    ∃ w ∈ s.waiters, w.id = i ∧
      lookup i (simulate s.maxRead (closedOf s w.c) (fifoOf s w.c) (streamOf s w.c)) = .deliver body := by
  unfold expectOf at h
  split at h
  · cases h
  · rename_i w hw
    obtain ⟨hm, hi⟩ := Ledger.find?_key_some hw
    exact ⟨w, hm, hi, h⟩

theorem check_ok {s : St} {i : Nat} {f : Int} {t : Nat} (h : check s (.ok i f t) = none) :
    hasOut s i = false ∧ ∃ body, expectOf s i = .deliver body := by
  simp only [check, ite_some_eq_none] at h
  obtain ⟨_, ho, h⟩ := h
  refine ⟨by simpa using ho, ?_⟩
  split at h
  · exact ⟨_, ‹_›⟩
  all_goals cases h

theorem check_err {s : St} {i : Nat} {c : Cls} {t : Nat} (h : check s (.err i c t) = none) : hasOut s i = false := by
  simp only [check, ite_some_eq_none] at h
  simpa using h.2.1

/-- what `check` demands of a request that reaches the wire, rule by rule in the order `check` tests them -/
structure WrittenOk (s : St) (w : Waiter) : Prop where
  issued : s.issued.any (·.1 == w.id) = true
  fresh : s.waiters.any (·.id == w.id) = false
  corrIncreasing : (fifoOf s w.c).any (fun x => x.corr ≥ w.corr) = false
  handshake : hsOk s w.c = true
  notAfterOutcome : hasOut s w.id = true → ¬ outTime s w.id < w.tw
  noAuthOpen : s.authOpen.contains w.c = false
  authed : s.sasl = true → s.authed.contains w.c = true
  ready : s.parked.contains w.id = true → s.ready.contains (w.id, w.c) = true

theorem check_written {s : St} {w : Waiter} : check s (.written w) = none ↔ WrittenOk s w := by
  simp only [check, ite_some_eq_none, Bool.not_eq_true, Bool.not_eq_true', Bool.not_eq_false, Bool.and_eq_true,
    decide_eq_true_eq, not_and, and_true]
  exact ⟨fun ⟨a, b, c, d, e, f, g, h⟩ => ⟨a, b, c, d, e, f, g, h⟩,
    fun h => ⟨h.issued, h.fresh, h.corrIncreasing, h.handshake, h.notAfterOutcome, h.noAuthOpen, h.authed, h.ready⟩⟩

theorem check_quiesce {s : St} (h : check s .quiesce = none) : ∀ x ∈ s.issued, hasOut s x.1 = true := by
  simp only [check, ite_some_eq_none] at h
  simpa using h.1

structure Inv (h : List Ev) (s : St) : Prop where
  outs : s.outs.map (·.1) = (outIds h).reverse
  outsNodup : (s.outs.map (·.1)).Nodup
  issued : s.issued.map (·.1) = (issueIds h).reverse
  waitersNodup : (s.waiters.map (·.id)).Nodup

theorem hasOut_iff_mem {s : St} {i : Nat} : hasOut s i = true ↔ i ∈ s.outs.map (·.1) :=
  List.any_beq_iff _ _ _

/-- with one outcome per request, the outcome time the monitor looks up is the time of that outcome -/
theorem outTime_of_mem {s : St} {i t : Nat} {b : Bool} (hn : (s.outs.map (·.1)).Nodup) (h : (i, b, t) ∈ s.outs) :
    hasOut s i = true ∧ outTime s i = t := by
  refine ⟨hasOut_iff_mem.2 (List.mem_map.2 ⟨_, h, rfl⟩), ?_⟩
  rw [outTime, List.find?_of_nodup_map (·.1) hn h]

theorem apply_outs_ids (s : St) (e : Ev) : (apply s e).outs.map (·.1) = outIds [e] ++ s.outs.map (·.1) := by
  cases e <;> rfl

theorem apply_issued_ids (s : St) (e : Ev) : (apply s e).issued.map (·.1) = issueIds [e] ++ s.issued.map (·.1) := by
  cases e <;> rfl

/-- The two id ledgers only record; an outcome or a wire request is refused when its id is in the list already. -/
theorem inv_of_run {h : List Ev} {s : St} (hr : run {} h = some s) : Inv h s where
  outs := isMonitor.field (f := fun s => s.outs.map (·.1)) apply_outs_ids rfl hr
  issued := isMonitor.field (f := fun s => s.issued.map (·.1)) apply_issued_ids rfl hr
  outsNodup := by
    apply isMonitor.inv_state _ List.nodup_nil hr
    intro s e hn hc
    cases e with
    | ok i f t => exact List.nodup_cons.2 ⟨mt hasOut_iff_mem.2 (by simp [(check_ok hc).1]), hn⟩
    | err i c t => exact List.nodup_cons.2 ⟨mt hasOut_iff_mem.2 (by simp [check_err hc]), hn⟩
    | _ => exact hn
  waitersNodup := by
    apply isMonitor.inv_state _ List.nodup_nil hr
    intro s e hw hc
    cases e with
    | written w =>
      show ((s.waiters ++ [w]).map (·.id)).Nodup
      rw [List.map_append]
      refine List.nodup_snoc.2 ⟨fun ha => ?_, hw⟩
      rw [← List.any_beq_iff, (check_written.1 hc).fresh] at ha
      cases ha
    | _ => exact hw

/-- No request has two outcomes in an accepted history, quiescent or not. -/
theorem outIds_nodup {h : List Ev} {s : St} (hr : run {} h = some s) : (outIds h).Nodup := by
  have inv := inv_of_run hr
  exact List.nodup_reverse.1 (inv.outs ▸ inv.outsNodup)

end Proof.Conn
