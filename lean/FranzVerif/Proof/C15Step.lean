import FranzVerif.Model.C15
/-! Stepping through the schema interpreter: the laws of `Res`, `span` and the string reader each as one equation, what a
successful `dec` went through, constructor by constructor, and what `encFields` / `encTags` did with a field they got through. -/
namespace Proof.C15
open Model.C15

theorem andThen_map {α β γ : Type} (x : Res α) (g : α → β) (f : β → Bytes → Res γ) :
    (x.map g).andThen f = x.andThen fun a r => f (g a) r := by
  cases x <;> rfl

theorem andThen_ok_inv {α β : Type} {x : Res α} {f : α → Bytes → Res β} {b : β} {r : Bytes}
    (h : x.andThen f = .ok b r) : ∃ a r0, x = .ok a r0 ∧ f a r0 = .ok b r := by
  cases x with
  | ok a r0 => exact ⟨a, r0, rfl, h⟩
  | err s => cases h
  | panic m => cases h

theorem map_ok_inv {α β : Type} {x : Res α} {f : α → β} {b : β} {r : Bytes}
    (h : x.map f = .ok b r) : ∃ a, x = .ok a r ∧ f a = b := by
  cases x with
  | ok a r0 => cases h; exact ⟨a, rfl, rfl⟩
  | err s => cases h
  | panic m => cases h

theorem andThen_panic_inv {α β : Type} {x : Res α} {f : α → Bytes → Res β} {m : String}
    (h : x.andThen f = .panic m) : x = .panic m ∨ ∃ a r, x = .ok a r ∧ f a r = .panic m := by
  cases x with
  | ok a r => exact .inr ⟨a, r, rfl, h⟩
  | err s => cases h
  | panic m' => cases h; exact .inl rfl

/-- Under its length guard `span` never reaches the slice-bounds panic of `goSplit`. -/
theorem span_eq (l : Int) (src : Bytes) :
    span l src = if (src.length : Int) < l ∨ l < 0 then .err 0 else .ok (src.take l.toNat) (src.drop l.toNat) := by
  simp only [span, goSplit]
  split
  · rfl
  · rw [if_pos (by omega)]

theorem span_ok_inv {l : Int} {src b r : Bytes} (h : span l src = .ok b r) : src = b ++ r ∧ (b.length : Int) = l := by
  rw [span_eq] at h
  split at h
  · cases h
  · cases h
    rw [List.take_append_drop, List.length_take]
    exact ⟨rfl, by omega⟩

theorem goMake_ok_inv {l : Int} {cap n : Nat} {x : Bytes} (h : goMake l cap = .ok n x) : n = l.toNat ∧ n ≤ cap := by
  simp only [goMake] at h
  split at h
  · cases h
  · split at h
    · cases h
    · cases h; exact ⟨rfl, by omega⟩

/-- the length prefix of a string / bytes field as a signed length (compact prefixes carry `length + 1`). -/
def strLen (flex : Bool) (k : SKind) (src : Bytes) : Res Int :=
  match k with
  | .str | .nstr _ => if flex then (readUvarint src).map fun u => (u : Int) - 1 else readInt 2 m16 src
  | .bytes | .nbytes => if flex then (readUvarint src).map fun u => (u : Int) - 1 else readInt 4 m32 src
  | .vstr | .vbytes => readVarint src

/-- the length prefix announces no payload (`bytes`: only `-1`; other negative lengths fail in `span`) … -/
def noPayload (k : SKind) (l : Int) : Bool :=
  match k with
  | .str => false
  | .bytes => decide (l = -1)
  | .nstr _ | .nbytes | .vstr | .vbytes => decide (l < 0)

/-- … and what the field is then left with (nothing announces it for `str`). -/
def nullVal : SKind → Val
  | .nstr _ | .nbytes | .vbytes => .blob none
  | _ => .blob (some [])

theorem decStr_eq (ver : Int) (flex : Bool) (k : SKind) (src : Bytes) :
    decStr ver flex k src = (strLen flex (k.eff ver) src).andThen fun l r =>
      if noPayload (k.eff ver) l = true then .ok (nullVal (k.eff ver)) r else (span l r).map fun b => Val.blob (some b) := by
  simp only [decStr, strLen, noPayload, nullVal]
  generalize k.eff ver = k'
  cases k' <;> cases flex <;> simp only [andThen_map, decide_eq_true_eq, if_true, if_false, Bool.false_eq_true]

/-- one entry of a tag section: `(key, size, Span(size))` -/
def tagEntry (src : Bytes) : Res (Nat × Bytes) :=
  (readUvarint src).andThen fun key r1 => (readUvarint r1).andThen fun size r2 => (span size r2).map fun b => (key, b)

theorem readRawTags_succ (n : Nat) (src : Bytes) :
    readRawTags (n + 1) src =
      match tagEntry src with
      | .ok e r3 => (readRawTags n r3).map fun l => e :: l
      | .err _ => .err 0
      | .panic m => .panic m := rfl

theorem tagEntry_ok_inv {src : Bytes} {e : Nat × Bytes} {r : Bytes} (h : tagEntry src = .ok e r) :
    ∃ r1 size r2, readUvarint src = .ok e.1 r1 ∧ readUvarint r1 = .ok size r2 ∧ span size r2 = .ok e.2 r := by
  obtain ⟨key, r1, h1, h⟩ := andThen_ok_inv h
  obtain ⟨size, r2, h2, h⟩ := andThen_ok_inv h
  obtain ⟨b, h3, rfl⟩ := map_ok_inv h
  exact ⟨r1, size, r2, h1, h2, h3⟩

theorem readTagsOf_ok_inv {known : List Nat} {n : Nat} {src : Bytes} {l : List (Nat × Bytes)} {r : Bytes}
    (h : readTagsOf known n src = .ok l r) : readRawTags n src = .ok l r := by
  simp only [readTagsOf] at h
  split at h
  · cases h
  · exact h

variable {c : Cfg} {flex : Bool} {name : String} {minV : Int} {maxV : Option Int} {tag : Option Nat} {d : Dflt} {t : Ty}
  {rest : Fields}

theorem dec_arr_ok_inv {k : AKind} {src : Bytes} {v : Val} {r : Bytes}
    (h : dec c flex (.arr k t) src = .ok v r) :
    ∃ l r0, decArrLen flex k src = .ok l r0 ∧
      (¬ l > 0 ∧ v = emptyArr c.ver k l ∧ r = r0 ∨
       l > 0 ∧ ∃ vs, v = .list vs ∧ decList c flex t l.toNat r0 = .ok vs r) := by
  rw [dec] at h
  obtain ⟨l, r0, h1, h2⟩ := andThen_ok_inv h
  refine ⟨l, r0, h1, ?_⟩
  split at h2
  · obtain ⟨n, _, h3, h4⟩ := andThen_ok_inv h2
    obtain ⟨vs, h5, rfl⟩ := map_ok_inv h4
    rw [(goMake_ok_inv h3).1] at h5
    exact .inr ⟨‹_›, vs, rfl, h5⟩
  · cases h2
    exact .inl ⟨‹_›, rfl, rfl⟩

theorem decList_succ_ok_inv {n : Nat} {src : Bytes} {vs : Vals} {r : Bytes}
    (h : decList c flex t (n + 1) src = .ok vs r) :
    ∃ v r0 vs', dec c flex t src = .ok v r0 ∧ decList c flex t n r0 = .ok vs' r ∧ vs = .cons v vs' := by
  rw [decList] at h
  obtain ⟨v, r0, h1, h2⟩ := andThen_ok_inv h
  obtain ⟨vs', h3, rfl⟩ := map_ok_inv h2
  exact ⟨v, r0, vs', h1, h3, rfl⟩

/-- what follows the presence byte of a struct: the body fields, then on flexible versions the tag section -/
def structBody (c : Cfg) (ff : Option Int) (fs : Fields) (r0 : Bytes) : Res Val :=
  (decFields c (flexAt ff c.ver) fs r0).andThen fun vals r =>
    if flexAt ff c.ver then
      (readUvarint r).andThen fun num r1 =>
      (readTagsOf (knownTags fs) num r1).andThen fun raw r2 =>
      (applyTags c (flexAt ff c.ver) fs raw vals).andThen fun vals' _ =>
        .ok (.stru vals' (unknownOf (knownTags fs) raw)) r2
    else .ok (.stru vals []) r

theorem dec_struct (c : Cfg) (flex nullable : Bool) (ff : Option Int) (fs : Fields) (src : Bytes) :
    dec c flex (.struct nullable ff fs) src =
      (structPre nullable src).andThen fun isPresent r0 => if !isPresent then .ok .null r0 else structBody c ff fs r0 := by
  rw [dec]; rfl

/-- How a struct decode succeeded: a nil pointer, the body alone, or the body and a tag section. -/
inductive StructOk (c : Cfg) (nullable : Bool) (ff : Option Int) (fs : Fields) (src : Bytes) : Val → Bytes → Prop
  | null {r} : structPre nullable src = .ok false r → StructOk c nullable ff fs src .null r
  | plain {r0 vals r} : structPre nullable src = .ok true r0 → flexAt ff c.ver = false →
      decFields c (flexAt ff c.ver) fs r0 = .ok vals r → StructOk c nullable ff fs src (.stru vals []) r
  | tagged (raw) {r0 vals r1 num r2 r vals' x} : structPre nullable src = .ok true r0 → flexAt ff c.ver = true →
      decFields c (flexAt ff c.ver) fs r0 = .ok vals r1 → readUvarint r1 = .ok num r2 → readRawTags num r2 = .ok raw r →
      applyTags c (flexAt ff c.ver) fs raw vals = .ok vals' x →
      StructOk c nullable ff fs src (.stru vals' (unknownOf (knownTags fs) raw)) r

theorem dec_struct_ok_inv {nullable : Bool} {ff : Option Int} {fs : Fields} {src : Bytes} {v : Val} {r : Bytes}
    (h : dec c flex (.struct nullable ff fs) src = .ok v r) : StructOk c nullable ff fs src v r := by
  rw [dec_struct] at h
  obtain ⟨isP, r0, h0, h⟩ := andThen_ok_inv h
  cases isP
  · cases h; exact .null h0
  · obtain ⟨vals, r1, h1, h⟩ := andThen_ok_inv h
    split at h
    · obtain ⟨num, r2, h2, h⟩ := andThen_ok_inv h
      obtain ⟨raw, r3, h3, h⟩ := andThen_ok_inv h
      obtain ⟨vals', x, h4, h⟩ := andThen_ok_inv h
      cases h
      exact .tagged raw h0 ‹_› h1 h2 (readTagsOf_ok_inv h3) h4
    · cases h
      exact .plain h0 (Bool.eq_false_iff.2 ‹_›) h1

theorem decFields_cons_ok_inv {src : Bytes} {vals : Vals} {r : Bytes}
    (h : decFields c flex (.cons name minV maxV tag d t rest) src = .ok vals r) :
    ∃ v vs, vals = .cons v vs ∧
      ((tag.isSome || !present minV maxV c.ver) = true ∧ v = dfltVal t d ∧ decFields c flex rest src = .ok vs r ∨
       (tag = none ∧ present minV maxV c.ver = true) ∧ ∃ r0, dec c flex t src = .ok v r0 ∧ decFields c flex rest r0 = .ok vs r) := by
  rw [decFields] at h
  split at h
  · obtain ⟨vs, h1, rfl⟩ := map_ok_inv h
    exact ⟨_, vs, rfl, .inl ⟨‹_›, rfl, h1⟩⟩
  · rename_i hc
    obtain ⟨v, r0, h1, h2⟩ := andThen_ok_inv h
    obtain ⟨vs, h3, rfl⟩ := map_ok_inv h2
    refine ⟨v, vs, rfl, .inr ⟨?_, r0, h1, h3⟩⟩
    cases tag <;> simp at hc ⊢
    exact hc

theorem applyTags_nil (c : Cfg) (flex : Bool) (raw : List (Nat × Bytes)) (vals : Vals) :
    applyTags c flex .nil raw vals = .ok vals [] := by
  cases vals <;> simp [applyTags]

theorem applyTags_of_nil (c : Cfg) (flex : Bool) (fs : Fields) (raw : List (Nat × Bytes)) :
    applyTags c flex fs raw .nil = .ok .nil [] := by
  cases fs <;> simp [applyTags]

theorem decEach_ok_inv : ∀ {ps : List Bytes} {v v' : Val} {x : Bytes},
    decEach c flex t ps v = .ok v' x → v' = v ∨ ∃ p ∈ ps, ∃ r, dec c flex t p = .ok v' r
  | [], v, v', x, h => by rw [decEach] at h; cases h; exact .inl rfl
  | p :: ps, v, v', x, h => by
    rw [decEach] at h
    cases hd : dec c flex t p with
    | ok v1 r1 =>
      rw [hd] at h
      rcases decEach_ok_inv h with rfl | ⟨q, hq, r, hh⟩
      · exact .inr ⟨p, List.mem_cons_self .., r1, hd⟩
      · exact .inr ⟨q, List.mem_cons_of_mem _ hq, r, hh⟩
    | err s => rw [hd] at h; cases h
    | panic m => rw [hd] at h; cases h

/-- The later fields first; then a tagged field takes every payload under its key, decoded in wire order. -/
theorem applyTags_cons (c : Cfg) (flex : Bool) (raw : List (Nat × Bytes)) (v : Val) (vs : Vals) :
    applyTags c flex (.cons name minV maxV tag d t rest) raw (.cons v vs) =
      (applyTags c flex rest raw vs).andThen fun vs' _ =>
        match tag with
        | none => .ok (.cons v vs') []
        | some k =>
          (decEach c flex t ((raw.filter fun e => e.1 == k).map Prod.snd) v).andThen fun v' _ => .ok (.cons v' vs') [] := by
  rw [applyTags]
  cases applyTags c flex rest raw vs with
  | ok vs' _ =>
    cases tag with
    | none => rfl
    | some k => simp only [Res.andThen_ok]; cases decEach c flex t ((raw.filter fun e => e.1 == k).map Prod.snd) v <;> rfl
  | err s => rfl
  | panic m => rfl

theorem applyTags_cons_ok_inv {raw : List (Nat × Bytes)} {v : Val} {vs vals' : Vals} {x : Bytes}
    (h : applyTags c flex (.cons name minV maxV tag d t rest) raw (.cons v vs) = .ok vals' x) :
    ∃ v' vs' y, vals' = .cons v' vs' ∧ applyTags c flex rest raw vs = .ok vs' y ∧
      (v' = v ∨ ∃ k, tag = some k ∧ ∃ e ∈ raw, ∃ r, dec c flex t e.2 = .ok v' r) := by
  rw [applyTags_cons] at h
  obtain ⟨vs', y, hr, h⟩ := andThen_ok_inv h
  cases tag with
  | none => cases h; exact ⟨v, vs', y, rfl, hr, .inl rfl⟩
  | some k =>
    obtain ⟨v', z, he, h⟩ := andThen_ok_inv h
    cases h
    refine ⟨v', vs', y, rfl, hr, ?_⟩
    rcases decEach_ok_inv he with rfl | ⟨p, hp, r, hd⟩
    · exact .inl rfl
    · obtain ⟨e, he, rfl⟩ := List.mem_map.1 hp
      exact .inr ⟨k, rfl, e, (List.mem_filter.1 he).1, r, hd⟩

variable {ver : Int} {vals : Vals}

/-- How `encFields` got through a field: the later fields gave `b`; this one is skipped (tagged, or absent at the version) or
written in front of `b`. -/
theorem encFields_cons_some {body : Bytes} (h : encFields ver flex (.cons name minV maxV tag d t rest) vals = some body) :
    ∃ v r b, vals = .cons v r ∧ encFields ver flex rest r = some b ∧
      ((tag.isSome || !present minV maxV ver) = true ∧ body = b ∨
       ¬ (tag.isSome || !present minV maxV ver) = true ∧ ∃ a, enc ver flex t v = some a ∧ body = a ++ b) := by
  cases vals with
  | nil => simp [encFields] at h
  | cons v r =>
    simp only [encFields] at h
    split at h <;> try contradiction
    refine ⟨v, r, _, rfl, ‹_›, ?_⟩
    split at h
    · exact .inl ⟨‹_›, (Option.some.inj h).symm⟩
    · split at h <;> cases h
      exact .inr ⟨‹_›, _, ‹_›, rfl⟩

/-- How `encTags` got through a field: the later fields gave `l`; a tagged field at its default is not written, otherwise its
entry comes first. -/
theorem encTags_cons_some {tags : List (Nat × Bytes)}
    (h : encTags ver flex (.cons name minV maxV tag d t rest) vals = some tags) :
    ∃ v r l, vals = .cons v r ∧ encTags ver flex rest r = some l ∧
      match tag with
      | none => tags = l
      | some k => tagIsDefault ver t d v = true ∧ tags = l ∨
          tagIsDefault ver t d v = false ∧ ∃ a, enc ver flex t v = some a ∧ tags = (k, a) :: l := by
  cases vals with
  | nil => simp [encTags] at h
  | cons v r =>
    simp only [encTags] at h
    split at h <;> try contradiction
    refine ⟨v, r, _, rfl, ‹_›, ?_⟩
    cases tag with
    | none => exact (Option.some.inj h).symm
    | some k =>
      simp only at h ⊢
      split at h
      · exact .inl ⟨‹_›, (Option.some.inj h).symm⟩
      · split at h <;> cases h
        exact .inr ⟨Bool.eq_false_iff.2 ‹_›, _, ‹_›, rfl⟩

end Proof.C15
