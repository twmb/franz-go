import FranzVerif.Model.C16
import FranzVerif.Proof.C16Reader
/-! The tag loop as the code runs it (`Model.C16.tagLoop`: `for ; num > 0 && b.Ok(); num--` on a `Reader` whose failed reads set a
sticky `bad` flag and go on) against `Model.C15.readRawTags`, which ends at the first failed read: on success the same `Tags.Set`
calls, the same remaining input and exactly `n` iterations; on failure an invalidated reader. -/
namespace Proof.C16
open Model.C15 Model.C16 Proof.C15

/-- the three reads of one iteration: key, payload, reader afterwards; in projections, which is how the model's
`let (key, b1) := b.uvarint …` unfolds, so that `tagLoop_succ` holds by unfolding -/
def entry (b : Reader) : Nat × Bytes × Reader :=
  (b.uvarint.1, (b.uvarint.2.uvarint.2.span b.uvarint.2.uvarint.1).1, (b.uvarint.2.uvarint.2.span b.uvarint.2.uvarint.1).2)

theorem tagLoop_succ (n : Nat) (b : Reader) (t : List (Nat × Bytes)) (s : Nat) :
    tagLoop (n + 1) b t s =
      if b.bad then (t, b, s) else tagLoop n (entry b).2.2 (tagSet t (entry b).1 (entry b).2.1) (s + 1) := by
  simp only [tagLoop, entry]

theorem Reader.uvarint_eq (b : Reader) : b.uvarint =
    match readUvarint b.src with | .ok x r => (x, { b with src := r }) | _ => (0, { src := [], bad := true }) := by
  simp only [Reader.uvarint, readUvarint]
  cases uvDec 4 15 b.src <;> rfl

theorem Reader.span_eq (b : Reader) (l : Int) : b.span l =
    match Model.C15.span l b.src with | .ok x r => (x, { b with src := r }) | _ => ([], { src := [], bad := true }) := by
  simp only [Reader.span, Proof.C15.span_eq]
  split <;> rfl

theorem Reader.uvarint_bad (b : Reader) (h : b.bad = true) : b.uvarint.2.bad = true := by
  rw [Reader.uvarint_eq]
  split <;> first | exact h | rfl

theorem Reader.span_bad (b : Reader) (l : Int) (h : b.bad = true) : (b.span l).2.bad = true := by
  rw [Reader.span_eq]
  split <;> first | exact h | rfl

theorem Reader.uvarint_good {src : Bytes} (h : (Reader.uvarint { src := src, bad := false }).2.bad = false) :
    (Reader.uvarint { src := src, bad := false }).2.src.length + 1 ≤ src.length := by
  rw [Reader.uvarint_eq] at h ⊢
  cases hr : readUvarint src <;> simp only [hr] at h ⊢ <;> first | cases h | skip
  exact (reads_readUvarint src).cons _ _ hr

theorem entry_ok {src : Bytes} {e : Nat × Bytes} {r : Bytes} (h : tagEntry src = .ok e r) :
    entry { src := src, bad := false } = (e.1, e.2, { src := r, bad := false }) := by
  obtain ⟨r1, size, r2, h1, h2, h3⟩ := tagEntry_ok_inv h
  simp only [entry, Reader.uvarint_eq, h1, h2, Reader.span_eq, h3]

theorem entry_err {src : Bytes} {s : Nat} (h : tagEntry src = .err s) : (entry { src := src, bad := false }).2.2.bad = true := by
  cases h1 : readUvarint src with
  | ok key r1 =>
    cases h2 : readUvarint r1 with
    | ok size r2 =>
      cases h3 : Model.C15.span size r2 with
      | ok b r3 => simp only [tagEntry, h1, Res.andThen_ok, h2, h3, Res.map_ok, reduceCtorEq] at h
      | err _ | panic _ => simp only [entry, Reader.uvarint_eq, Reader.span_eq, h1, h2, h3]
    | err _ | panic _ => exact Reader.span_bad _ _ (by simp only [Reader.uvarint_eq, h1, h2])
  | err _ | panic _ => exact Reader.span_bad _ _ (Reader.uvarint_bad _ (by simp only [Reader.uvarint_eq, h1]))

/-- an entry has two bytes of header at least -/
theorem entry_good {src : Bytes} (h : (entry { src := src, bad := false }).2.2.bad = false) :
    (entry { src := src, bad := false }).2.2.src.length + 2 ≤ src.length := by
  cases he : tagEntry src with
  | ok e r =>
    have := tagEntry_consumes he
    rw [entry_ok he]
    simp only
    omega
  | err s => rw [entry_err he] at h; cases h
  | panic m => exact absurd he (tagEntry_no_panic src m)

theorem tagLoop_bad (n : Nat) (b : Reader) (t : List (Nat × Bytes)) (s : Nat) (h : b.bad = true) :
    tagLoop n b t s = (t, b, s) := by
  cases n
  · rfl
  · rw [tagLoop_succ, h, if_pos rfl]

theorem loop_agrees_ok (n : Nat) (src : Bytes) : ∀ (l : List (Nat × Bytes)) (r : Bytes) (acc : List (Nat × Bytes)) (s : Nat),
    readRawTags n src = .ok l r →
    tagLoop n { src := src, bad := false } acc s =
      (l.foldl (fun a (e : Nat × Bytes) => tagSet a e.1 e.2) acc, { src := r, bad := false }, s + n) := by
  -- the cases of `readRawTags` as in `readRawTags_ok`: no entry left; the next entry is read / fails / panics
  fun_induction readRawTags n src <;> intro l r acc s h
  case case1 => cases h; rfl
  case case2 n src e r3 he ih =>
    obtain ⟨l', h4, rfl⟩ := map_ok_inv h
    rw [tagLoop_succ, entry_ok he, ih l' r _ _ h4, Nat.add_assoc, Nat.add_comm 1 n]
    rfl
  case case3 | case4 => cases h

/-- on an invalidated reader `Complete()` then returns `ErrNotEnoughData` -/
theorem loop_agrees_err (n : Nat) (src : Bytes) : ∀ (k : Nat) (acc : List (Nat × Bytes)) (s : Nat),
    readRawTags n src = .err k → (tagLoop n { src := src, bad := false } acc s).2.1.bad = true := by
  fun_induction readRawTags n src <;> intro k acc s h
  case case1 => cases h
  case case2 n src e r3 he ih =>
    rw [tagLoop_succ, entry_ok he]
    cases h4 : readRawTags n r3 <;> rw [h4] at h <;> cases h
    exact ih _ _ _ h4
  case case3 n src s' he =>
    have hb := entry_err he
    rw [tagLoop_succ, if_neg Bool.false_ne_true, tagLoop_bad n _ _ _ hb]
    exact hb
  case case4 m he => exact absurd he (tagEntry_no_panic _ m)

end Proof.C16
