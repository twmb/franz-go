import FranzVerif.Model.C30
import FranzVerif.Spec.C30
import FranzVerif.Proof.C30Proto
/-! Simulation of the queue-protocol model by the Spec's replay (`Spec.C30.ringSpec.go`): `absSt` maps a model state to
a replay state; from a state with `QInv` an enabled step keeps `QInv`, its events are accepted and lead to `absSt` of the
next state (`sim_step`, one case analysis of the step's outcomes for both), hence along whole runs (`sim_run`) and at every
reachable state (`qinv_reach`). -/
namespace Proof.C30
open Model.C30
open Spec.C30 (REv RSt ringStep)

/-- Spec-level events of one protocol step of thread `i` (the pushed element and `wait` come from the action, or
    from the thread's `waiting e` location on a resume) -/
def stepREv (s : QS) (i : Nat) (a : QAct) (ev : QEv) : List REv :=
  let ew : Nat × Bool := match s.pcs[i]?, a with
    | some (.waiting e), _ => (e, true)
    | _, .push e w => (e, w)
    | _, _ => (0, false)
  match ev with
  | .pushBlocked => [.blocked i]
  | .pushRet f d => .push i ew.1 ew.2 true f d :: (if f && !d then [.handed i ew.1] else [])
  | .dropRet n m d => .drop i true n m d :: (if m then [.handed i n] else [])
  | .died => [.die i]
  | .emptyRet b => [.empty i b]

abbrev specGo := Spec.C30.ringSpec.go

/-- the state of the Spec's replay as a function of the model state; the worker count is read off the ring
    (`QInv.w`) -/
def absSt (s : QS) : RSt :=
  { q := s.r.abs, dead := s.r.dead, workers := if s.r.l = 0 then 0 else 1, handed := s.handed, accepted := s.accepted }

theorem specGo_append (m : Int) (p : Bool) (xs ys : List REv) (σ : RSt) :
    specGo m p (xs ++ ys) σ = (specGo m p xs σ).bind (specGo m p ys) := by
  induction xs generalizing σ with
  | nil => rfl
  | cons x t ih =>
    simp only [List.cons_append, specGo, Spec.C30.ringSpec.go]
    cases ringStep m p σ x with
    | error k => rfl
    | ok σ1 => exact ih σ1

theorem stepREv_push {s : QS} {i : Nat} {a : QAct} {e : Nat} {wait : Bool} {w' : List Nat}
    (h : PushEntry s i a e wait w') (f d : Bool) :
    stepREv s i a (.pushRet f d) = .push i e wait true f d :: (if f && !d then [.handed i e] else []) := by
  rcases h with ⟨hl, rfl, _⟩ | ⟨hl, rfl, rfl, _⟩ <;> simp only [stepREv, hl]

theorem ringStep_blocked {s : QS} (hwf : WF s.r) (i : Nat) {wait : Bool} (h : (wait && s.r.needWait) = true) :
    ringStep s.r.maxLen true (absSt s) (.blocked i) = .ok (absSt s) := by
  have hnw : (decide (s.r.maxLen > 0) && decide ((s.r.l : Int) ≥ s.r.maxLen) && !s.r.dead) = true :=
    ((Bool.and_eq_true _ _).mp h).2
  simp only [ringStep, absSt, abs_length s.r (wf_len hwf), hnw, if_true]

theorem ringStep_push_dead {s : QS} (i e : Nat) (wait : Bool) (hd : s.r.dead = true) :
    ringStep s.r.maxLen true (absSt s) (.push i e wait true false true) = .ok (absSt s) := by
  simp [ringStep, absSt, hd]

theorem ringStep_push_live {s : QS} (hwf : WF s.r) (i e : Nat) {wait : Bool} (h : (wait && s.r.needWait) = false)
    (hd : s.r.dead = false) :
    ringStep s.r.maxLen true (absSt s) (.push i e wait true (s.r.l == 0) false) =
      .ok { absSt s with q := s.r.abs ++ [e], accepted := s.accepted ++ [e], workers := 1 } := by
  have hlen := abs_length s.r (wf_len hwf)
  have hemp := abs_isEmpty s.r hwf
  have hnb : (wait && decide (s.r.maxLen > 0) && decide ((s.r.l : Int) ≥ s.r.maxLen)) = false := by
    simpa only [Ring.needWait, hd, Bool.not_false, Bool.and_true, ← Bool.and_assoc] using h
  cases hf : s.r.l == 0 <;> rw [hf] at hemp <;> simp only [beq_iff_eq, beq_eq_false_iff_ne] at hf <;>
    simp [ringStep, absSt, hd, hemp, hlen, hnb, hf]

/-- The push critical section from either entry, along the three outcomes of `pushFrom_cases` (parks; dead ring; element
appended, then split on whether the ring was empty, i.e. whether the pusher becomes the worker). `CondInv.noLost` survives
a resume, which takes the thread off `woken`: if it parks again the ring is full (`hfull`), if it pushes, the slot it fills
makes up for it (`CondInv.push`). -/
theorem sim_push {s : QS} {i : Nat} {a : QAct} {e : Nat} {wait : Bool} {w' : List Nat} (res : Ring × PushRes)
    (hk : PushEntry s i a e wait w') (hI : QInv s)
    (hres : ({ s.r with woken := w' } : Ring).pushFrom i e wait = .ok res) :
    QInv (s.afterPush i e res).1 ∧
      specGo s.r.maxLen true (stepREv s i a (s.afterPush i e res).2) (absSt s) = .ok (absSt (s.afterPush i e res).1) ∧
      (s.afterPush i e res).1.r.maxLen = s.r.maxLen := by
  obtain ⟨hi, hloc, hw'⟩ := pushEntry_loc hk
  obtain ⟨hwf, hcond, hw, hq⟩ := hI
  have hws := fun x => workers_set_of_ne_drop s x hi hloc
  rcases pushFrom_cases _ i e wait (show WF { s.r with woken := w' } from hwf) hcond.initOk with
    ⟨hnw, hd, hfull, hc, h⟩ | ⟨_, hd, h⟩ | ⟨hnw, hd, r', h, hbuf⟩ <;>
    (rw [h] at hres; cases hres; dsimp only at *)
  · refine ⟨⟨hwf, ⟨hcond.initOk, fun h => ?_, fun h => ?_, fun _ => ?_⟩, ?_, hq⟩, ?_, rfl⟩
    · rw [hc] at h; cases h
    · rw [hd] at h; cases h
    · show (s.r.l : Int) + w'.length ≥ s.r.maxLen
      exact Int.le_trans hfull (Int.le_add_of_nonneg_right (Int.natCast_nonneg _))
    · show List.countP (· == QLoc.drop) (s.pcs.set i (.waiting e)) = _
      rw [hws, hw]; rfl
    · simp only [QS.afterPush, stepREv, specGo, Spec.C30.ringSpec.go, ringStep_blocked hwf i hnw]
      rfl
  · refine ⟨⟨hwf, ⟨hcond.initOk, hcond.noCond, hcond.deadWakes, fun hp => absurd (hcond.deadWakes hd) hp⟩, ?_, hq⟩, ?_, rfl⟩
    · show List.countP (· == QLoc.drop) (s.pcs.set i .idle) = _
      rw [hws, hw]; rfl
    · simp only [QS.afterPush, if_true, stepREv_push hk, specGo, Spec.C30.ringSpec.go, ringStep_push_dead i e wait hd]
      rfl
  · have ha : r'.abs = s.r.abs ++ [e] := hbuf.abs
    have hl : r'.l = s.r.l + 1 := hbuf.l
    have hstep := ringStep_push_live hwf i e hnw hd
    have hcond' : CondInv r' := hcond.push hw' hbuf
    by_cases hfirst : s.r.l = 0
    · have hb : (s.r.l == 0) = true := by simp [hfirst]
      rw [if_pos hfirst] at hw
      rw [hb] at hstep ⊢
      refine ⟨?_, ?_, hbuf.ctl.maxLen⟩
      · rw [QS.afterPush, if_neg Bool.false_ne_true, if_pos rfl]
        refine ⟨hbuf.wf, hcond', ?_, ?_⟩
        · show List.countP (· == QLoc.drop) (s.pcs.set i .drop) = _
          rw [hws, hw, hl]; rfl
        · show s.handed ++ [e] ++ r'.abs.tail = s.accepted ++ [e]
          rw [ha, abs_nil_of_l0 s.r hfirst, ← hq, abs_nil_of_l0 s.r hfirst]; simp
      · simp only [QS.afterPush, Bool.false_eq_true, if_false, if_true, stepREv_push hk, specGo, Spec.C30.ringSpec.go, hstep]
        simp [Spec.C30.ringSpec.go, ringStep, absSt, hl, ha, hbuf.ctl.dead]
    · have hb : (s.r.l == 0) = false := by simp [hfirst]
      rw [if_neg hfirst] at hw
      rw [hb] at hstep ⊢
      refine ⟨?_, ?_, hbuf.ctl.maxLen⟩
      · rw [QS.afterPush, if_neg Bool.false_ne_true, if_neg Bool.false_ne_true]
        refine ⟨hbuf.wf, hcond', ?_, ?_⟩
        · show List.countP (· == QLoc.drop) (s.pcs.set i .idle) = _
          rw [hws, hw, hl]; simp
        · obtain ⟨a, t, hat⟩ := abs_ne_nil s.r hwf (Nat.pos_of_ne_zero hfirst)
          show s.handed ++ r'.abs.tail = s.accepted ++ [e]
          rw [ha, hat, ← hq, hat]
          simp
      · simp only [QS.afterPush, Bool.false_eq_true, if_false, stepREv_push hk, specGo, Spec.C30.ringSpec.go, hstep]
        simp [Spec.C30.ringSpec.go, absSt, hl, ha, hbuf.ctl.dead]

theorem sim_step (s s' : QS) (i : Nat) (a : QAct) (ev : QEv) (hI : QInv s) (hs : s.step i a = .ok (some (s', ev))) :
    QInv s' ∧ specGo s.r.maxLen true (stepREv s i a ev) (absSt s) = .ok (absSt s') ∧ s'.r.maxLen = s.r.maxLen := by
  rcases qstep_cases hs with ⟨e, wait, w', res, hk, hp, hse⟩ | ⟨k, r', next, more, dead, hl, rfl, hd, hse⟩ |
    ⟨hl, rfl, rfl, rfl⟩ | ⟨hl, rfl, rfl, rfl⟩
  · obtain rfl : s' = (s.afterPush i e res).1 := congrArg Prod.fst hse
    obtain rfl : ev = (s.afterPush i e res).2 := congrArg Prod.snd hse
    exact sim_push res hk hI hp
  · have hlpos := worker_pos hI hl
    obtain ⟨hi, hli⟩ := List.getElem?_eq_some_iff.mp hl
    obtain ⟨hwf, hc, hw, hq⟩ := hI
    rw [if_neg (by omega)] at hw
    obtain ⟨r1, hd1, hbuf⟩ := dropPeek_spec s.r k hwf hlpos
    have hcond' : CondInv r1 := hc.dropPeek hbuf hlpos
    obtain ⟨hwf', ha, hl', hs⟩ := hbuf
    obtain ⟨hm', -, hdd⟩ := sameCtl_afterSignal hs
    rw [hd1, Except.ok.injEq, Prod.mk.injEq, Prod.mk.injEq, Prod.mk.injEq] at hd
    obtain ⟨rfl, rfl, rfl, rfl⟩ := hd
    obtain ⟨q0, rest, hq0⟩ := abs_ne_nil s.r hwf hlpos
    have hrest : r1.abs = rest := by rw [ha, hq0]; rfl
    have hemp := abs_isEmpty r1 hwf'
    rw [hrest] at hemp
    have hl0 : s.r.l ≠ 0 := by omega
    by_cases hmore : 0 < r1.l
    · rw [decide_eq_true hmore, if_pos rfl] at hse
      cases hse
      refine ⟨⟨hwf', hcond', ?_, ?_⟩, ?_, hm'⟩
      · show s.workers = if r1.l = 0 then 0 else 1
        rw [hw, if_neg (by omega)]
      · show s.handed ++ [r1.abs.headD 0] ++ r1.abs.tail = s.accepted
        obtain ⟨a, t, hat⟩ := abs_ne_nil r1 hwf' hmore
        rw [← hq, ← ha, hat]; simp
      · -- Spec: `.drop` with `q = q0 :: rest`, `more = true` needs `rest ≠ []` and `next = rest.headD 0`; then `.handed next`
        have hz : r1.l ≠ 0 := by omega
        rw [beq_false_of_ne hz] at hemp
        simp [stepREv, specGo, Spec.C30.ringSpec.go, ringStep, absSt, hq0, hemp, hrest, hdd, hl0, hz]
    · rw [decide_eq_false hmore, if_neg Bool.false_ne_true] at hse
      cases hse
      have hz : r1.l = 0 := by omega
      refine ⟨⟨hwf', hcond', ?_, ?_⟩, ?_, hm'⟩
      · show List.countP (· == QLoc.drop) (s.pcs.set i .idle) = _
        rw [workers_set s i .idle hi, hw, hli, if_pos hz]; rfl
      · show s.handed ++ r1.abs.tail = s.accepted
        rw [← hq, ← ha, abs_nil_of_l0 r1 hz]; rfl
      · -- Spec: `.drop` with `q = [q0]`, `more = false` needs `rest = []`; the protocol worker is counted out
        rw [hz] at hemp
        simp [stepREv, specGo, Spec.C30.ringSpec.go, ringStep, absSt, hq0, hemp, hrest, hdd, hl0, hz]
  · obtain ⟨hwf, hc, hw, hq⟩ := hI
    obtain ⟨h1, h2, h3, h4, h5, _⟩ := die_inv s.r hwf hc
    refine ⟨⟨h1, h2, h3 ▸ hw, h4 ▸ hq⟩, ?_, ?_⟩
    · -- Spec: `.die` only sets `dead`
      simp [stepREv, specGo, Spec.C30.ringSpec.go, ringStep, absSt, h3, h4, h5]
    · simp only [Ring.die]; split <;> simp [Ring.broadcast]
  · refine ⟨hI, ?_, rfl⟩
    -- Spec: `.empty b` needs `b = q.isEmpty`
    have : (s'.r.empty != s'.r.abs.isEmpty) = false := by rw [abs_isEmpty s'.r hI.wf]; simp [Ring.empty]
    simp [stepREv, specGo, Spec.C30.ringSpec.go, ringStep, absSt, this]

theorem qinv_reach {r0 : Ring} {n : Nat} {s : QS} (h0 : freshRing r0) (h : QReach r0 n s) : QInv s := by
  induction h with
  | init => exact qinv_init r0 n h0
  | step i a _ hs ih => exact (sim_step _ _ i a _ ih hs).1

/-- run an action list of the queue protocol, collecting the Spec-level event log -/
def qrunEv (s : QS) : List (Nat × QAct) → Option (QS × List REv)
  | [] => some (s, [])
  | (i, a) :: as => match s.step i a with
    | .ok (some (s', ev)) => (match qrunEv s' as with
      | some (s'', evs) => some (s'', stepREv s i a ev ++ evs)
      | none => none)
    | _ => none

theorem sim_run (s s' : QS) (as : List (Nat × QAct)) (evs : List REv) (hI : QInv s)
    (hr : qrunEv s as = some (s', evs)) :
    specGo s.r.maxLen true evs (absSt s) = .ok (absSt s') ∧ QInv s' := by
  induction as generalizing s evs with
  | nil => cases hr; exact ⟨rfl, hI⟩
  | cons x t ih =>
    obtain ⟨i, a⟩ := x
    simp only [qrunEv] at hr
    split at hr
    · rename_i s1 ev hs
      split at hr
      · rename_i s2 evs2 h2
        cases hr
        obtain ⟨hI1, hgo1, hm1⟩ := sim_step s s1 i a ev hI hs
        obtain ⟨hgo2, hI2⟩ := ih s1 evs2 hI1 h2
        rw [hm1] at hgo2
        exact ⟨by rw [specGo_append, hgo1]; exact hgo2, hI2⟩
      · cases hr
    · cases hr
end Proof.C30
