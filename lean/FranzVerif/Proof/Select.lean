import FranzVerif.Model.Select
import FranzVerif.Proof.Monitor
/-! C39. An accepted history reaches `replay c h`, the fold of `apply` (`at_event`), so statements speak of `replay` and not
of an existential state. `selected` is read as a proposition per mode (`SelNamed`, `SelRegex`). Named mode: an unselected
partition stays unselected under every event but the four `Reselects`, hence a record returned after an event that left
its partition unselected has a reselecting call in between (`reselected_of_returned`). Regex mode: a purged topic stays
out until a refresh, a gone incarnation for good (`out_subset`, `refreshed_of_returned`, `out_after_purge`). -/
namespace Proof.Select
open Model.Select Proof.Monitor

theorem isMonitor (c : Cfg) : IsMonitor (check c) (apply c) (step c) (run c) :=
  ⟨⟨fun _ => rfl, fun s e es => by rw [run]; cases step c s e <;> rfl⟩, fun s e => by rw [step]; cases check c s e <;> rfl⟩

theorem run_eq_foldl {c : Cfg} {s s' : St} {h : List Ev} (hacc : run c s h = some s') : s' = h.foldl (apply c) s :=
  (isMonitor c).run_eq_foldl hacc

theorem replay_append (c : Cfg) (h₁ h₂ : List Ev) : replay c (h₁ ++ h₂) = h₂.foldl (apply c) (replay c h₁) :=
  List.foldl_append

theorem at_event {c : Cfg} {h₁ h₂ : List Ev} {ev : Ev} {s : St} (hacc : run c {} (h₁ ++ ev :: h₂) = some s) :
    run c {} h₁ = some (replay c h₁) ∧ check c (replay c h₁) ev = none ∧
      run c (apply c (replay c h₁) ev) h₂ = some s := by
  obtain ⟨s₁, h1, hc, h2⟩ := (isMonitor c).split hacc
  cases run_eq_foldl h1
  exact ⟨h1, hc, h2⟩

theorem returned_check {c : Cfg} {s : St} {t g p off id : Nat} (h : check c s (.returned t g p off id) = none) :
    selected c s t g p = true ∧ newerReturned s t g = false := by
  simpa only [check, ite_some_eq_none, Bool.not_eq_true', Bool.not_eq_false, Bool.not_eq_true, and_true] using h

theorem returned_after {c : Cfg} {h₁ h₂ h₃ : List Ev} {ev : Ev} {s : St} {t g p off id : Nat}
    (hacc : run c {} (h₁ ++ ev :: (h₂ ++ .returned t g p off id :: h₃)) = some s) :
    ∃ s₂, run c (apply c (replay c h₁) ev) h₂ = some s₂ ∧ selected c s₂ t g p = true := by
  obtain ⟨s₂, hr, hc, -⟩ := (isMonitor c).split (at_event hacc).2.2
  exact ⟨s₂, hr, (returned_check hc).1⟩

/-- named mode: the incarnation plays no part -/
def SelNamed (s : St) (t p : Nat) : Prop := (t ∈ s.whole ∧ (t, p) ∉ s.removed) ∨ (t, p) ∈ s.pinned

theorem selected_named {c : Cfg} (hc : c.regex = false) (s : St) (t g p : Nat) :
    selected c s t g p = true ↔ SelNamed s t p := by
  simp [selected, hc, SelNamed]

/-- regex mode (incarnation `g` of topic `t`) -/
def SelRegex (s : St) (t g : Nat) : Prop :=
  (∃ tp, topicOf s t = some tp ∧ tp.incl = true ∧ tp.excluded = false ∧ tp.internal = false) ∧ t ∉ s.waiting ∧ (t, g) ∉ s.gone

theorem selected_regex {c : Cfg} (hc : c.regex = true) (s : St) (t g p : Nat) :
    selected c s t g p = true ↔ SelRegex s t g := by
  simp only [selected, hc, if_true, SelRegex, regexWants]
  cases h : topicOf s t with
  | none => simp
  | some tp => simp [and_assoc]

/-- events that (re)select partition `p` of topic `t` in named mode -/
def Reselects (t p : Nat) (e : Ev) : Prop :=
  e = .addPart t p ∨ e = .addTopic t ∨ e = .selTopic t ∨ e = .selPart t p

theorem unselected_preserved {c : Cfg} {s : St} {t p : Nat} (hn : ¬ SelNamed s t p)
    (ev : Ev) (hev : ¬ Reselects t p ev) : ¬ SelNamed (apply c s ev) t p := by
  simp only [SelNamed, not_or, not_and, Classical.not_not] at hn ⊢
  obtain ⟨hw, hp⟩ := hn
  -- every branch of `apply` that leaves the three lists alone is closed here (regex mode among them)
  fun_cases apply c s ev <;> try exact ⟨hw, hp⟩
  next t' =>
    -- selTopic
    have hne : t ≠ t' := fun h => hev (.inr (.inr (.inl (by rw [h]))))
    simp only [List.mem_cons]
    exact ⟨fun h => hw (h.resolve_left hne), hp⟩
  next t' p' =>
    -- selPart
    have hne : (t, p) ≠ (t', p') := fun h => hev (.inr (.inr (.inr (by cases h; rfl))))
    simp only [List.mem_cons]
    exact ⟨hw, fun h => h.elim hne hp⟩
  next t' _ _ =>
    -- addTopic, no partition of the topic pinned
    have hne : t ≠ t' := fun h => hev (.inr (.inl (by rw [h])))
    simp only [List.mem_cons, List.mem_filter]
    exact ⟨fun h => ⟨hw (h.resolve_left hne), by simpa using hne⟩, hp⟩
  next t' p' _ =>
    -- addPart
    have hne : (t, p) ≠ (t', p') := fun h => hev (.inl (by cases h; rfl))
    simp only [List.mem_cons, List.mem_filter]
    exact ⟨fun h => ⟨hw h, by simpa using hne⟩, fun h => h.elim hne hp⟩
  -- removePart of a whole topic: its last partition, another one; of a topic not selected as a whole
  · simp only [List.mem_filter, List.mem_cons]
    exact ⟨fun h => .inr (hw h.1), fun h => hp h.1⟩
  · simp only [List.mem_filter, List.mem_cons]
    exact ⟨fun h => .inr (hw h), fun h => hp h.1⟩
  · simp only [List.mem_filter]
    exact ⟨hw, fun h => hp h.1⟩
  -- purged
  · simp only [List.mem_filter]
    exact ⟨fun h => ⟨hw h.1, by simpa using h.2⟩, fun h => hp h.1⟩

/-- `.removePart` is RemoveConsumePartitions -/
theorem unselected_after_remove {c : Cfg} (hc : c.regex = false) (s : St) (t p : Nat) :
    ¬ SelNamed (apply c s (.removePart t p)) t p := by
  simp only [SelNamed, apply, hc, Bool.false_eq_true, ↓reduceIte]
  split
  · split <;> simp
  · rename_i hw
    simp only [List.mem_filter]
    intro h
    rcases h with h | h
    · exact hw (by simpa using h.1)
    · simpa using h.2

/-- `.purged` is PurgeTopicsFromConsuming -/
theorem unselected_after_purge {c : Cfg} (hc : c.regex = false) (s : St) (t p : Nat) :
    ¬ SelNamed (apply c s (.purged t)) t p := by
  simp [SelNamed, apply, hc]

theorem reselected_of_returned {c : Cfg} (hc : c.regex = false) {h₁ h₂ h₃ : List Ev} {ev : Ev} {s : St} {t g p off id : Nat}
    (hev : ¬ SelNamed (apply c (replay c h₁) ev) t p)
    (hacc : run c {} (h₁ ++ ev :: (h₂ ++ Ev.returned t g p off id :: h₃)) = some s) : ∃ e ∈ h₂, Reselects t p e := by
  obtain ⟨s₂, hr, hsel⟩ := returned_after hacc
  apply Classical.byContradiction
  intro hno
  exact (isMonitor c).stays (I := fun s => ¬ SelNamed s t p)
    (fun s e he hs _ => unselected_preserved hs e fun hr => hno ⟨e, he, hr⟩) hev hr ((selected_named hc _ t g p).1 hsel)

/-- Whatever the mode: `gone` only grows, and `waiting` is only emptied by a refresh. -/
theorem out_subset (c : Cfg) (s : St) (ev : Ev) :
    s.gone ⊆ (apply c s ev).gone ∧ (ev ≠ .refresh → s.waiting ⊆ (apply c s ev).waiting) := by
  fun_cases apply c s ev
  -- the purge of an alive topic, the purge of a deleted one, the refresh; no other event touches either list
  case case16 => exact ⟨List.Subset.refl _, fun _ => List.subset_cons_self _ _⟩
  case case17 => exact ⟨List.subset_cons_self _ _, fun _ => List.Subset.refl _⟩
  case case21 => exact ⟨List.subset_append_right _ _, fun h => absurd rfl h⟩
  all_goals exact ⟨List.Subset.refl _, fun _ => List.Subset.refl _⟩

/-- Regex mode: a record is returned after an event only if that event did not leave its incarnation gone, and, if it left the
topic waiting, only after a refresh. -/
theorem refreshed_of_returned {c : Cfg} (hc : c.regex = true) {h₁ h₂ h₃ : List Ev} {ev : Ev} {s : St} {t g p off id : Nat}
    (hacc : run c {} (h₁ ++ ev :: (h₂ ++ Ev.returned t g p off id :: h₃)) = some s) :
    (t, g) ∉ (apply c (replay c h₁) ev).gone ∧ (t ∈ (apply c (replay c h₁) ev).waiting → Ev.refresh ∈ h₂) := by
  obtain ⟨s₂, hr, hsel⟩ := returned_after hacc
  obtain ⟨-, hwait, hgone⟩ := (selected_regex hc _ t g p).1 hsel
  refine ⟨fun hg => hgone ?_, fun hw => Classical.byContradiction fun hno => hwait ?_⟩
  · exact (isMonitor c).inv_state (I := fun s => (t, g) ∈ s.gone) (fun s e hs _ => (out_subset c s e).1 hs) hg hr
  · exact (isMonitor c).stays (I := fun s => t ∈ s.waiting)
      (fun s e he hs _ => (out_subset c s e).2 (fun heq => hno (heq ▸ he)) hs) hw hr

/-- Regex mode, `.purged` is PurgeTopicsFromConsuming of a topic the client knows: an alive topic waits for the next refresh,
of a deleted one the last incarnation is gone. -/
theorem out_after_purge {c : Cfg} (hc : c.regex = true) {s : St} {t : Nat} {tp : Topic} (hk : topicOf s t = some tp) :
    (tp.alive = true → t ∈ (apply c s (.purged t)).waiting) ∧
    (tp.alive = false → (t, tp.gen) ∈ (apply c s (.purged t)).gone) := by
  simp only [apply, hc, ↓reduceIte, hk]
  cases tp.alive
  · exact ⟨nofun, fun _ => List.mem_cons_self⟩
  · exact ⟨fun _ => List.mem_cons_self, nofun⟩

def prodEv : Ev → Option (Nat × Nat × Nat × Nat × Nat)
  | .produced id t g p off => some (id, t, g, p, off) | _ => none
def retEv : Ev → Option (Nat × Nat × Nat × Nat × Nat)
  | .returned t g p off id => some (t, g, p, off, id) | _ => none
/-- acknowledged records `(id, topic, incarnation, partition, offset)` -/
def producedOf (h : List Ev) := h.filterMap prodEv
/-- returned records `(topic, incarnation, partition, offset, id)` -/
def returnedOf (h : List Ev) := h.filterMap retEv
def incEv : Ev → Bool
  | .incomplete => true | _ => false
/-- a producer or admin step of the scenario failed -/
def isIncomplete (h : List Ev) : Bool := h.any incEv

theorem apply_prod (c : Cfg) (s : St) (ev : Ev) : (apply c s ev).prod = s.prod ++ (prodEv ev).toList := by
  fun_cases apply c s ev <;> first | rfl | exact (List.append_nil _).symm

theorem apply_ret (c : Cfg) (s : St) (ev : Ev) : (apply c s ev).ret = s.ret ++ (retEv ev).toList := by
  fun_cases apply c s ev <;> first | rfl | exact (List.append_nil _).symm

theorem apply_incomplete (c : Cfg) (s : St) (ev : Ev) : (apply c s ev).incomplete = (incEv ev || s.incomplete) := by
  fun_cases apply c s ev <;> rfl

theorem obs_of_run {c : Cfg} {h : List Ev} {s : St} (hr : run c {} h = some s) :
    s.prod = producedOf h ∧ s.ret = returnedOf h ∧ s.incomplete = isIncomplete h :=
  have M := isMonitor c
  ⟨M.ledger (apply_prod c) rfl hr, M.ledger (apply_ret c) rfl hr, M.flag (apply_incomplete c) rfl hr⟩

theorem mem_producedOf {h : List Ev} {id t g p off : Nat} : (id, t, g, p, off) ∈ producedOf h ↔ Ev.produced id t g p off ∈ h := by
  simp only [producedOf, List.mem_filterMap]
  constructor
  · rintro ⟨e, he, hp⟩
    cases e <;> cases hp
    exact he
  · intro he; exact ⟨_, he, rfl⟩

theorem mem_returnedOf {h : List Ev} {t g p off id : Nat} : (t, g, p, off, id) ∈ returnedOf h ↔ Ev.returned t g p off id ∈ h := by
  simp only [returnedOf, List.mem_filterMap]
  constructor
  · rintro ⟨e, he, hp⟩
    cases e <;> cases hp
    exact he
  · intro he; exact ⟨_, he, rfl⟩

/-- The rule of `quiesce` in a complete scenario: an acknowledged record that is owed (current incarnation, existing partition,
selected) was returned. -/
theorem quiesce_check {c : Cfg} {s : St} (h : check c s .quiesce = none) (hi : s.incomplete = false)
    {id t g p off : Nat} (hp : (id, t, g, p, off) ∈ s.prod) (hcur : g = genOf s t) (hex : p < aliveParts s t)
    (hsel : selected c s t g p = true) : ∃ off', (t, g, p, off', id) ∈ s.ret := by
  have hunc : uncovered c s = [] := by
    simp only [check, hi, Bool.false_eq_true, ↓reduceIte] at h
    split at h
    · assumption
    · split at h <;> cases h
  -- the record is owed, so it is not filtered out only because it was returned
  have := List.filter_eq_nil_iff.1 hunc _ hp
  simp only [← hcur, hex, hsel, BEq.rfl, decide_true, Bool.and_self, Bool.true_and, Bool.not_eq_true',
    Bool.not_eq_false, List.any_eq_true, Bool.and_eq_true, beq_iff_eq] at this
  obtain ⟨⟨t', g', p', off', id'⟩, hr, ⟨⟨rfl, rfl⟩, rfl⟩, rfl⟩ := this
  exact ⟨off', hr⟩

end Proof.Select
