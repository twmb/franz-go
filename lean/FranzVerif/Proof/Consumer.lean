import FranzVerif.Model.Consumer
import FranzVerif.Proof.Monitor
/-! What a history of `Model.Consumer` events (direct consumer: C04, C05, fetch half of C14) shows: the records returned by
polls, acknowledged by the producer side, decided by transactions, passed to the fetch hooks; and what the monitor demands
of a `returned` event (`returned_check`: at or after the start offset, above the last one returned for the partition, a
control record only under `keepCtl`). -/
namespace Proof.Consumer
open Model.Consumer
open Proof.Monitor (ite_some_eq_none)

/-- offsets returned for a partition, in the order they were returned -/
def returnedOffsets (part : Nat) (h : List Ev) : List Nat :=
  h.filterMap (fun e => match e with | .returned p o _ _ => if p = part then some o else none | _ => none)
/-- all returned records `(part, off, id, ctl)` in order -/
def returnedOf (h : List Ev) : List (Nat × Nat × Id × Bool) :=
  h.filterMap (fun e => match e with | .returned p o i c => some (p, o, i, c) | _ => none)
/-- acknowledged records `(id, part, off, txn)` -/
def producedOf (h : List Ev) : List (Id × Nat × Nat × Nat) :=
  h.filterMap (fun e => match e with | .produced i p o x => some (i, p, o, x) | _ => none)
/-- transaction decisions `(txn, commit)` -/
def decisionsOf (h : List Ev) : List (Nat × Bool) :=
  h.filterMap (fun e => match e with | .endDecided k c => some (k, c) | _ => none)
def bufferedHooks (h : List Ev) : List (Nat × Nat) :=
  h.filterMap (fun e => match e with | .hookBuf p o => some (p, o) | _ => none)
def unbufferedHooks (h : List Ev) : List (Nat × Nat) :=
  h.filterMap (fun e => match e with | .hookUnbuf p o _ => some (p, o) | _ => none)
/-- the history contains a failed producer-side step (then completeness is not judged) -/
def isIncomplete (h : List Ev) : Bool :=
  h.any (fun e => match e with | .incomplete => true | .endDone _ _ ok => !ok | _ => false)

/-- the value of the last `gauge` event, if any -/
def lastGauge (h : List Ev) : Option Nat :=
  (h.filterMap (fun e => match e with | .gauge n => some n | _ => none)).getLast?

theorem isMonitor (c : Cfg) : Proof.Monitor.IsMonitor (check c) (apply c) (step c) (run c) :=
  ⟨⟨fun _ => rfl, fun s e es => by rw [run]; cases step c s e <;> rfl⟩, fun s e => by rw [step]; cases check c s e <;> rfl⟩

theorem lastOf_returned_same (c : Cfg) (s : St) (part off : Nat) (id : Id) (ctl : Bool) :
    lastOf (apply c s (.returned part off id ctl)) part = some off := by
  simp [lastOf, apply]

theorem lastOf_returned_other (c : Cfg) (s : St) (part off : Nat) (id : Id) (ctl : Bool) (q : Nat) (hne : q ≠ part) :
    lastOf (apply c s (.returned part off id ctl)) q = lastOf s q := by
  have : (part == q) = false := by simpa using fun h => hne h.symm
  simp only [lastOf, apply, List.find?_cons, this]
  rw [List.find?_filter_of_imp _ fun x hx => by simpa using fun he => hne (by rw [← beq_iff_eq.1 hx, he])]

theorem returned_check {c : Cfg} {s : St} {part off : Nat} {id : Id} {ctl : Bool}
    (h : check c s (.returned part off id ctl) = none) :
    c.start ≤ off ∧ (∀ l, lastOf s part = some l → l < off) ∧ (ctl = true → c.keepCtl = true) := by
  simp only [check, ite_some_eq_none] at h
  obtain ⟨h1, h2⟩ := h
  refine ⟨Nat.le_of_not_lt h1, fun l hl => ?_, fun hc => ?_⟩
  · simp only [hl, ite_some_eq_none] at h2
    exact Nat.lt_of_not_le h2.1
  · cases hl : lastOf s part <;>
      simp only [hl, hc, ite_some_eq_none, Bool.true_and, Bool.not_eq_true'] at h2
    · exact eq_true_of_ne_false h2.1
    · exact eq_true_of_ne_false h2.2.1

end Proof.Consumer
