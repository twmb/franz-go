import FranzVerif.Proof.C16Total
/-! The number of nodes of a decoded value is linear in the number of bytes consumed. -/
namespace Proof.C16
open Model.C15 Proof.C15

mutual
/-- nodes of a value tree: what the decoder had to materialise (every array slot, every field, every unknown tag). -/
def nodes : Val → Nat
  | .int _ => 1
  | .blob _ => 1
  | .null => 1
  | .list vs => 1 + nodesL vs
  | .stru vs unk => 1 + nodesL vs + unk.length
def nodesL : Vals → Nat
  | .nil => 0
  | .cons v r => nodes v + nodesL r
end

mutual
/-- the constant factor of a type (depends on the schema only): `nodes v ≤ weight t * (bytes consumed + 1)`. An array doubles its
element's weight (`decList_sized`) and adds 1 for itself; a struct adds 1 for itself and 1 for its unknown tags. -/
def weight : Ty → Nat
  | .prim _ => 1
  | .str _ => 1
  | .arr _ t => 2 * weight t + 1
  | .struct _ _ fs => weightF fs + 2
def weightF : Fields → Nat
  | .nil => 0
  | .cons _ _ _ _ _ t rest => weight t + weightF rest
end

mutual
theorem nodes_dflt : ∀ (t : Ty) (d : Dflt), nodes (dfltVal t d) ≤ weight t
  | .prim p, d => by cases p <;> cases d <;> exact Nat.le_refl 1
  | .str k, d => by cases k <;> exact Nat.le_refl 1
  | .arr k t, d => Nat.le_add_left 1 _
  | .struct true ff fs, d => Nat.le_add_left 1 _
  | .struct false ff fs, d => by
    have := nodesL_dflt fs
    simp only [dfltVal, nodes, weight, List.length_nil]; omega
theorem nodesL_dflt : ∀ fs : Fields, nodesL (dfltVals fs) ≤ weightF fs
  | .nil => Nat.le_refl 0
  | .cons _ _ _ _ d t rest => Nat.add_le_add (nodes_dflt t d) (nodesL_dflt rest)
end

theorem weight_pos : ∀ t : Ty, 1 ≤ weight t
  | .prim _ | .str _ => Nat.le_refl 1
  | .arr _ _ | .struct _ _ _ => Nat.le_add_left ..

theorem leaf_le (t : Ty) (k : Nat) : 1 ≤ weight t * (k + 1) :=
  Nat.le_trans (weight_pos t) (Nat.le_mul_of_pos_right _ (Nat.succ_pos k))

/-- per-field bound: every field value has at most `weight t * B` nodes -/
def fb : Fields → Vals → Nat → Prop
  | .cons _ _ _ _ _ t rest, .cons v r, B => nodes v ≤ weight t * B ∧ fb rest r B
  | .nil, .nil, _ => True
  | _, _, _ => False

theorem fb_sum : ∀ (fs : Fields) (vals : Vals) (B : Nat), fb fs vals B → nodesL vals ≤ weightF fs * B
  | .nil, .nil, B, _ => Nat.zero_le _
  | .cons _ _ _ _ _ t rest, .cons v r, B, h => by
    have := fb_sum rest r B h.2
    have := h.1
    simp only [nodesL, weightF, Nat.add_mul]; omega
  | .nil, .cons _ _, _, h => h.elim
  | .cons _ _ _ _ _ _ _, .nil, _, h => h.elim

theorem fb_mono : ∀ (fs : Fields) (vals : Vals) (B B' : Nat), B ≤ B' → fb fs vals B → fb fs vals B'
  | .nil, .nil, _, _, _, _ => trivial
  | .cons _ _ _ _ _ _ rest, .cons _ r, B, B', hb, h =>
    ⟨Nat.le_trans h.1 (Nat.mul_le_mul_left _ hb), fb_mono rest r B B' hb h.2⟩
  | .nil, .cons _ _, _, _, _, h => h.elim
  | .cons _ _ _ _ _ _ _, .nil, _, _, _, h => h.elim

theorem tagSet_length (acc : List (Nat × Bytes)) (k : Nat) (b : Bytes) : (tagSet acc k b).length ≤ acc.length + 1 := by
  fun_induction tagSet acc k b <;> simp only [List.length_cons, List.length_nil] <;> omega

theorem foldl_tagSet_length (l acc : List (Nat × Bytes)) :
    (l.foldl (fun a (e : Nat × Bytes) => tagSet a e.1 e.2) acc).length ≤ acc.length + l.length := by
  induction l generalizing acc with
  | nil => exact Nat.le_refl _
  | cons e r ih =>
    have := ih (tagSet acc e.1 e.2)
    have := tagSet_length acc e.1 e.2
    simp only [List.foldl_cons, List.length_cons]
    omega

theorem unknownOf_length (known : List Nat) (raw : List (Nat × Bytes)) : (unknownOf known raw).length ≤ raw.length := by
  have h1 := foldl_tagSet_length (raw.filter fun e => !known.contains e.1) []
  have h2 := List.length_filter_le (fun (e : Nat × Bytes) => !known.contains e.1) raw
  simp only [unknownOf]
  simp only [List.length_nil] at h1
  omega

def Sized (t : Ty) : Prop :=
  ∀ (c : Cfg) (flex : Bool) (src : Bytes) (v : Val) (r : Bytes), schemaOK c.ver t = true → dec c flex t src = .ok v r →
    ∀ k, src.length = r.length + k → nodes v ≤ weight t * (k + 1)

def SizedF (fs : Fields) : Prop :=
  ∀ (c : Cfg) (flex : Bool), schemaOKF c.ver flex fs = true →
    (∀ (src : Bytes) (vals : Vals) (r : Bytes), decFields c flex fs src = .ok vals r →
      ∀ k, src.length = r.length + k → fb fs vals (k + 1)) ∧
    (flex = true → ∀ (raw : List (Nat × Bytes)) (vals vals' : Vals) (x : Bytes) (B : Nat), fb fs vals B →
      (∀ e ∈ raw, e.2.length + 1 ≤ B) → applyTags c flex fs raw vals = .ok vals' x → fb fs vals' B)

/-- every element occupies at least one byte, so an element's `+ 1` is paid for by what it consumed -/
theorem decList_sized {c : Cfg} {flex : Bool} {t : Ty} (ht : Sized t) (hs : schemaOK c.ver t = true) (hw : 1 ≤ minW c.ver t) :
    ∀ {n : Nat} {src : Bytes} {vs : Vals} {r : Bytes}, decList c flex t n src = .ok vs r →
      ∀ k, src.length = r.length + k → nodesL vs ≤ 2 * (weight t * k)
  | 0, src, vs, r, h, k, _ => by rw [decList] at h; cases h; exact Nat.zero_le _
  | n+1, src, vs, r, h, k, hk => by
    obtain ⟨v, r0, vs', h1, h2, rfl⟩ := decList_succ_ok_inv h
    obtain ⟨k1, e1, w1⟩ := (consT t c flex src).consumed h1
    obtain ⟨k2, e2, -⟩ := (consList t c flex n r0).consumed h2
    have hv := ht c flex src v r0 hs h1 k1 e1
    have hl := decList_sized ht hs hw h2 k2 e2
    obtain rfl : k = k1 + k2 := by omega
    have hww : weight t ≤ weight t * k1 := Nat.le_mul_of_pos_right _ (by omega)
    rw [Nat.mul_add, Nat.mul_one] at hv
    rw [Nat.mul_add, nodesL]
    omega

mutual
theorem sized : ∀ t : Ty, Sized t
  | .prim p => fun c flex src v r _ h k _ => by
    rw [dec] at h
    cases p <;> (obtain ⟨a, _, rfl⟩ := map_ok_inv h; exact leaf_le _ k)
  | .str s => fun c flex src v r _ h k _ => by
    rw [dec, decStr_eq] at h
    obtain ⟨l, r0, _, h⟩ := andThen_ok_inv h
    split at h
    · cases h
      cases s.eff c.ver <;> exact leaf_le _ k
    · obtain ⟨b, _, rfl⟩ := map_ok_inv h
      exact leaf_le _ k
  | .arr ak t => fun c flex src v r hs h k hk => by
    simp only [schemaOK, Bool.and_eq_true, decide_eq_true_eq] at hs
    obtain ⟨l, r0, h1, ⟨_, rfl, _⟩ | ⟨_, vs, rfl, hdl⟩⟩ := dec_arr_ok_inv h
    · cases ak <;> simp only [emptyArr] <;> (try split) <;> exact leaf_le _ k
    · obtain ⟨k0, e0, -⟩ := (reads_decArrLen flex ak src).cons.consumed h1
      obtain ⟨k1, e1, -⟩ := (consList t c flex l.toNat r0).consumed hdl
      have hl := decList_sized (sized t) hs.2 hs.1 hdl k1 e1
      have hm : weight t * k1 ≤ weight t * k := Nat.mul_le_mul_left _ (by omega)
      simp only [nodes, weight, Nat.add_mul, Nat.mul_add, Nat.mul_one, Nat.one_mul, Nat.mul_assoc]
      omega
  | .struct nullable ff fs => fun c flex src v r hs h k hk => by
    simp only [schemaOK, Bool.and_eq_true] at hs
    obtain ⟨F1, F2⟩ := sizedF fs c (flexAt ff c.ver) hs.2
    -- `1` for the struct, the fields within their weights, at most one unknown tag per two bytes
    have hbig : ∀ (vals : Vals) (u : Nat), fb fs vals (k + 1) → u ≤ k → 1 + nodesL vals + u ≤ (weightF fs + 2) * (k + 1) := by
      intro vals u hfb hu
      have := fb_sum fs vals (k + 1) hfb
      rw [Nat.add_mul]; omega
    cases dec_struct_ok_inv h with
    | null => exact leaf_le _ k
    | plain h0 _ h1 =>
      obtain ⟨k0, e0, -⟩ := (reads_structPre nullable src).cons.consumed h0
      obtain ⟨k1, e1, -⟩ := (consF fs c _ _).consumed h1
      exact hbig _ 0 (fb_mono fs _ _ (k + 1) (by omega) (F1 _ _ _ h1 k1 e1)) (Nat.zero_le _)
    | tagged raw h0 hfl h1 h2 h3 h4 =>
      obtain ⟨k0, e0, -⟩ := (reads_structPre nullable src).cons.consumed h0
      obtain ⟨k1, e1, -⟩ := (consF fs c _ _).consumed h1
      obtain ⟨k2, e2, -⟩ := (reads_readUvarint _).cons.consumed h2
      obtain ⟨c3, c4, hp⟩ := (readRawTags_ok _ _).2 _ _ h3
      have hu := unknownOf_length (knownTags fs) raw
      have hb := fb_mono fs _ _ (k + 1) (by omega) (F1 _ _ _ h1 k1 e1)
      refine hbig _ _ (F2 hfl _ _ _ _ (k + 1) hb (fun e he => ?_) h4) (by omega)
      have := hp e he
      omega
theorem sizedF : ∀ fs : Fields, SizedF fs
  | .nil => fun c flex _ =>
    ⟨fun src vals r h k _ => by rw [decFields] at h; cases h; trivial,
     fun _ raw vals vals' x B hfb _ h => by
      cases vals with
      | nil => rw [applyTags_nil] at h; cases h; trivial
      | cons v r => exact hfb.elim⟩
  | .cons name minV maxV tag d t rest => fun c flex hs => by
    simp only [schemaOKF, Bool.and_eq_true, Bool.or_eq_true] at hs
    obtain ⟨hst', hsr⟩ := hs
    obtain ⟨R1, R2⟩ := sizedF rest c flex hsr
    refine ⟨fun src vals r h k hk => ?_, fun hflex raw vals vals' x B hfb hraw h => ?_⟩
    · obtain ⟨v, vs, rfl, ⟨_, rfl, h1⟩ | ⟨⟨rfl, hp⟩, r0, h1, h2⟩⟩ := decFields_cons_ok_inv h
      · exact ⟨Nat.le_trans (nodes_dflt t d) (Nat.le_mul_of_pos_right _ (Nat.succ_pos k)), R1 src vs r h1 k hk⟩
      · have hst : schemaOK c.ver t = true := by simpa [hp] using hst'
        obtain ⟨k1, e1, -⟩ := (consT t c flex src).consumed h1
        obtain ⟨k2, e2, -⟩ := (consF rest c flex r0).consumed h2
        have hv := sized t c flex src v r0 hst h1 k1 e1
        have hr := R1 r0 vs r h2 k2 e2
        exact ⟨Nat.le_trans hv (Nat.mul_le_mul_left _ (by omega)), fb_mono rest vs _ (k + 1) (by omega) hr⟩
    · subst hflex
      cases vals with
      | nil => exact hfb.elim
      | cons v vs =>
        obtain ⟨v', vs', y, rfl, hr, hv'⟩ := applyTags_cons_ok_inv h
        refine ⟨?_, R2 rfl raw vs vs' y B hfb.2 hraw hr⟩
        rcases hv' with rfl | ⟨_, rfl, e, he, r', hd⟩
        · exact hfb.1
        · obtain ⟨k1, e1, -⟩ := (consT t c true e.2).consumed hd
          have hv := sized t c true e.2 v' r' (by simpa using hst') hd k1 e1
          have := hraw e he
          exact Nat.le_trans hv (Nat.mul_le_mul_left _ (by omega))
end

end Proof.C16
