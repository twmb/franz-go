import FranzVerif.Proof.ProducerInv
/-! Readings of `Inv` in terms of the events of the history: a released record's promise has run, what the monitor checked
at `quiesce`, every Flush that began has returned once none is pending; and that a pending Flush keeps its wait set. -/
namespace Proof.Producer
open Model.Producer
open Proof.Monitor (ite_some_eq_none)

theorem mem_promisesOf {id : Id} {h : List Ev} {e : Err} : e ∈ promisesOf id h ↔ Ev.promise id e ∈ h :=
  List.mem_filterMap_iff (f := Ev.promise id) fun ev e => by cases ev <;> simp [eq_comm]

theorem mem_hookUsOf {id : Id} {h : List Ev} {e : Err} : e ∈ hookUsOf id h ↔ Ev.hookU id e ∈ h :=
  List.mem_filterMap_iff (f := Ev.hookU id) fun ev e => by cases ev <;> simp [eq_comm]

theorem mem_promiseRanIds {i : Id} {h : List Ev} :
    i ∈ promiseRanIds h ↔ (∃ e, Ev.promise i e ∈ h) ∨ ((∃ e, Ev.hookU i e ∈ h) ∧ kindOf i h = some Kind.sync) := by
  unfold promiseRanIds
  rw [List.mem_filterMap]
  constructor
  · rintro ⟨a, ha, h2⟩
    cases a <;> simp at h2
    · obtain ⟨hk, rfl⟩ := h2; exact Or.inr ⟨⟨_, ha⟩, hk⟩
    · subst h2; exact Or.inl ⟨_, ha⟩
  · rintro (⟨e, he⟩ | ⟨⟨e, he⟩, hk⟩)
    · exact ⟨_, he, by simp⟩
    · exact ⟨_, he, by simp [hk]⟩

theorem RecInv.promiseRan {h : List Ev} {id : Id} {r : Rec} (hr : RecInv h id r)
    (hu : r.hookU.isSome = true) (hp : r.kind ≠ Kind.sync → r.promised.isSome = true) :
    id ∈ promiseRanIds h := by
  rw [mem_promiseRanIds]
  by_cases hk : r.kind = Kind.sync
  · right
    obtain ⟨e, he⟩ := Option.isSome_iff_exists.1 hu
    refine ⟨⟨e, mem_hookUsOf.1 ?_⟩, by rw [hr.hkind, hk]⟩
    rw [hr.hU, he]; simp
  · left
    obtain ⟨e, he⟩ := Option.isSome_iff_exists.1 (hp hk)
    refine ⟨e, mem_promisesOf.1 ?_⟩
    rw [hr.hprom, he]; simp

theorem Inv.released_promiseRan {c : Cfg} {h : List Ev} {s : St} (hi : Inv c h s) {id : Id}
    (hm : id ∈ releasedIds h) : id ∈ promiseRanIds h := by
  cases hfd : find s.recs id with
  | none => exact absurd hm (hi.recNone id hfd).not_released
  | some r =>
    have hr := hi.recSome id r hfd
    have := hr.relAdm (hr.mem_released.1 hm)
    exact hr.promiseRan this.2.1 this.2.2

/-- What `check` demands at `quiesce n b`: every record is finished, every Flush has returned, the gauges and the
monitor's own occupancy are zero. -/
structure Quiet (s : St) (n b : Nat) : Prop where
  promised : ∀ {id r}, find s.recs id = some r → r.promised.isSome = true
  hookU : ∀ {id r}, find s.recs id = some r → r.hookU.isSome = true
  unblocked : ∀ {id r}, find s.recs id = some r → r.blocked = false
  returned : ∀ {id r}, find s.recs id = some r → r.returned = true
  released : ∀ {id r}, find s.recs id = some r → r.admitted = true → r.released = true
  flushes : ∀ f ∈ s.flushes, f.done = true
  gauges : n = 0 ∧ b = 0
  occ : s.occ = 0 ∧ s.occBytes = 0

theorem quiesce_check {c : Cfg} {s : St} {n b : Nat} (hchk : check c s (.quiesce n b) = none) : Quiet s n b := by
  simp [check, ite_some_eq_none] at hchk
  obtain ⟨c1, c2, c3, c4, c5, c6, c7⟩ := hchk
  exact ⟨fun h => Option.isSome_iff_ne_none.2 (c1 _ (find_some h).1), fun h => Option.isSome_iff_ne_none.2 (c2 _ (find_some h).1),
    fun h => (c3 _ (find_some h).1).1, fun h => (c3 _ (find_some h).1).2, fun h => c4 _ (find_some h).1, c5, c6, c7⟩

theorem at_quiesce {c : Cfg} {h : List Ev} {n b : Nat} {s : St} (hacc : run c {} (h ++ [Ev.quiesce n b]) = some s) :
    ∃ s₁, Inv c h s₁ ∧ Quiet s₁ n b :=
  let ⟨s₁, h1, hchk, _⟩ := (isMonitor c).snoc hacc
  ⟨s₁, inv_of_run h1, quiesce_check hchk⟩

theorem Inv.flush_returned {c : Cfg} {h : List Ev} {s : St} (hi : Inv c h s) (hfl : ∀ f ∈ s.flushes, f.done = true)
    (k : Nat) (hk : Ev.flushStart k ∈ h) : ∃ ok, Ev.flushEnd k ok ∈ h := by
  obtain ⟨f, hf, hfk⟩ := hi.flStart k hk
  exact hfk ▸ hi.flDone f hf (hfl f hf)

/-- What `check` demands when a Flush returns nil: every record of its wait set is no longer blocked and, if it was
admitted, finished. -/
theorem check_flushEnd_nil {c : Cfg} {s : St} {k : Nat} {f : Flush} (hf : s.flushes.find? (·.k == k) = some f)
    (hchk : check c s (.flushEnd k true) = none) {id : Id} (hw : id ∈ f.waitFor) :
    ∃ r, find s.recs id = some r ∧ r.blocked = false ∧ (r.admitted = true →
      r.hookU.isSome = true ∧ r.released = true ∧ (r.kind ≠ Kind.sync → r.promised.isSome = true)) := by
  simp [check, hf, ite_some_eq_none] at hchk
  have := hchk.2 id hw
  cases hfd : find s.recs id with
  | none => simp [hfd] at this
  | some r =>
    simp only [hfd, Bool.or_eq_false_iff, Bool.and_eq_false_imp] at this
    refine ⟨r, rfl, this.1, fun ha => ?_⟩
    simpa [and_assoc] using this.2 ha

theorem flush_waitFor_step {c : Cfg} {s : St} {ev : Ev} (hchk : check c s ev = none) (k : Nat) (w : List Id)
    (hf : ∃ f, s.flushes.find? (·.k == k) = some f ∧ f.waitFor = w) :
    ∃ f, (apply c s ev).flushes.find? (·.k == k) = some f ∧ f.waitFor = w := by
  obtain ⟨f, hf, hw⟩ := hf
  fun_cases apply c s ev <;> try exact ⟨f, hf, hw⟩
  · next k' _ =>
    -- `flushStart k'`: `k'` is fresh
    simp [check] at hchk
    have hne : k' ≠ k := fun he => hchk f (List.mem_of_find?_eq_some hf) (by simpa [he] using List.find?_some hf)
    exact ⟨f, by simp [hne, hf], hw⟩
  · next k' ok =>
    -- `flushEnd k' ok` keeps every `k` and `waitFor`
    refine ⟨if (f.k == k') = true then { f with done := true } else f, ?_, by split <;> exact hw⟩
    simp only [List.find?_map]
    have : ((fun x : Flush => x.k == k) ∘ fun f : Flush => if (f.k == k') = true then { f with done := true } else f)
        = (fun x : Flush => x.k == k) := by
      funext x; simp only [Function.comp]; split <;> rfl
    rw [this, hf]
    rfl

theorem flush_waitFor_run {c : Cfg} {s s' : St} {h : List Ev} (hr : run c s h = some s') (k : Nat) (f : Flush)
    (hf : s.flushes.find? (·.k == k) = some f) :
    ∃ f', s'.flushes.find? (·.k == k) = some f' ∧ f'.waitFor = f.waitFor :=
  (isMonitor c).inv_state (fun _ _ hI hchk => flush_waitFor_step hchk k f.waitFor hI) ⟨f, hf, rfl⟩ hr

end Proof.Producer
