import FranzVerif.Proof.C31
/-! C31 — `xsync.RWMutex` for balanced clients, in two relations on counts. `RTok`: each of `gate` and `mu` holds one
token, buffered or with a holder, and `readerCount` is the number of threads between their `++` and `--`. `RSig`: what a
buffered `writerSignal` means — it can be stale (posted when no writer waited), but a writer past its drain finds one only
with `readerCount = 0`, and a writer waiting without one still has a counted reader or a reader about to post. -/
namespace Model.C31.Rw

/-- holds the gate token -/
def gh (t : Th) : Nat := match t.pc with
  | .rl2 _ | .rl3 _ | .rl4 _ | .wl2 | .wl3 | .wl4a | .wl4b | .wl5 | .twl2 | .twl3 | .twl4a | .twl4b | .twl5 | .wu true => 1
  | _ => 0
/-- holds the inner mutex `rw.mu` -/
def mh (t : Th) : Nat := match t.pc with
  | .rl3 _ | .ru2 | .ru3 | .ruP | .wl4a | .wl4b | .twl4a | .twl4b => 1 | _ => 0
/-- between its `readerCount++` and its `readerCount--` -/
def rcn (t : Th) : Nat := match t.pc with
  | .rl3 _ | .rl4 _ | .rsec | .ru1 true => 1 | _ => 0
/-- reader inside its read section -/
def rIn (t : Th) : Nat := match t.pc with | .rsec => 1 | _ => 0
/-- writer inside (between the return of `Lock`/successful `TryLock` and `Unlock`) -/
def wIn (t : Th) : Nat := match t.pc with | .wu true => 1 | _ => 0
/-- writer that has read `readerCount == 0` under `mu`, or is inside -/
def wz (t : Th) : Nat := match t.pc with | .wl4b | .twl4b | .wu true => 1 | _ => 0
/-- writer past its drain of `writerSignal`, not yet inside -/
def wd (t : Th) : Nat := match t.pc with | .wl3 | .wl4a | .wl4b | .wl5 | .twl3 | .twl4a | .twl4b | .twl5 => 1 | _ => 0
/-- about to post the writer signal (it just decremented the count to zero) -/
def r2 (t : Th) : Nat := match t.pc with | .ru2 => 1 | _ => 0
/-- writer that saw readers and waits (or is about to wait) for the signal -/
def w5 (t : Th) : Nat := match t.pc with | .wl4a | .wl5 => 1 | _ => 0
/-- unbalanced now or later: a bare `RUnlock`/`Unlock`, or the panic path of `RUnlock` -/
def unbal (t : Th) : Nat :=
  (match t.pc with | .ru1 false | .wu false | .ruP => 1 | _ => 0) + if Op.UR ∈ t.prog ∨ Op.UW ∈ t.prog then 1 else 0

def Balanced (progs : List (List Op)) : Prop := ∀ p ∈ progs, Op.UR ∉ p ∧ Op.UW ∉ p

/-- The token discipline, as a relation between the tokens buffered in `gate`, `mu`, `sig` (`tg`, `tm`, `ts`),
the reader count `n`, and the numbers of threads that hold the gate token (`g`), hold `mu` (`m`), are counted
in `readerCount` (`c`), are unbalanced (`u`). -/
structure RTok (tg tm ts : Nat) (n : Int) (g m c u : Nat) : Prop where
  gate : tg + g = 1
  mu : tm + m = 1
  rc : n = c
  bal : u = 0
  sig1 : ts ≤ 1

/-- What the writer signal means, with the numbers of writers past their drain (`d`), readers about to
signal (`s`), writers that read a zero count (`z`), writers waiting for the signal (`w`). -/
structure RSig (ts : Nat) (n : Int) (d s z w : Nat) : Prop where
  i4 : d > 0 → ts = 1 → n = 0
  i5 : s > 0 → n = 0
  i6 : z > 0 → n = 0
  i7 : w > 0 → ts = 0 → n > 0 ∨ s > 0

def RInv (s : St Sh Th) : Prop :=
  RTok s.sh.gate s.sh.mu s.sh.sig s.sh.rc (cnt gh s.ths) (cnt mh s.ths) (cnt rcn s.ths) (cnt unbal s.ths) ∧
  RSig s.sh.sig s.sh.rc (cnt wd s.ths) (cnt r2 s.ths) (cnt wz s.ths) (cnt w5 s.ths)

theorem start_zero (p : List Op) (h : Op.UR ∉ p ∧ Op.UW ∉ p) :
    gh (start p) = 0 ∧ mh (start p) = 0 ∧ rcn (start p) = 0 ∧ wz (start p) = 0 ∧ wd (start p) = 0 ∧
    r2 (start p) = 0 ∧ w5 (start p) = 0 ∧ unbal (start p) = 0 := by
  rcases p with _ | ⟨_ | _ | _ | _ | _ | _, r⟩ <;> simp_all [start, gh, mh, rcn, wz, wd, r2, w5, unbal]

theorem init_inv (progs : List (List Op)) (hb : Balanced progs) : RInv (init progs) := by
  have hz := fun p hp => start_zero p (hb p hp)
  constructor <;> constructor <;> simp +contextual [init, cnt_map_eq_zero, hz]

theorem le_facts (l : List Th) : cnt wd l ≤ cnt gh l ∧ cnt wz l ≤ cnt gh l ∧ cnt w5 l ≤ cnt gh l ∧ cnt r2 l ≤ cnt mh l := by
  refine ⟨cnt_le ?_ l, cnt_le ?_ l, cnt_le ?_ l, cnt_le ?_ l⟩ <;> intro ⟨pc, p⟩ <;> cases pc with
    | wu own => cases own <;> simp [wd, wz, w5, r2, gh, mh]
    | _ => simp [wd, wz, w5, r2, gh, mh]

theorem inv_step (sh : Sh) (t : Th) (r : List Th) (sh' : Sh) (t' : Th) (b : Bool) (ev : String)
    (hI : RInv ⟨sh, t :: r⟩) (hs : stepT sh t = some (sh', t', b, ev)) : RInv ⟨sh', t' :: sys.wakeAll b r⟩ := by
  obtain ⟨pc, p⟩ := t
  have hw : ∀ f : Th → Nat, cnt f (sys.wakeAll b r) = cnt f r := fun f => sys.cnt_wakeAll_eq (fun _ => rfl) b r
  simp only [RInv, cnt_cons, hw] at hI ⊢
  have hu : unbal ⟨pc, p⟩ = 0 := by have := hI.1.bal; omega
  obtain ⟨z1, z2, z3, z4, z5, z6, z7, z8⟩ := start_zero p (by simpa [unbal] using hu : _ ∧ _).2
  cases pc
  -- a balanced thread is at `RUnlock`/`Unlock` only as the owner
  case' ru1 own => cases own; simp [unbal] at hu
  case' wu own => cases own; simp [unbal] at hu
  -- the outcomes of the action, one per branch of `stepT`; the guards `x = 0` are read as `x ≤ 0`, so that
  -- `omega` gets a linear fact on either side
  all_goals simp only [stepT, muUnlock, ← Nat.le_zero] at hs
  all_goals repeat' split at hs
  all_goals simp only [Option.some.injEq, Prod.mk.injEq, reduceCtorEq] at hs
  all_goals obtain ⟨rfl, rfl, -⟩ := hs
  -- the indicators at the two locations (`↓`: the values at `start p` go in before `gh` … are unfolded there)
  all_goals
    simp only [↓z1, ↓z2, ↓z3, ↓z4, ↓z5, ↓z6, ↓z7, ↓z8, gh, mh, rcn, wz, wd, r2, w5, unbal, Nat.zero_add] at hI ⊢
  all_goals clear z1 z2 z3 z4 z5 z6 z7 z8
  -- the token discipline first, while `omega` does not see the implications about the signal
  all_goals obtain ⟨⟨gate, mu, rc, bal, sig1⟩, hsig⟩ := hI
  all_goals refine ⟨by constructor <;> omega, ?_⟩
  all_goals obtain ⟨f1, f2, f3, f4⟩ := le_facts r
  all_goals obtain ⟨i4, i5, i6, i7⟩ := hsig
  all_goals constructor <;> omega

theorem reach_inv {progs : List (List Op)} (hb : Balanced progs) {s : St Sh Th}
    (hr : sys.Reach (init progs) s) : RInv s :=
  Sys.inv_of_local sys (init_inv progs hb) (by simp [RInv, cnt_mid]) inv_step hr

theorem reach_of_exec {s0 s : St Sh Th} : ∀ (l : List Nat) (s1 : St Sh Th), sys.Reach s0 s1 → sys.exec s1 l = some s → sys.Reach s0 s :=
  sys.reach_of_exec

/-- A receive needs a buffered token, a blocking send an empty buffer. -/
theorem enabled_iff (sh : Sh) (t : Th) : (stepT sh t).isSome ↔ match t.pc with
    | .rl1 | .wl1 => sh.gate ≠ 0
    | .rl2 _ | .ru1 _ | .wl3 | .twl3 => sh.mu ≠ 0
    | .rl4 _ | .twl5 => sh.gate = 0
    | .wl5 => sh.sig ≠ 0
    | .done => False
    | _ => True := by
  fun_cases stepT sh t <;> simp only [‹t.pc = _›] <;> simp_all

theorem rIn_le (l : List Th) : cnt rIn l ≤ cnt rcn l := by
  apply cnt_le; intro t; obtain ⟨pc, p⟩ := t; cases pc <;> simp [rIn, rcn]
theorem wIn_le (l : List Th) : cnt wIn l ≤ cnt gh l ∧ cnt wIn l ≤ cnt wz l := by
  constructor <;> apply cnt_le <;> intro ⟨pc, p⟩ <;> cases pc with
    | wu own => cases own <;> simp [wIn, gh, wz]
    | _ => simp [wIn, gh, wz]

/-- Deadlock freedom: a holder of the inner mutex can act; else the holder of the gate token can, unless it is the writer
waiting for the signal, and then a reader still counted or about to signal can (`RSig.i7`); with both tokens free every
unfinished thread can. -/
theorem deadlock_free {s : St Sh Th} (h : RInv s) (hnd : sys.allDone s = false) : ∃ i, (sys.step s i).isSome := by
  obtain ⟨⟨g1, g2, g3, -, -⟩, ⟨-, -, -, g9⟩⟩ := h
  by_cases hmu : s.sh.mu = 0
  · have : 0 < cnt mh s.ths := by omega
    obtain ⟨⟨pc, prog⟩, hm, hh⟩ := cnt_pos this
    refine sys.step_of_mem hm ((enabled_iff _ _).2 ?_)
    cases pc <;> simp [mh] at hh <;> trivial
  · by_cases hg : s.sh.gate = 0
    · have : 0 < cnt gh s.ths := by omega
      obtain ⟨⟨pc, prog⟩, hm, hh⟩ := cnt_pos this
      by_cases h5 : pc = .wl5 ∧ s.sh.sig = 0
      · -- the writer waits for the signal: a reader is still counted or about to signal
        obtain ⟨rfl, hs0⟩ := h5
        have hw5 : 0 < cnt w5 s.ths := cnt_pos_of_mem hm (by simp [w5])
        rcases g9 hw5 hs0 with h | h
        · have : 0 < cnt rcn s.ths := by omega
          obtain ⟨⟨pc', prog'⟩, hm', hh'⟩ := cnt_pos this
          refine sys.step_of_mem hm' ((enabled_iff _ _).2 ?_)
          cases pc' <;> simp [rcn] at hh' <;> simp [hmu, hg]
        · obtain ⟨⟨pc', prog'⟩, hm', hh'⟩ := cnt_pos h
          refine sys.step_of_mem hm' ((enabled_iff _ _).2 ?_)
          cases pc' <;> simp [r2] at hh' <;> trivial
      · refine sys.step_of_mem hm ((enabled_iff _ _).2 ?_)
        cases pc <;> simp [gh] at hh <;> simp [hmu, hg] <;> simpa using h5
    · simp only [Sys.allDone, List.all_eq_false] at hnd
      obtain ⟨⟨pc, prog⟩, hm, hnd⟩ := hnd
      have hgh : gh ⟨pc, prog⟩ = 0 := by have := le_cnt_of_mem (f := gh) hm; omega
      refine sys.step_of_mem hm ((enabled_iff _ _).2 ?_)
      cases pc <;> simp [gh] at hgh <;> simp [sys] at hnd <;> simp [hmu, hg]

end Model.C31.Rw
