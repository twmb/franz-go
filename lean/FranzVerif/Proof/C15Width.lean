import FranzVerif.Proof.C15Wire
import FranzVerif.Proof.C16Reader
/-! Every encoding of a type is at least `minW` bytes long. For primitives and strings the bound is taken from the decoder: it
reads the encoding back and leaves nothing (`C15Wire`), and a successful read consumed at least the width (`Proof.C16.Reads`). -/
namespace Proof.C15
open Model.C15 Proof.C16

/-- Stated on `bs ++ []` because that is the input the read-back lemmas of `C15Wire` speak of when the suffix is empty. -/
theorem len_of_reads {α : Type} {x : Bytes → Res α} {w : Nat} {a : α} (bs : Bytes)
    (hr : Reads 0 (x (bs ++ [])) (bs ++ []).length w) (hd : x (bs ++ []) = .ok a []) : w ≤ bs.length := by
  have := hr.2 a [] hd
  simpa using this

theorem encPrim_len (p : Prim) (v : Val) (bs : Bytes) (h : encPrim p v = some bs) : primW p ≤ bs.length :=
  len_of_reads bs (reads_decPrim p _) (decPrim_encPrim p v bs [] h)

theorem encStr_len (ver : Int) (flex : Bool) (k : SKind) (v : Val) (bs : Bytes) (h : encStr ver flex k v = some bs) :
    1 ≤ bs.length :=
  len_of_reads bs (reads_decStr ver flex k _) (decStr_encStr ver flex k v bs [] h)

theorem encArrHdr_len (ver : Int) (flex : Bool) (k : AKind) (isNull : Bool) (len : Nat) :
    1 ≤ (encArrHdr ver flex k isNull len).length := by
  have h32 : ∀ i, 1 ≤ (encInt32 i).length := fun i => by rw [encInt32, be_length]; decide
  cases k <;> simp only [encArrHdr]
  case varint => exact uvEnc_length_pos 4 _
  all_goals
    split <;> cases flex
    · exact h32 _
    · exact Nat.le_refl 1
    · exact h32 _
    · exact uvEnc_length_pos 4 _

mutual
theorem minW_le (ver : Int) : ∀ (t : Ty) (flex : Bool) (v : Val) (bs : Bytes),
    enc ver flex t v = some bs → minW ver t ≤ bs.length
  | .prim p, flex, v, bs, h => by
    rw [enc] at h
    exact encPrim_len p v bs h
  | .str k, flex, v, bs, h => by
    rw [enc] at h
    exact encStr_len ver flex k v bs h
  | .arr k t, flex, v, bs, h => by
    cases v <;> simp only [enc] at h <;> try contradiction
    · cases k <;> cases h <;> exact encArrHdr_len _ _ _ _ _
    · split at h <;> try contradiction
      obtain ⟨_, hs⟩ := Option.ite_none_right_eq_some.1 h
      cases hs
      rw [List.length_append]
      exact Nat.le_add_right_of_le (encArrHdr_len ver flex k false _)
  | .struct nullable ff fs, flex, v, bs, h => by
    cases v <;> simp only [enc] at h <;> try contradiction
    · obtain ⟨hn, hs⟩ := Option.ite_none_right_eq_some.1 h
      cases hs
      simp only [minW, hn, if_true]
      exact Nat.le_refl 1
    · rename_i vals unk
      split at h <;> try contradiction
      rename_i body tags hb ht
      have hbody := minWF_le ver fs (flexAt ff ver) vals body hb
      cases hfl : flexAt ff ver <;> simp only [hfl, if_true, if_false, Bool.false_eq_true] at h
      · cases h
        cases nullable <;> simp [minW, hfl] <;> omega
      · obtain ⟨_, hs⟩ := Option.ite_none_right_eq_some.1 h
        cases hs
        have : 1 ≤ (encUvarint (tags.length + unk.length)).length := uvEnc_length_pos 4 _
        cases nullable <;> simp [minW, hfl] <;> omega
theorem minWF_le (ver : Int) : ∀ (fs : Fields) (flex : Bool) (vals : Vals) (b : Bytes),
    encFields ver flex fs vals = some b → minWF ver fs ≤ b.length
  | .nil, flex, vals, b, h => Nat.zero_le _
  | .cons name minV maxV tag d t rest, flex, vals, b, h => by
    obtain ⟨v, r, b', rfl, hb', hcase⟩ := encFields_cons_some h
    have ih := minWF_le ver rest flex r b' hb'
    rw [minWF]
    rcases hcase with ⟨hc, rfl⟩ | ⟨hc, a, ha, rfl⟩
    · rw [if_pos hc, Nat.zero_add]
      exact ih
    · have := minW_le ver t flex v a ha
      rw [if_neg hc, List.length_append]
      omega
end

theorem encList_len (ver : Int) (flex : Bool) (t : Ty) (w : Nat)
    (hw : ∀ v bs, enc ver flex t v = some bs → w ≤ bs.length) :
    ∀ vs b, encList ver flex t vs = some b → vs.length * w ≤ b.length
  | .nil, b, _ => by rw [Vals.length, Nat.zero_mul]; exact Nat.zero_le _
  | .cons v r, b, h => by
    simp only [encList] at h
    split at h <;> cases h
    rename_i a b' ha hb'
    have := hw v a ha
    have := encList_len ver flex t w hw r b' hb'
    simp only [Vals.length, List.length_append, Nat.add_mul]; omega

end Proof.C15
