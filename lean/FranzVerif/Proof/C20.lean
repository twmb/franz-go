import FranzVerif.Spec.C20
import FranzVerif.Proof.WireFacts
/-! C20 — the round trip of `RecordReader` after `RecordFormatter`, item by item: one fn of the reader on the bytes the formatter wrote for
its item gives what the Spec's `applyF` says (`stepFlat_ok`); this is carried along an inner header layout
(`nextF_ok`), over the headers of a block (`readHeaders_ok`) and along a whole layout (`next_ok`). -/
namespace Proof.C20
open Model.C20 Spec.C20

theorem readSize_append (b t : Bytes) (n : Nat) (h : n = b.length) : readSize n (b ++ t) = ⟨b, t, none⟩ := by
  subst h
  unfold readSize
  simp [List.take_left' rfl, List.drop_left' rfl]

theorem readExact_append (d t : Bytes) : readExact d (d ++ t) = ⟨d, t, none⟩ := by
  simp [readExact, readSize_append d t _ rfl]

theorem readSize_nil (n : Nat) (h : 0 < n) : readSize n [] = ⟨[], [], some .eof⟩ := by
  unfold readSize
  have : ¬ n = 0 := by omega
  simp [this]

theorem readNumRaw_nil (f : NumFmt) : readNumRaw f [] = ⟨[], [], some .eof⟩ := by
  cases f <;> simp [readNumRaw, readAscii, spanDigits, readBool, fixedWidth, readSize]

theorem digitsVal_append (dv : UInt8 → Option Nat) (base : Nat) (xs ys : Bytes) (acc : Nat) :
    digitsVal dv base acc (xs ++ ys) =
      match digitsVal dv base acc xs with
      | some a => digitsVal dv base a ys
      | none => none := by
  induction xs generalizing acc with
  | nil => simp [digitsVal]
  | cons x xs ih =>
    simp only [List.cons_append, digitsVal]
    cases dv x with
    | none => rfl
    | some d => exact ih _

theorem isDigit_digit : ∀ d, d < 10 → isDigit (digit d) = true := by decide
theorem decVal_digit : ∀ d, d < 10 → decVal (digit d) = some d := by decide
theorem hexVal_hexc : ∀ d, d < 16 → hexVal (hexc d) = some d := by decide

theorem decGo_ne_nil (f n : Nat) : decGo f n ≠ [] := by
  fun_cases decGo f n <;> simp

theorem decGo_digits (f n : Nat) : ∀ x ∈ decGo f n, isDigit x = true := by
  fun_induction decGo f n with
  | case1 n => simpa using isDigit_digit _ (Nat.mod_lt n (by decide))
  | case2 f n h => simpa using isDigit_digit n h
  | case3 f n h ih =>
    intro x hx
    rcases List.mem_append.1 hx with hx | hx
    · exact ih x hx
    · rw [List.mem_singleton.1 hx]
      exact isDigit_digit _ (Nat.mod_lt n (by decide))

theorem decGo_val (f n : Nat) : ∀ acc, n ≤ f →
    digitsVal decVal 10 acc (decGo f n) = some (acc * 10 ^ (decGo f n).length + n) := by
  fun_induction decGo f n with
  | case1 n =>
    intro acc h
    obtain rfl : n = 0 := by omega
    simp [digitsVal, decVal_digit 0 (by decide)]
  | case2 f n h => intro acc _; simp [digitsVal, decVal_digit n h]
  | case3 f n h ih =>
    intro acc hle
    rw [digitsVal_append, ih acc (by omega)]
    simp only [digitsVal, decVal_digit (n % 10) (Nat.mod_lt _ (by decide)), List.length_append, List.length_singleton]
    congr 1
    rw [Nat.pow_succ, ← Nat.mul_assoc]
    generalize acc * 10 ^ _ = X
    omega

theorem toDec_parse (n : Nat) (h : n < 18446744073709551616) : parseUint decVal 10 (toDec n) = some n := by
  simp [parseUint, toDec, decGo_ne_nil, decGo_val n n 0 (Nat.le_refl _), h]

theorem readAscii_append (ds : Bytes) (c : UInt8) (t : Bytes) (hds : ∀ x ∈ ds, isDigit x = true)
    (hc : isDigit c = false) : readAscii (ds ++ c :: t) = ⟨ds, c :: t, none⟩ := by
  have : spanDigits (ds ++ c :: t) = (ds, c :: t) := by
    induction ds with
    | nil => simp [spanDigits, hc]
    | cons x xs ih => simp [spanDigits, hds x (by simp), ih fun y hy => hds y (by simp [hy])]
  simp [readAscii, this]

theorem hexDigits_length (k u : Nat) : (hexDigits k u).length = k := by
  induction k generalizing u <;> simp [hexDigits, *]

theorem beBytes_length (k u : Nat) : (beBytes k u).length = k := by
  induction k generalizing u <;> simp [beBytes, *]

theorem leBytes_length (k u : Nat) : (leBytes k u).length = k := by
  induction k generalizing u <;> simp [leBytes, *]

theorem hexDigits_val (k : Nat) : ∀ u acc,
    digitsVal hexVal 16 acc (hexDigits k u) = some (acc * 16 ^ k + u % 16 ^ k) := by
  induction k with
  | zero => intro u acc; simp [hexDigits, digitsVal, Nat.mod_one]
  | succ k ih =>
    intro u acc
    simp only [hexDigits]
    rw [digitsVal_append, ih]
    simp only [digitsVal, hexVal_hexc (u % 16) (Nat.mod_lt _ (by decide)), Nat.pow_succ', Wire.digit_add_mod]

theorem beVal_go (k : Nat) : ∀ u acc,
    (beBytes k u).foldl (fun acc x => acc * 256 + x.toNat) acc = acc * 256 ^ k + u % 256 ^ k := by
  induction k with
  | zero => intro u acc; simp [beBytes, Nat.mod_one]
  | succ k ih =>
    intro u acc
    simp only [beBytes, List.foldl_append, List.foldl_cons, List.foldl_nil]
    have h1 : (UInt8.ofNat (u % 256)).toNat = u % 256 := by simp
    rw [ih, h1, Nat.pow_succ', Wire.digit_add_mod]

theorem beVal_beBytes (k u : Nat) : beVal (beBytes k u) = u % 256 ^ k := by
  unfold beVal; rw [beVal_go]; simp

theorem leVal_leBytes (k : Nat) : ∀ u, leVal (leBytes k u) = u % 256 ^ k := by
  induction k with
  | zero => intro u; simp [leBytes, leVal, Nat.mod_one]
  | succ k ih =>
    intro u
    simp only [leBytes, leVal]
    rw [ih]
    have h1 : (UInt8.ofNat (u % 256)).toNat = u % 256 := by simp
    rw [h1, Nat.pow_succ, Nat.mul_comm (256 ^ k), Nat.mod_mul]

theorem parseHex_hexDigits (k u : Nat) (hk : 0 < k) (hk16 : k ≤ 16) :
    parseUint hexVal 16 (hexDigits k u) = some (u % 16 ^ k) := by
  have hne : hexDigits k u ≠ [] := List.ne_nil_of_length_pos (by rw [hexDigits_length]; exact hk)
  have hlt : u % 16 ^ k < 18446744073709551616 :=
    Nat.lt_of_lt_of_le (Nat.mod_lt _ (Nat.pow_pos (by decide))) (Nat.pow_le_pow_right (by decide) hk16)
  simp [parseUint, hne, hexDigits_val, hlt]

theorem readNum_fixed (f : NumFmt) (n : Int) (t : Bytes) (hf : f ≠ .ascii) (hb : f ≠ .bool) :
    readNumRaw f (writeNum f n ++ t) = ⟨writeNum f n, t, none⟩ ∧ (writeNum f n).length = fixedWidth f
    ∧ parseNum f (writeNum f n) = some (u64 n % 2 ^ fmtBits f) := by
  cases f <;> first | contradiction | (
    refine ⟨?_, ?_, ?_⟩
    · simp only [readNumRaw, writeNum, fixedWidth]
      exact readSize_append _ _ _ (by simp [hexDigits_length, beBytes_length, leBytes_length])
    · simp [writeNum, fixedWidth, hexDigits_length, beBytes_length, leBytes_length]
    · simp [parseNum, writeNum, fmtBits, parseHex_hexDigits, beVal_beBytes, leVal_leBytes])

theorem s32_eq (u : Nat) : s32 u = ((u : Int) + 2147483648) % 4294967296 - 2147483648 := by
  simp only [s32]
  split <;> omega

theorem s16_eq (u : Nat) : s16 u = ((u : Int) + 32768) % 65536 - 32768 := by
  simp only [s16]
  split <;> omega

theorem s64_eq (u : Nat) : s64 u = ((u : Int) + 9223372036854775808) % 18446744073709551616 - 9223372036854775808 := by
  simp only [s64]
  split <;> omega

/-- `int16(d)` / `int32(d)` / `int64(d)`: the conversion `assign` applies for a field of this Go type -/
def sField : NumField → Nat → Int
  | .partition => s32 | .leaderEpoch => s32 | .producerEpoch => s16
  | _ => s64

/-- half the range of the Go type behind a numeric verb -/
def half : NumField → Int
  | .partition => 2147483648 | .leaderEpoch => 2147483648 | .producerEpoch => 32768
  | _ => 9223372036854775808

theorem sField_eq (fld : NumField) (d : Nat) :
    sField fld d = ((d : Int) + half fld) % (2 * half fld) - half fld := by
  cases fld <;> first | exact s64_eq d | exact s32_eq d | exact s16_eq d

theorem two_half (fld : NumField) : 2 * half fld = ((2 ^ typeBits fld : Nat) : Int) := by
  cases fld <;> rfl

/-- Two's complement of width `2 * H` gives `n` back from anything congruent to it. -/
theorem wrap_of_emod_eq {H d n : Int} (h1 : -H ≤ n) (h2 : n < H) (h : d % (2 * H) = n % (2 * H)) :
    (d + H) % (2 * H) - H = n := by
  rw [Int.add_emod, h, ← Int.add_emod, Int.emod_eq_of_lt (by omega) (by omega)]
  omega

theorem u64_lt (n : Int) : u64 n < 18446744073709551616 := by
  unfold u64; omega

theorem u64_cast (n : Int) : ((u64 n : Nat) : Int) = n % 18446744073709551616 :=
  Int.toNat_of_nonneg (Int.emod_nonneg _ (by decide))

theorem u64_emod (n : Int) (m : Nat) (hm : (m : Int) ∣ 18446744073709551616) :
    ((u64 n % m : Nat) : Int) = n % m := by
  rw [Int.natCast_emod, u64_cast, Int.emod_emod_of_dvd _ hm]

theorem s64_u64 (x : Int) (h1 : -9223372036854775808 ≤ x) (h2 : x < 9223372036854775808) : s64 (u64 x) = x := by
  rw [s64_eq]
  refine wrap_of_emod_eq h1 h2 ?_
  rw [u64_cast]
  exact Int.emod_emod_of_dvd _ (Int.dvd_refl _)

theorem fmtLim_eq (f : NumFmt) (hf : f ≠ .ascii) (hb : f ≠ .bool) : fmtLim f = ((2 ^ fmtBits f : Nat) : Int) := by
  cases f <;> first | contradiction | rfl

theorem fmtBits_le (f : NumFmt) : fmtBits f ≤ 64 := by
  cases f <;> decide

theorem fits_cases (fld : NumField) (f : NumFmt) (n : Int) (h : fitsNum fld f n = true) (hf : f ≠ .ascii) (hb : f ≠ .bool) :
    typeBits fld ≤ fmtBits f ∨ (0 ≤ n ∧ n < fmtLim f) := by
  cases f <;> first | contradiction | (
    simp only [fitsNum, Bool.or_eq_true, Bool.and_eq_true, decide_eq_true_eq] at h; exact h)

theorem goDiv_eq_tdiv (a b : Int) : goDiv a b = Int.tdiv a b := by
  unfold goDiv
  split
  · rw [Int.tdiv_eq_ediv_of_nonneg ‹_›]
  · have : a = -(-a) := by omega
    rw [this, Int.neg_tdiv, Int.tdiv_eq_ediv_of_nonneg (by omega)]
    simp

/-- the reader's `uint64` `d` stands for the formatter's `n` in a field of the given type -/
def Recovers (fld : NumField) (d : Nat) (n : Int) : Prop :=
  d < 18446744073709551616 ∧ sField fld d = n

theorem half_le (fld : NumField) : half fld ≤ 9223372036854775808 := by
  cases fld <;> decide

theorem recovers_fixed {fld : NumField} {f : NumFmt} {n : Int} (h1 : -half fld ≤ n) (h2 : n < half fld)
    (hfit : fitsNum fld f n = true) (hf : f ≠ .ascii) (hb : f ≠ .bool) :
    Recovers fld (u64 n % 2 ^ fmtBits f) n := by
  refine ⟨Nat.lt_of_le_of_lt (Nat.mod_le _ _) (u64_lt _), (sField_eq _ _).trans (wrap_of_emod_eq h1 h2 ?_)⟩
  rw [u64_emod _ _ (Int.natCast_dvd_natCast.mpr (Nat.pow_dvd_pow 2 (fmtBits_le f)))]
  rcases fits_cases fld f _ hfit hf hb with hw | ⟨h0, hl⟩
  · rw [two_half]
    exact Int.emod_emod_of_dvd _ (Int.natCast_dvd_natCast.mpr (Nat.pow_dvd_pow 2 hw))
  · rw [fmtLim_eq f hf hb] at hl
    rw [Int.emod_eq_of_lt h0 hl]

theorem recovers_nonneg {fld : NumField} {n : Int} (h0 : 0 ≤ n) (h2 : n < half fld) : Recovers fld n.toNat n := by
  have := half_le fld
  refine ⟨by omega, (sField_eq _ _).trans (wrap_of_emod_eq (by omega) h2 ?_)⟩
  rw [Int.toNat_of_nonneg h0]

theorem Recovers.len {fld : NumField} {d m : Nat} (h : Recovers fld d m) (h64 : sField fld = s64) : d = m := by
  obtain ⟨hd, hs⟩ := h
  rw [h64, s64_eq] at hs
  omega

theorem readBool_true (t : Bytes) : readBool (strTrue ++ t) = ⟨strTrue, t, none⟩ := by
  simp [readBool, matchWord, strTrue]

theorem readBool_false (t : Bytes) : readBool (strFalse ++ t) = ⟨strFalse, t, none⟩ := by
  simp [readBool, matchWord, strFalse]

theorem readNum_ok {fld : NumField} {f : NumFmt} {n : Int} (t : Bytes) (h1 : -half fld ≤ n) (h2 : n < half fld)
    (hfit : fitsNum fld f n = true) (hasc : f = .ascii → 0 ≤ n ∧ ∃ c t', t = c :: t' ∧ isDigit c = false) :
    ∃ d, readNumRaw f (writeNum f n ++ t) = ⟨writeNum f n, t, none⟩ ∧ fixedWidth f ≤ (writeNum f n).length
      ∧ parseNum f (writeNum f n) = some d ∧ Recovers fld d n := by
  by_cases hf : f = .ascii
  · subst hf
    obtain ⟨h0, c, t', rfl, hc⟩ := hasc rfl
    have hrec := recovers_nonneg h0 h2
    have hw : writeNum .ascii n = toDec n.toNat := by
      simp [writeNum, show ¬ n < 0 by omega]
    rw [hw]
    exact ⟨_, readAscii_append _ c t' (decGo_digits _ _) hc, Nat.zero_le _, toDec_parse _ hrec.1, hrec⟩
  · by_cases hb : f = .bool
    · subst hb
      have h01 : n = 0 ∨ n = 1 := by
        simpa [fitsNum] using hfit
      rcases h01 with rfl | rfl
      · exact ⟨0, readBool_false t, Nat.zero_le _, rfl, recovers_nonneg (Int.le_refl 0) h2⟩
      · exact ⟨1, readBool_true t, Nat.zero_le _, rfl, recovers_nonneg (by decide) h2⟩
    · obtain ⟨hr, hl, hp⟩ := readNum_fixed f n t hf hb
      exact ⟨_, hr, Nat.le_of_eq hl.symm, hp, recovers_fixed h1 h2 hfit hf hb⟩

/-- The reader's size variables while it reads what the formatter wrote for `r`, once the size verbs `s` are behind:
the lengths of `r`'s fields for those, and still 0 for the others. -/
def szOf (s : Seen) (r : Rec) : Sizes :=
  ⟨if s.t then r.topic.length else 0, if s.k then r.key.length else 0, if s.v then r.value.length else 0,
    if s.h then r.headers.length else 0⟩

theorem szOf_init (r : Rec) : szOf {} r = {} := rfl

theorem szOf_get {s : Seen} {r : Rec} {fld : TextField} (hs : s.has fld = true) :
    (szOf s r).get fld = (textVal r fld).length := by
  cases fld <;> simp only [Seen.has] at hs <;> simp [szOf, Sizes.get, textVal, hs]

/-- range of the Go type behind a numeric verb (what `Spec.C20.RecOK` says field by field) -/
def fldOK (r : Rec) : NumField → Prop
  | .topicLen => r.topic.length < 9223372036854775808
  | .keyLen => r.key.length < 9223372036854775808
  | .valueLen => r.value.length < 9223372036854775808
  | .hdrCount => r.headers.length < 9223372036854775808
  | .partition => -2147483648 ≤ r.partition ∧ r.partition < 2147483648
  | .offset => -9223372036854775808 ≤ r.offset ∧ r.offset < 9223372036854775808
  | .leaderEpoch => -2147483648 ≤ r.leaderEpoch ∧ r.leaderEpoch < 2147483648
  | .timestamp => ∃ ns, r.ts = some ns ∧ -9223372036854775808 ≤ ns ∧ ns < 9223372036854775808
  | .producerId => -9223372036854775808 ≤ r.producerId ∧ r.producerId < 9223372036854775808
  | .producerEpoch => -32768 ≤ r.producerEpoch ∧ r.producerEpoch < 32768

theorem numVal_range {r : Rec} {fld : NumField} (h : fldOK r fld) :
    -half fld ≤ numVal r fld ∧ numVal r fld < half fld := by
  cases fld
  case timestamp =>
    obtain ⟨ns, hns, h1, h2⟩ := h
    simp only [numVal, tsMillis, hns, goDiv, half]
    split <;> omega
  all_goals
    simp only [numVal, fldOK, half] at h ⊢
    omega

theorem assign_ok {r : Rec} {fld : NumField} {d : Nat} (s : Seen) (acc : Rec) (t : Bytes) (dn : Bool) (f : NumFmt)
    (hok : fldOK r fld) (hrec : Recovers fld d (numVal r fld)) :
    assign fld d ⟨acc, szOf s r, t, dn⟩ = ⟨applyF r acc (.num fld f), szOf (s.add fld) r, t, dn⟩ := by
  cases fld
  case topicLen => rw [hrec.len rfl]; rfl
  case keyLen => rw [hrec.len rfl]; rfl
  case valueLen => rw [hrec.len rfl]; rfl
  case hdrCount => rw [hrec.len rfl]; rfl
  case timestamp =>
    obtain ⟨ns, hns, h1, h2⟩ := hok
    have hs : s64 d = goDiv ns 1000000 := by
      simpa only [sField, numVal, tsMillis, hns] using hrec.2
    have hb : -9223372036854775808 ≤ goDiv ns 1000000 * 1000000 ∧ goDiv ns 1000000 * 1000000 < 9223372036854775808 := by
      unfold goDiv; split <;> omega
    have hts : tsOfMillis d = msTrunc ns := by
      rw [tsOfMillis, msTrunc, hs, ← goDiv_eq_tdiv, s64_u64 _ hb.1 hb.2]
    simp only [assign, applyF, hns, hts, Option.map_some]; rfl
  all_goals
    have hs := hrec.2
    simp only [sField, numVal] at hs
    simp only [assign, applyF, hs]; rfl

/-- the per-item hypotheses of the round trip -/
def ItemOK (r : Rec) (it : FItem) : Prop :=
  fitsF r it = true ∧ plainF it = true ∧ nonNegF r it = true
  ∧ (∀ fld f, it = .num fld f → fldOK r fld)
  ∧ (∀ fld e, it = .text fld e → (textVal r fld).length < 9223372036854775808)

/-- the size verbs seen once the item is behind -/
def seenAfter (s : Seen) : FItem → Seen
  | .num fld _ => s.add fld
  | _ => s

/-- What the item needs of its place in the layout are `hseen` (its size verb came before) and `hamb`
(something that is no digit follows an `{ascii}` number). -/
theorem stepFlat_ok {r : Rec} {s : Seen} {t : Bytes} {it : FItem} (acc : Rec) (first last : Bool)
    (hok : ItemOK r it) (hseen : ∀ fld e, it = .text fld e → s.has fld = true)
    (hamb : ∀ fld, it = .num fld .ascii → ∃ c t', t = c :: t' ∧ isDigit c = false) :
    stepFlat first last it ⟨acc, szOf s r, fmtFItem r it ++ t, false⟩
      = .ok ⟨applyF r acc it, szOf (seenAfter s it) r, t, false⟩ := by
  obtain ⟨hfit, hplain, hnn, hfld, htxt⟩ := hok
  cases it with
  | lit d => simp [stepFlat, fmtFItem, readExact_append, finishRead, applyF, seenAfter]
  | num fld f =>
    obtain ⟨h1, h2⟩ := numVal_range (hfld fld f rfl)
    obtain ⟨d, hrd, hlen, hparse, hrec⟩ := readNum_ok t h1 h2 hfit
      (fun hf => ⟨by simpa [hf, nonNegF] using hnn, hamb fld (by rw [hf])⟩)
    simp only [stepFlat, fmtFItem, hrd, stepNum, finishRead, decide_eq_false (Nat.not_lt.mpr hlen), Bool.and_false,
      Bool.false_eq_true, if_false, hparse, assign_ok s acc t false f (hfld fld f rfl) hrec, seenAfter]
  | text fld e =>
    have he : e = .plain := by simpa [plainF] using hplain
    subst he
    have hsz := szOf_get (r := r) (hseen fld .plain rfl)
    have hn : ¬ ((szOf s r).get fld ≥ 9223372036854775808) := by
      have := htxt fld .plain rfl
      omega
    simp only [stepFlat, fmtFItem, encode, readText, hn, if_false, readSize_append _ _ _ hsz, stepText, finishRead, decode]
    cases fld <;> rfl

theorem fmtF_cons (it : FItem) (rest : List FItem) (r : Rec) : fmtF (it :: rest) r = fmtFItem r it ++ fmtF rest r := by
  simp [fmtF]

theorem unambF_cons (r : Rec) (t : Bytes) {it : FItem} {rest : List FItem} (h : unambF (it :: rest) = true) :
    unambF rest = true ∧ ∀ fld, it = .num fld .ascii → ∃ c t', fmtF rest r ++ t = c :: t' ∧ isDigit c = false := by
  by_cases hit : ∃ fld, it = .num fld .ascii
  · obtain ⟨fld, rfl⟩ := hit
    unfold unambF at h
    rw [Bool.and_eq_true] at h
    refine ⟨h.2, fun _ _ => ?_⟩
    have h1 := h.1
    split at h1
    · rw [Bool.and_eq_true, Bool.not_eq_true'] at h1
      exact ⟨_, _, rfl, h1.1⟩
    · cases h1
  · rw [unambF] at h
    · exact ⟨h, fun fld hf => (hit ⟨fld, hf⟩).elim⟩
    · exact fun fld hf => hit ⟨fld, hf⟩

/-- inner layouts only mention `%K %V %k %v` -/
def innerItem : FItem → Prop
  | .lit _ => True
  | .num fld _ => fld = .keyLen ∨ fld = .valueLen
  | .text fld _ => fld = .key ∨ fld = .value

theorem wfF_cons {inHdr : Bool} {s : Seen} {pl : Bool} {it : FItem} {rest : List FItem}
    (h : wfF inHdr s pl (it :: rest) = true) :
    (∀ fld e, it = .text fld e → s.has fld = true) ∧ (inHdr = true → innerItem it)
      ∧ ∃ pl', wfF inHdr (seenAfter s it) pl' rest = true := by
  cases it <;> simp only [wfF, Bool.and_eq_true] at h
  · exact ⟨nofun, fun _ => trivial, _, h.2⟩
  · exact ⟨nofun, fun hi => by simpa [innerItem, hi] using h.1.2, _, h.2⟩
  · exact ⟨fun fld e he => by cases he; exact h.1.1, fun hi => by simpa [innerItem, hi] using h.1.2, _, h.2⟩

theorem nextF_ok {r : Rec} {inHdr : Bool} {items : List FItem} :
    ∀ {s : Seen} {pl : Bool} (acc : Rec) (t : Bytes) (first : Bool),
    wfF inHdr s pl items = true → unambF items = true → (∀ it ∈ items, ItemOK r it) →
    ∃ sz', nextF first items ⟨acc, szOf s r, fmtF items r ++ t, false⟩ = .ok ⟨restrictF items r acc, sz', t, false⟩ := by
  induction items with
  | nil => intro s pl acc t first _ _ _; exact ⟨szOf s r, by simp [nextF, fmtF, restrictF]⟩
  | cons it rest ih =>
    intro s pl acc t first hwf hun hok
    obtain ⟨hit, hokr⟩ := List.forall_mem_cons.1 hok
    obtain ⟨hseen, -, pl', hwf'⟩ := wfF_cons hwf
    obtain ⟨hun', hamb⟩ := unambF_cons r t hun
    obtain ⟨sz', h⟩ := ih (applyF r acc it) t false hwf' hun' hokr
    refine ⟨sz', ?_⟩
    simp only [nextF, fmtF_cons, List.append_assoc, stepFlat_ok acc first rest.isEmpty hit hseen hamb]
    simpa [restrictF] using h

theorem wfF_inner (items : List FItem) : ∀ (s : Seen) (pl : Bool), wfF true s pl items = true → ∀ it ∈ items, innerItem it := by
  induction items with
  | nil => intro _ _ _ it h; simp at h
  | cons x rest ih =>
    intro s pl hwf it hit
    obtain ⟨-, hx, pl', hwf'⟩ := wfF_cons hwf
    rcases List.mem_cons.1 hit with rfl | h
    · exact hx rfl
    · exact ih _ _ hwf' it h

/-- what an item of an inner layout does to the key and value of the record being filled -/
def applyKV (r' : Rec) (kv : Bytes × Bytes) : FItem → Bytes × Bytes
  | .text .key _ => (r'.key, kv.2)
  | .text .value _ => (kv.1, r'.value)
  | _ => kv

theorem applyF_inner (r' acc : Rec) (x : FItem) (hx : innerItem x) :
    applyF r' acc x = { acc with key := (applyKV r' (acc.key, acc.value) x).1,
                                 value := (applyKV r' (acc.key, acc.value) x).2 } := by
  cases x with
  | lit d => rfl
  | num fld f => rcases hx with h | h <;> subst h <;> rfl
  | text fld e => rcases hx with h | h <;> subst h <;> rfl

theorem restrictF_inner (r' : Rec) (items : List FItem) (hin : ∀ it ∈ items, innerItem it) (acc : Rec) :
    restrictF items r' acc = { acc with key := (items.foldl (applyKV r') (acc.key, acc.value)).1,
                                        value := (items.foldl (applyKV r') (acc.key, acc.value)).2 } := by
  induction items generalizing acc with
  | nil => rfl
  | cons x rest ih =>
    have hx := applyF_inner r' acc x (hin x (List.mem_cons_self ..))
    have := ih (fun it h => hin it (List.mem_cons_of_mem _ h)) (applyF r' acc x)
    simp only [restrictF, List.foldl_cons] at this ⊢
    rw [this, hx]

theorem restrictF_hdr (inner : List FItem) (hin : ∀ it ∈ inner, innerItem it) (h : Hdr) (acc : Rec) :
    restrictF inner (hdrRec h) { acc with key := [], value := [] }
      = { acc with key := (restrictHdr inner h).key, value := (restrictHdr inner h).value } := by
  rw [restrictHdr, restrictF_inner _ _ hin, restrictF_inner _ _ hin]

theorem readHeaders_ok {inner : List FItem} (t : Bytes) (hwf : wfInner inner = true) (hun : unambF inner = true) {hs : List Hdr} :
    ∀ (acc : Rec) (sz : Sizes), (∀ h ∈ hs, ∀ it ∈ inner, ItemOK (hdrRec h) it) →
    ∃ k v, readHeaders inner hs.length ⟨acc, sz, hs.flatMap (fun h => fmtF inner (hdrRec h)) ++ t, false⟩
      = (⟨{ acc with key := k, value := v, headers := acc.headers ++ hs.map (restrictHdr inner) }, sz, t, false⟩, none) := by
  simp only [wfInner, Bool.and_eq_true] at hwf
  induction hs with
  | nil => intro acc sz _; exact ⟨acc.key, acc.value, by simp [readHeaders]⟩
  | cons h rest ih =>
    intro acc sz hok
    obtain ⟨hh, hokr⟩ := List.forall_mem_cons.1 hok
    obtain ⟨sz', hnext⟩ := nextF_ok { acc with key := [], value := [] }
      (rest.flatMap (fun h => fmtF inner (hdrRec h)) ++ t) true hwf.2 hun hh
    rw [szOf_init, restrictF_hdr inner (wfF_inner inner {} false hwf.2)] at hnext
    obtain ⟨k, v, hrest⟩ := ih
      { acc with key := (restrictHdr inner h).key, value := (restrictHdr inner h).value,
                 headers := acc.headers ++ [restrictHdr inner h] } sz hokr
    refine ⟨k, v, ?_⟩
    simp only [List.length_cons, readHeaders, List.flatMap_cons, List.append_assoc, hnext, hrest]
    simp

theorem format_cons (it : Item) (rest : Layout) (r : Rec) : format (it :: rest) r = fmtItem r it ++ format rest r := by
  simp [format]

theorem unambL_flat (r : Rec) (t : Bytes) {it : FItem} {rest : Layout} (h : unambL (.flat it :: rest) = true) :
    unambL rest = true ∧ ∀ fld, it = .num fld .ascii → ∃ c t', format rest r ++ t = c :: t' ∧ isDigit c = false := by
  by_cases hit : ∃ fld, it = .num fld .ascii
  · obtain ⟨fld, rfl⟩ := hit
    unfold unambL at h
    rw [Bool.and_eq_true] at h
    refine ⟨h.2, fun _ _ => ?_⟩
    have h1 := h.1
    split at h1
    · rw [Bool.and_eq_true, Bool.not_eq_true'] at h1
      exact ⟨_, _, rfl, h1.1⟩
    · cases h1
  · rw [unambL] at h
    · exact ⟨h, fun fld hf => (hit ⟨fld, hf⟩).elim⟩
    · exact fun fld hf => hit ⟨fld, Item.flat.inj hf⟩
    · nofun

theorem wfL_flat {s : Seen} {pl hb : Bool} {it : FItem} {rest : Layout} (h : wfL s pl hb (.flat it :: rest) = true) :
    (∀ fld e, it = .text fld e → s.has fld = true) ∧ ∃ pl', wfL (seenAfter s it) pl' hb rest = true := by
  cases it <;> simp only [wfL, Bool.and_eq_true] at h
  · exact ⟨nofun, _, h.2⟩
  · exact ⟨nofun, _, h.2⟩
  · exact ⟨fun fld e he => by cases he; exact h.1, _, h.2⟩

/-- the per-item hypotheses for an item of a layout; those of a header block are about each header and each
item of the inner layout, which is well formed -/
def ItemOKI (r : Rec) : Item → Prop
  | .flat i => ItemOK r i
  | .hdrs inner => wfInner inner = true → ∀ h ∈ r.headers, ∀ it ∈ inner, ItemOK (hdrRec h) it

theorem next_ok {r : Rec} {L : Layout} :
    ∀ {s : Seen} {pl hb : Bool} (acc : Rec) (t : Bytes) (first : Bool),
    wfL s pl hb L = true → unambL L = true → (∀ it ∈ L, ItemOKI r it) →
    ∃ sz', next first L ⟨acc, szOf s r, format L r ++ t, false⟩ = .ok ⟨restrictFrom L r acc, sz', t, false⟩ := by
  induction L with
  | nil => intro s pl hb acc t first _ _ _; exact ⟨szOf s r, by simp [next, format, restrictFrom]⟩
  | cons it rest ih =>
    intro s pl hb acc t first hwf hun hok
    obtain ⟨hit, hokr⟩ := List.forall_mem_cons.1 hok
    cases it with
    | hdrs inner =>
      simp only [wfL, Bool.and_eq_true] at hwf
      simp only [unambL, Bool.and_eq_true] at hun
      have hsz : (szOf s r).h = r.headers.length := if_pos hwf.1.1.1
      obtain ⟨k, v, hrd⟩ := readHeaders_ok (format rest r ++ t) hwf.1.2 hun.1 acc (szOf s r) (hit hwf.1.2)
      obtain ⟨sz', h⟩ := ih (applyI r acc (.hdrs inner)) t false hwf.2 hun.2 hokr
      refine ⟨sz', ?_⟩
      simp only [next, format_cons, fmtItem, List.append_assoc, step, hsz, hrd, finishRead]
      simpa [restrictFrom, applyI] using h
    | flat i =>
      obtain ⟨hseen, pl', hwf'⟩ := wfL_flat hwf
      obtain ⟨hun', hamb⟩ := unambL_flat r t hun
      obtain ⟨sz', h⟩ := ih (applyF r acc i) t false hwf' hun' hokr
      refine ⟨sz', ?_⟩
      simp only [next, format_cons, fmtItem, List.append_assoc, step, stepFlat_ok acc first rest.isEmpty hit hseen hamb]
      simpa [restrictFrom, applyI] using h

theorem recOK_fld (r : Rec) (h : RecOK r = true) : (∀ fld, fldOK r fld) ∧ (∀ fld, (textVal r fld).length < 9223372036854775808)
    ∧ (∀ hd ∈ r.headers, hd.key.length < 9223372036854775808 ∧ hd.value.length < 9223372036854775808) := by
  simp only [RecOK, lenOK, Bool.and_eq_true, decide_eq_true_eq, List.all_eq_true] at h
  refine ⟨fun fld => ?_, fun fld => ?_, h.2⟩
  · cases fld <;> simp only [fldOK] <;> try omega
    cases hr : r.ts with
    | none => simp [hr] at h
    | some ns =>
      simp only [hr, Bool.and_eq_true, decide_eq_true_eq] at h
      exact ⟨ns, rfl, by omega, by omega⟩
  · cases fld <;> simp only [textVal] <;> omega

theorem itemOK_of_hyps (L : Layout) (r : Rec) (hr : RecOK r = true)
    (hfit : Fits L r = true) (hpl : PlainText L = true) (hnn : NonNegAscii L r = true) :
    ∀ it ∈ L, ItemOKI r it := by
  obtain ⟨hfld, htxt, hhd⟩ := recOK_fld r hr
  simp only [Fits, PlainText, NonNegAscii, List.all_eq_true] at hfit hpl hnn
  intro it hit
  have f1 := hfit it hit
  have f2 := hpl it hit
  have f3 := hnn it hit
  cases it with
  | flat i =>
    exact ⟨f1, f2, f3, fun fld _ _ => hfld fld, fun fld _ _ => htxt fld⟩
  | hdrs inner =>
    intro hwi h hh it' hit'
    simp only [wfInner, Bool.and_eq_true] at hwi
    have hin := wfF_inner inner {} false hwi.2 it' hit'
    simp only [fitsI, plainI, nonNegI, List.all_eq_true] at f1 f2 f3
    obtain ⟨lk, lv⟩ := hhd h hh
    refine ⟨f1 h hh it' hit', f2 it' hit', f3 h hh it' hit', ?_, ?_⟩
    · rintro fld f rfl
      rcases hin with h1 | h1 <;> subst h1 <;> simpa [fldOK, hdrRec]
    · rintro fld e rfl
      rcases hin with h1 | h1 <;> subst h1 <;> simpa [textVal, hdrRec]

end Proof.C20
