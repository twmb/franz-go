import FranzVerif.Spec.C17
import FranzVerif.Proof.WireFacts
/-! C17 — from `BitVec` to `Nat`: what the shift, mask, or and truncation expressions of the Go code compute
when the operands do not overlap (`|` of disjoint bits is `+`, `<<` without overflow is `*`), stated on `toNat`. -/
namespace Proof.C17
open Spec.C17 (byte)

theorem nl1 (n : Nat) : (n + 1 < 1) = False := by simp
theorem nl6 (n : Nat) : (n + 1 + 1 + 1 + 1 + 1 + 1 < 6) = False := by simp
theorem nl7 (n : Nat) : (n + 1 + 1 + 1 + 1 + 1 + 1 + 1 < 7) = False := by simp
theorem nl8 (n : Nat) : (n + 1 + 1 + 1 + 1 + 1 + 1 + 1 + 1 < 8) = False := by simp
theorem nl9 (n : Nat) : (n + 1 + 1 + 1 + 1 + 1 + 1 + 1 + 1 + 1 < 9) = False := by simp
theorem nl10 (n : Nat) : (n + 1 + 1 + 1 + 1 + 1 + 1 + 1 + 1 + 1 + 1 < 10) = False := by simp

theorem shl_toNat {w : Nat} (x : BitVec w) (k n : Nat) (hx : x.toNat < 2 ^ n) (hk : k + n ≤ w) :
    (x <<< k).toNat = x.toNat * 2 ^ k := by
  rw [BitVec.toNat_shiftLeft, Nat.shiftLeft_eq]
  apply Nat.mod_eq_of_lt
  calc x.toNat * 2 ^ k < 2 ^ n * 2 ^ k := Nat.mul_lt_mul_of_pos_right hx (Nat.two_pow_pos k)
    _ = 2 ^ (n + k) := (Nat.pow_add 2 n k).symm
    _ ≤ 2 ^ w := Nat.pow_le_pow_right (by decide) (by omega)

theorem or_shl {w : Nat} (acc x : BitVec w) (k n : Nat) (hx : x.toNat < 2 ^ n) (hk : k + n ≤ w)
    (h : acc.toNat < 2 ^ k) : (acc ||| x <<< k).toNat = acc.toNat + x.toNat * 2 ^ k := by
  rw [BitVec.toNat_or, shl_toNat x k n hx hk, ← Wire.or_shl _ _ k h, Nat.shiftLeft_eq]

theorem setw_toNat {w : Nat} (b : BitVec 8) (n : Nat) (hb : b.toNat < 2 ^ n) (hn : n ≤ w) : (b.setWidth w).toNat = b.toNat := by
  rw [BitVec.toNat_setWidth]
  exact Nat.mod_eq_of_lt (Nat.lt_of_lt_of_le hb (Nat.pow_le_pow_right (by decide) hn))

theorem mask7_toNat {w : Nat} (hw : 7 ≤ w) (b : BitVec 8) : ((b &&& 0x7f#8).setWidth w).toNat = b.toNat % 128 := by
  have e : (b &&& 0x7f#8).toNat = b.toNat % 128 := by rw [BitVec.toNat_and]; exact Nat.and_two_pow_sub_one_eq_mod _ 7
  rw [setw_toNat _ 7 (by rw [e]; exact Nat.mod_lt _ (by decide)) hw, e]

/-- one accumulation step of the unrolled decoders: `x |= uintW(b&0x7f) << k` -/
theorem or_lo {w : Nat} (acc : BitVec w) (b : BitVec 8) (k : Nat) (hk : k + 7 ≤ w) (h : acc.toNat < 2 ^ k) :
    (acc ||| ((b &&& 0x7f#8).setWidth w) <<< k).toNat = acc.toNat + (b.toNat % 128) * 2 ^ k := by
  have e := mask7_toNat (w := w) (by omega) b
  rw [or_shl acc _ k 7 (by rw [e]; exact Nat.mod_lt _ (by decide)) hk h, e]

/-- `x |= uintW(b) << k` with `b` small enough to fit -/
theorem or_up {w : Nat} (acc : BitVec w) (b : BitVec 8) (k n : Nat) (hb : b.toNat < 2 ^ n) (hk : k + n ≤ w)
    (h : acc.toNat < 2 ^ k) : (acc ||| (b.setWidth w) <<< k).toNat = acc.toNat + b.toNat * 2 ^ k := by
  have e := setw_toNat (w := w) b n hb (by omega)
  rw [or_shl acc _ k n (by rw [e]; exact hb) hk h, e]

/-- `byte(u >> k)` -/
theorem shr_setw8 {w : Nat} (u : BitVec w) (k : Nat) : (u >>> k).setWidth 8 = byte (u.toNat / 2 ^ k) := by
  apply BitVec.eq_of_toNat_eq; simp [byte, Nat.shiftRight_eq_div_pow]

theorem setw8_eq {w : Nat} (u : BitVec w) : u.setWidth 8 = byte u.toNat := by
  apply BitVec.eq_of_toNat_eq; simp [byte]

end Proof.C17
