import FranzVerif.Model.C12
import FranzVerif.Spec.C12
import FranzVerif.Proof.ListFacts
/-! C12 — three independent pieces, in this order.
`tryAck` as a transition system of threads doing Load / CAS on one status word: `Inv` (the number of calls that returned `true`
for a final status is 1 if the status is final and 0 otherwise; a thread only ever holds 0 or 4 as loaded value) is kept by every
action (`inv_step`).
`buildAckRanges`: the output is the reversed fold of `coalesceRev` over `interleave (emitted …) (mergeGaps …)` (`build_fst`,
`entryLoop_eq`), so ordering and coverage are facts about one `coalesceRev` step on a reversed ascending slice (`ascRev_coalesce`,
`cov_coalesceRev`) and about the list that is fed (`interleave_ascList`, `interleave_perm`).
`filterStaleEntries`: both drain loops are `List.filter` by `deliverable` (`filterEntries_eq`, `filterGaps_eq`). -/
namespace Proof.C12
open Model.C12 Spec.C12

/-- Invariant of the per-record ack state under any interleaving. `loaded`: a thread that has loaded and not yet tried its CAS holds 0
or 4 (a final status makes the call return at the load); `count` / `winner`: the status is final iff exactly one call has returned
`true` with a final status, and then it is that call's status. -/
structure Inv (s : TSt) : Prop where
  dom : s.status = 0 ∨ s.status = 1 ∨ s.status = 2 ∨ s.status = 3 ∨ s.status = 4
  valid : ∀ t ∈ s.threads, validStatus t.status = true
  loaded : ∀ t ∈ s.threads, ∀ cur, t.pc = .loaded cur → (cur = 0 ∨ cur = 4) ∧ t.strict = false ∧ t.status ≠ 4
  count : termWinners s = if isTerminal s.status then 1 else 0
  winner : ∀ t ∈ s.threads, isTermWinner t = true → s.status = t.status

theorem isTerminal_iff (x : Int) : isTerminal x = true ↔ x = 1 ∨ x = 2 ∨ x = 3 := by
  simp [isTerminal, or_assoc]

theorem validStatus_iff (x : Int) : validStatus x = true ↔ x = 1 ∨ x = 2 ∨ x = 3 ∨ x = 4 := by
  simp [validStatus, or_assoc]

theorem threadStep_cases {sh sh' : Int} {t : Thread} {pc' : PC} (h : threadStep sh t = some (sh', pc'))
    (hl : ∀ cur, t.pc = .loaded cur → cur = 0 ∨ cur = 4) :
    t.pc ≠ .done true ∧
    ((sh' = sh ∧ pc' ≠ .done true ∧
        ∀ cur, pc' = .loaded cur → (cur = 0 ∨ cur = 4) ∧ t.strict = false ∧ t.status ≠ 4) ∨
     (sh' = t.status ∧ pc' = .done true ∧ (sh = 0 ∨ sh = 4))) := by
  revert h
  fun_cases threadStep sh t <;> intro h <;> cases h
  -- the strict / renew CAS from 0 succeeds
  case case1 hpc _ h0 => exact ⟨hpc ▸ nofun, Or.inr ⟨rfl, rfl, Or.inl h0⟩⟩
  -- the terminal loop loads 0 or 4
  case case4 hpc hsr h04 =>
    refine ⟨hpc ▸ nofun, Or.inl ⟨rfl, nofun, fun cur hc => ?_⟩⟩
    cases hc
    simp only [Bool.or_eq_true, beq_iff_eq, not_or, Bool.not_eq_true] at hsr
    exact ⟨by omega, hsr⟩
  -- the CAS of the terminal loop succeeds
  case case5 hpc => exact ⟨hpc ▸ nofun, Or.inr ⟨rfl, rfl, hl sh hpc⟩⟩
  -- a failed CAS, or a load of a final status: the call returns `false` or starts over
  all_goals exact ⟨‹t.pc = _› ▸ nofun, Or.inl ⟨rfl, nofun, nofun⟩⟩

theorem inv_init : Inv ({} : TSt) := by
  refine ⟨by simp, by simp, by simp, by simp [termWinners, isTerminal], by simp⟩

theorem not_winner_of_pc {t : Thread} (h : t.pc ≠ .done true) : isTermWinner t = false := by
  rw [isTermWinner, beq_eq_false_iff_ne.2 h, Bool.false_and]

/-- What an enabled action does: a valid caller joins, the renew reset, or one shared-memory operation of thread `i`. -/
theorem tstep_cases {s s' : TSt} {a : Act} (h : tstep s a = some s') :
    (∃ st strict, a = .spawn st strict ∧ validStatus st = true ∧ s' = { s with threads := s.threads ++ [⟨st, strict, .start⟩] }) ∨
    (a = .reset ∧ s' = { s with status := if s.status = 4 then 0 else s.status }) ∨
    ∃ i t sh pc, a = .step i ∧ s.threads[i]? = some t ∧ threadStep s.status t = some (sh, pc) ∧
      s' = ⟨sh, s.threads.set i { t with pc := pc }⟩ := by
  revert h
  fun_cases tstep s a <;> intro h <;> cases h
  case case1 st strict hv => exact .inl ⟨st, strict, rfl, hv, rfl⟩
  case case3 => exact .inr (.inl ⟨rfl, rfl⟩)
  case case6 i t hti sh pc hts => exact .inr (.inr ⟨i, t, sh, pc, rfl, hti, hts, rfl⟩)

theorem inv_step {s s' : TSt} (a : Act) (hinv : Inv s) (h : tstep s a = some s') : Inv s' := by
  obtain ⟨hdom, hvalid, hloaded, hcount, hwin⟩ := hinv
  rcases tstep_cases h with ⟨st, strict, -, hv, rfl⟩ | ⟨-, rfl⟩ | ⟨i, t, sh, pc, -, hti, hts, rfl⟩
  · have hnw : isTermWinner ⟨st, strict, .start⟩ = false := rfl
    refine ⟨hdom, List.forall_mem_append.2 ⟨hvalid, List.forall_mem_singleton.2 hv⟩,
      List.forall_mem_append.2 ⟨hloaded, List.forall_mem_singleton.2 nofun⟩, ?_,
      List.forall_mem_append.2 ⟨hwin, List.forall_mem_singleton.2 (fun hw => by rw [hnw] at hw; cases hw)⟩⟩
    rw [← hcount, termWinners, List.countP_append, List.countP_singleton, hnw]
    rfl
  · by_cases h4 : s.status = 4
    · -- a renewed status is not final: nobody has won, and nobody has after the reset to 0
      have hc : termWinners s = 0 := by rw [hcount, h4]; rfl
      refine ⟨Or.inl (if_pos h4), hvalid, hloaded, hc.trans (by rw [if_pos h4]; rfl), fun t htm hw => ?_⟩
      exact absurd hw (List.countP_eq_zero.1 hc t htm)
    · simp only [if_neg h4]
      exact ⟨hdom, hvalid, hloaded, hcount, hwin⟩
  · have htm := List.mem_of_getElem? hti
    have hv := hvalid t htm
    obtain ⟨hnd, hcase⟩ := threadStep_cases hts (fun cur hc => (hloaded t htm cur hc).1)
    have hcnt : termWinners ⟨sh, s.threads.set i { t with pc := pc }⟩ =
        termWinners s + if isTermWinner { t with pc := pc } then 1 else 0 := by
      obtain ⟨hlt, hget⟩ := List.getElem?_eq_some_iff.1 hti
      rw [termWinners, List.countP_set hlt, hget, not_winner_of_pc hnd]
      rfl
    rcases hcase with ⟨rfl, hpc, hld⟩ | ⟨rfl, rfl, h04⟩
    · -- the status stays and the thread does not return `true`
      have hnw : isTermWinner { t with pc := pc } = false := not_winner_of_pc hpc
      refine ⟨hdom, List.forall_mem_set hvalid hv, List.forall_mem_set hloaded hld, ?_,
        List.forall_mem_set hwin (fun hw => by rw [hnw] at hw; cases hw)⟩
      rw [hcnt, hnw, hcount]; rfl
    · -- a successful CAS from 0 or 4: nobody has won before, this thread wins if its status is final
      have hc0 : termWinners s = 0 := by rw [hcount]; rcases h04 with h | h <;> rw [h] <;> rfl
      have hnone : ∀ x ∈ s.threads, isTermWinner x = true → t.status = x.status :=
        fun x hx hw => absurd hw (List.countP_eq_zero.1 hc0 x hx)
      refine ⟨Or.inr ((validStatus_iff _).1 hv), List.forall_mem_set hvalid hv,
        List.forall_mem_set hloaded nofun, ?_, List.forall_mem_set hnone (fun _ => rfl)⟩
      rw [hcnt, hc0, isTermWinner]
      cases isTerminal t.status <;> rfl

theorem inv_reachable {s : TSt} (h : Reachable s) : Inv s := by
  induction h with
  | init => exact inv_init
  | step a _ hs ih => exact inv_step a ih hs

theorem reachable_of_run {s s' : TSt} {as : List Act} (hs : Reachable s) (h : runActs s as = some s') : Reachable s' := by
  induction as generalizing s with
  | nil => cases h; exact hs
  | cons a as ih =>
    simp only [runActs] at h
    split at h
    · cases h
    · rename_i s1 hst
      exact ih (Reachable.step a hs hst) h

theorem wins_eq (l : List Thread) :
    (returnedOf l).filter (fun c => c.2 && isTerminal c.1) = (l.filter isTermWinner).map (fun t => (t.status, true)) := by
  rw [returnedOf, List.filter_filterMap, ← List.filterMap_eq_map', List.filterMap_filter]
  congr 1
  funext t
  rw [isTermWinner]
  cases t.pc with
  | done ok => cases ok <;> simp [Option.filter]
  | _ => rfl

theorem mem_cov {rs : List Range} {o t : Int} :
    t ∈ cov rs o ↔ ∃ r ∈ rs, r.first ≤ o ∧ o ≤ r.last ∧ r.ty = t := by
  simp [cov, contains, and_assoc]

theorem mem_cov_cons {r : Range} {rs : List Range} {o t : Int} :
    t ∈ cov (r :: rs) o ↔ ((r.first ≤ o ∧ o ≤ r.last) ∧ r.ty = t) ∨ t ∈ cov rs o := by
  simp [mem_cov, and_assoc]

theorem cov_cons (r : Range) (rs : List Range) (o : Int) :
    cov (r :: rs) o = (if contains r o then [r.ty] else []) ++ cov rs o := by
  simp only [cov, List.filter_cons]
  split <;> simp

theorem cov_append (a b : List Range) (o : Int) : cov (a ++ b) o = cov a o ++ cov b o := by
  simp [cov]

theorem cov_perm {a b : List Range} (h : a.Perm b) (o : Int) : (cov a o).Perm (cov b o) :=
  (h.filter _).map _

theorem cov_reverse (a : List Range) (o : Int) : cov a.reverse o = (cov a o).reverse := by
  simp [cov, List.filter_reverse]

theorem coalesceRev_cases (acc : List Range) (r : Range) :
    coalesceRev acc r = r :: acc ∨
    ∃ last rest, acc = last :: rest ∧ last.ty = r.ty ∧ last.last + 1 = r.first ∧
      coalesceRev acc r = { last with last := r.last } :: rest := by
  fun_cases coalesceRev acc r
  case case1 last rest h => exact Or.inr ⟨last, rest, rfl, h.1, h.2.2.2, rfl⟩
  all_goals exact Or.inl rfl

theorem cov_coalesceRev (acc : List Range) (r : Range) (o : Int) (hacc : ∀ x ∈ acc, x.first ≤ x.last)
    (hr : r.first ≤ r.last) : cov (coalesceRev acc r) o = cov (r :: acc) o := by
  rcases coalesceRev_cases acc r with h | ⟨last, rest, rfl, hty, hadj, h⟩ <;> rw [h]
  -- `o` lies in `last` or in `r`, not in both, and exactly then in the extended range
  have hl := hacc last List.mem_cons_self
  simp only [cov_cons, contains, hty]
  by_cases ho : o ≤ last.last
  · have ⟨h1, h2⟩ : ¬ r.first ≤ o ∧ o ≤ r.last := by omega
    simp only [ho, h1, h2, decide_true, decide_false, Bool.and_true, Bool.false_eq_true, ↓reduceIte,
      List.nil_append]
  · have ⟨h1, h2⟩ : r.first ≤ o ∧ last.first ≤ o := by omega
    simp only [ho, h1, h2, decide_true, decide_false, Bool.and_false, Bool.false_eq_true, ↓reduceIte,
      List.nil_append]

theorem wf_coalesceRev (acc : List Range) (r : Range) (hacc : ∀ x ∈ acc, x.first ≤ x.last) (hr : r.first ≤ r.last) :
    ∀ x ∈ coalesceRev acc r, x.first ≤ x.last := by
  rcases coalesceRev_cases acc r with h | ⟨last, rest, rfl, _, hadj, h⟩ <;> rw [h]
  · exact List.forall_mem_cons.2 ⟨hr, hacc⟩
  · obtain ⟨hl, hrest⟩ := List.forall_mem_cons.1 hacc
    exact List.forall_mem_cons.2 ⟨by dsimp only; omega, hrest⟩

theorem wf_foldl (rs acc : List Range) (hacc : ∀ x ∈ acc, x.first ≤ x.last) (hrs : ∀ x ∈ rs, x.first ≤ x.last) :
    ∀ x ∈ rs.foldl coalesceRev acc, x.first ≤ x.last := by
  induction rs generalizing acc with
  | nil => exact hacc
  | cons r rs ih =>
    obtain ⟨hr, hrs'⟩ := List.forall_mem_cons.1 hrs
    exact ih _ (wf_coalesceRev acc r hacc hr) hrs'

theorem cov_foldl (rs acc : List Range) (o : Int) (hacc : ∀ x ∈ acc, x.first ≤ x.last) (hrs : ∀ x ∈ rs, x.first ≤ x.last) :
    cov (rs.foldl coalesceRev acc) o = cov rs.reverse o ++ cov acc o := by
  induction rs generalizing acc with
  | nil => rfl
  | cons r rs ih =>
    obtain ⟨hr, hrs'⟩ := List.forall_mem_cons.1 hrs
    rw [List.foldl_cons, ih _ (wf_coalesceRev acc r hacc hr) hrs', cov_coalesceRev acc r o hacc hr,
      List.reverse_cons, cov_append, List.append_assoc]
    exact congrArg _ (cov_append [r] acc o)

/-- Ascending and non-overlapping, on the reversed slice. -/
def AscRev (acc : List Range) : Prop := acc.Pairwise (fun a b => b.last < a.first) ∧ ∀ x ∈ acc, x.first ≤ x.last

def AscList (rs : List Range) : Prop := rs.Pairwise (fun a b => a.last < b.first) ∧ ∀ x ∈ rs, x.first ≤ x.last

theorem ascending_iff (l : List Range) : ascending l = true ↔ AscList l := by
  induction l with
  | nil => simp [ascending, AscList]
  | cons r rs ih =>
    simp only [ascending, Bool.and_eq_true, decide_eq_true_eq, List.all_eq_true, ih, AscList, List.pairwise_cons,
      List.mem_cons, forall_eq_or_imp]
    constructor
    · rintro ⟨⟨h1, h2⟩, h3, h4⟩; exact ⟨⟨h2, h3⟩, h1, h4⟩
    · rintro ⟨⟨h2, h3⟩, h1, h4⟩; exact ⟨⟨h1, h2⟩, h3, h4⟩

theorem ascList_reverse (l : List Range) : AscList l.reverse ↔ AscRev l := by
  simp [AscList, AscRev, List.pairwise_reverse]

theorem AscList.tail {r : Range} {rs : List Range} (h : AscList (r :: rs)) : AscList rs :=
  ⟨(List.pairwise_cons.1 h.1).2, (List.forall_mem_cons.1 h.2).2⟩

theorem ascRev_coalesce (acc : List Range) (r : Range) (h : AscRev acc) (hr : r.first ≤ r.last)
    (hlt : ∀ x ∈ acc, x.last < r.first) :
    AscRev (coalesceRev acc r) ∧ ∀ x ∈ coalesceRev acc r, x.last ≤ r.last := by
  obtain ⟨hp, hw⟩ := h
  rcases coalesceRev_cases acc r with h | ⟨last, rest, rfl, _, hadj, h⟩ <;> rw [h]
  · refine ⟨⟨List.pairwise_cons.2 ⟨hlt, hp⟩, List.forall_mem_cons.2 ⟨hr, hw⟩⟩, List.forall_mem_cons.2 ⟨Int.le_refl _, ?_⟩⟩
    intro x hx
    have := hlt x hx
    omega
  · obtain ⟨hp1, hp2⟩ := List.pairwise_cons.1 hp
    obtain ⟨hwl, hwr⟩ := List.forall_mem_cons.1 hw
    refine ⟨⟨List.pairwise_cons.2 ⟨hp1, hp2⟩, List.forall_mem_cons.2 ⟨by dsimp only; omega, hwr⟩⟩,
      List.forall_mem_cons.2 ⟨Int.le_refl _, ?_⟩⟩
    intro x hx
    have := hp1 x hx
    omega

theorem ascRev_foldl (rs acc : List Range) (h : AscRev acc) (hrs : AscList rs)
    (hlt : ∀ x ∈ acc, ∀ r ∈ rs, x.last < r.first) : AscRev (rs.foldl coalesceRev acc) := by
  induction rs generalizing acc with
  | nil => exact h
  | cons r rs ih =>
    obtain ⟨hr1, _⟩ := List.pairwise_cons.1 hrs.1
    obtain ⟨h', hb⟩ := ascRev_coalesce acc r h (hrs.2 r List.mem_cons_self) (fun x hx => hlt x hx r List.mem_cons_self)
    refine ih _ h' hrs.tail (fun x hx r' hr' => ?_)
    have := hb x hx
    have := hr1 r' hr'
    omega

/-! `coalesceRev` looks at the head only. -/

theorem coalesceRev_append (p acc : List Range) (r : Range) (hp : p ≠ []) :
    coalesceRev (p ++ acc) r = coalesceRev p r ++ acc := by
  cases p with
  | nil => exact absurd rfl hp
  | cons a t =>
    simp only [List.cons_append, coalesceRev]
    split <;> rfl

theorem coalesceRev_ne_nil (acc : List Range) (r : Range) : coalesceRev acc r ≠ [] := by
  rcases coalesceRev_cases acc r with h | ⟨_, _, _, _, _, h⟩ <;> simp [h]

theorem foldl_coalesceRev_append (rs p acc : List Range) (hp : p ≠ []) :
    rs.foldl coalesceRev (p ++ acc) = rs.foldl coalesceRev p ++ acc := by
  induction rs generalizing p with
  | nil => rfl
  | cons r rs ih =>
    simp only [List.foldl_cons]
    rw [coalesceRev_append p acc r hp]
    exact ih _ (coalesceRev_ne_nil p r)

theorem two_runs_foldl (rs acc : List Range) (h : AscRev acc) (hrs : AscList rs) :
    ∃ G U, rs.foldl coalesceRev acc = G ++ U ∧ AscRev G ∧ AscRev U := by
  induction rs generalizing acc with
  | nil => exact ⟨[], acc, rfl, by simp [AscRev], h⟩
  | cons r rs ih =>
    have hwr := hrs.2 r List.mem_cons_self
    simp only [List.foldl_cons]
    rcases coalesceRev_cases acc r with hc | ⟨last, rest, rfl, _, hadj, _⟩
    · -- pushed: the fold goes on above `r` and never looks at `acc` again
      rw [hc, ← List.singleton_append, foldl_coalesceRev_append rs [r] acc (by simp)]
      refine ⟨rs.foldl coalesceRev [r], acc, rfl, ?_, h⟩
      refine ascRev_foldl rs [r] (by simp [AscRev, hwr]) hrs.tail (fun x hx r' hr' => ?_)
      rw [List.mem_singleton.1 hx]
      exact (List.pairwise_cons.1 hrs.1).1 r' hr'
    · -- merged onto the last range, which `r` continues: the slice stays ascending
      refine ih _ (ascRev_coalesce _ r h hwr (fun x hx => ?_)).1 hrs.tail
      have hl := h.2 last List.mem_cons_self
      rcases List.mem_cons.1 hx with rfl | hx
      · omega
      · have := (List.pairwise_cons.1 h.1).1 x hx
        omega

theorem last_mem_foldl (rs acc : List Range) (x : Range) (hx : x ∈ rs.foldl coalesceRev acc) :
    (∃ y ∈ acc, x.last = y.last) ∨ (∃ r ∈ rs, x.last = r.last) := by
  induction rs generalizing acc with
  | nil => exact Or.inl ⟨x, hx, rfl⟩
  | cons r rs ih =>
    rcases ih _ hx with ⟨y, hy, hxy⟩ | ⟨r', hr', hxr⟩
    · rcases coalesceRev_cases acc r with h | ⟨last, rest, rfl, _, _, h⟩ <;> rw [h] at hy <;>
        rcases List.mem_cons.1 hy with rfl | hy
      · exact Or.inr ⟨y, List.mem_cons_self, hxy⟩
      · exact Or.inl ⟨y, hy, hxy⟩
      · exact Or.inr ⟨r, List.mem_cons_self, hxy⟩
      · exact Or.inl ⟨y, List.mem_cons_of_mem _ hy, hxy⟩
    · exact Or.inr ⟨r', List.mem_cons_of_mem _ hr', hxr⟩

def Disj (a b : Range) : Prop := a.last < b.first ∨ b.last < a.first

/-- gap ranges that overlap have the same type -/
def Agree (a b : Range) : Prop := a.last < b.first ∨ b.last < a.first ∨ a.ty = b.ty

theorem gapsAgree_iff (gs : List Range) : gapsAgree gs = true ↔ gs.Pairwise Agree := by
  induction gs with
  | nil => simp [gapsAgree]
  | cons g gs ih =>
    simp [gapsAgree, agreeWith, ih, List.pairwise_cons, Agree, or_assoc]

/-- what the merge loop is run on -/
structure GapsOK (l : List Range) : Prop where
  sorted : l.Pairwise (fun a b => a.first ≤ b.first)
  wf : ∀ g ∈ l, g.first ≤ g.last
  agree : l.Pairwise Agree

theorem GapsOK.tail {g : Range} {l : List Range} (h : GapsOK (g :: l)) : GapsOK l :=
  ⟨(List.pairwise_cons.1 h.sorted).2, fun x hx => h.wf x (by simp [hx]), (List.pairwise_cons.1 h.agree).2⟩

theorem GapsOK.ty_eq {g g' : Range} {gs : List Range} (h : GapsOK (g :: g' :: gs)) (hle : g'.first ≤ g.last) :
    g.ty = g'.ty := by
  have hw := h.wf g' (by simp)
  have hs := (List.pairwise_cons.1 h.sorted).1 g' List.mem_cons_self
  have ha : Agree g g' := (List.pairwise_cons.1 h.agree).1 g' List.mem_cons_self
  unfold Agree at ha
  omega

theorem GapsOK.merge {g g' : Range} {gs : List Range} (h : GapsOK (g :: g' :: gs)) (hle : g'.first ≤ g.last) :
    GapsOK ({ g with last := if g'.last > g.last then g'.last else g.last } :: gs) := by
  have hty := h.ty_eq hle
  obtain ⟨hs, hw, ha⟩ := h
  obtain ⟨hs1, hs2⟩ := List.pairwise_cons.1 hs
  obtain ⟨hs3, hs4⟩ := List.pairwise_cons.1 hs2
  obtain ⟨ha1, ha2⟩ := List.pairwise_cons.1 ha
  obtain ⟨ha3, ha4⟩ := List.pairwise_cons.1 ha2
  have hwg := hw g List.mem_cons_self
  refine ⟨List.pairwise_cons.2 ⟨fun x hx => hs1 x (List.mem_cons_of_mem _ hx), hs4⟩,
    List.forall_mem_cons.2 ⟨by dsimp only; omega, fun x hx => hw x (by simp [hx])⟩, List.pairwise_cons.2 ⟨fun x hx => ?_, ha4⟩⟩
  -- a later range starts at or after `g'`: it agrees with whichever of `g`, `g'` ends last
  have hx1 : Agree g x := ha1 x (List.mem_cons_of_mem _ hx)
  have hx2 : Agree g' x := ha3 x hx
  have hxs := hs3 x hx
  have hxw := hw x (by simp [hx])
  unfold Agree at hx1 hx2 ⊢
  dsimp only
  omega

/-- Of two ranges the second of which starts inside the first, the range from the first's start to the larger end holds
exactly the offsets of both. -/
theorem mem_merged {a b a' b' o : Int} (hs : a ≤ a') (hle : a' ≤ b) :
    a ≤ o ∧ o ≤ (if b' > b then b' else b) ↔ (a ≤ o ∧ o ≤ b) ∨ (a' ≤ o ∧ o ≤ b') := by
  split <;> omega

theorem mem_cov_mergeGaps (l : List Range) (h : GapsOK l) (o t : Int) : t ∈ cov (mergeGaps l) o ↔ t ∈ cov l o := by
  fun_induction mergeGaps l with
  | case1 => rfl
  | case2 g => rfl
  | case3 g g' gs hle ih =>
    have hs := (List.pairwise_cons.1 h.sorted).1 g' List.mem_cons_self
    refine (ih (h.merge hle)).trans ?_
    -- `g` and `g'` overlap, so they have one type, and the merged range covers what the two cover
    rw [mem_cov_cons, mem_cov_cons, mem_cov_cons, ← h.ty_eq hle, ← or_assoc, ← or_and_right]
    exact or_congr_left (and_congr_left' (mem_merged hs hle))
  | case4 g g' gs hgt ih =>
    simp only [mem_cov_cons (r := g), ih (h.tail)]

theorem mergeGaps_ascList (l : List Range) (h : GapsOK l) : AscList (mergeGaps l) := by
  fun_induction mergeGaps l with
  | case1 => simp [AscList]
  | case2 g => simpa [AscList] using h.wf g
  | case3 g g' gs hle ih => exact ih (h.merge hle)
  | case4 g g' gs hgt ih =>
    have hok := h.tail
    obtain ⟨hp, hw⟩ := ih hok
    refine ⟨List.pairwise_cons.2 ⟨fun y hy => ?_, hp⟩, List.forall_mem_cons.2 ⟨h.wf g List.mem_cons_self, hw⟩⟩
    -- `y` starts inside some range after `g` (merging covers nothing new), and these start at or after `g'`
    obtain ⟨c, hc, hcy, _⟩ :=
      mem_cov.1 ((mem_cov_mergeGaps _ hok _ _).1 (mem_cov.2 ⟨y, hy, Int.le_refl _, hw y hy, rfl⟩))
    have : g'.first ≤ c.first := by
      rcases List.mem_cons.1 hc with rfl | hc
      · exact Int.le_refl _
      · exact (List.pairwise_cons.1 hok.sorted).1 c hc
    omega

/-- The user entries that reach `coalesceAppendRange` (decided, not at `lastOffset`). -/
def emitted : List Entry → Int → List Entry
  | [], _ => []
  | e :: es, lastOff =>
    if e.status = 0 then emitted es lastOff
    else if e.offset = lastOff then emitted es lastOff
    else e :: emitted es e.offset

def SortedFrom (lo : Int) (es : List Entry) : Prop :=
  es.Pairwise (fun a b => a.offset ≤ b.offset) ∧ ∀ e ∈ es, lo ≤ e.offset

theorem SortedFrom.tail {lo : Int} {e : Entry} {es : List Entry} (h : SortedFrom lo (e :: es)) :
    SortedFrom lo es ∧ SortedFrom e.offset es :=
  ⟨⟨(List.pairwise_cons.1 h.1).2, (List.forall_mem_cons.1 h.2).2⟩, (List.pairwise_cons.1 h.1).2, (List.pairwise_cons.1 h.1).1⟩

theorem emitted_mem (es : List Entry) (lo : Int) (hs : SortedFrom lo es) :
    ∀ x ∈ emitted es lo, x ∈ es ∧ x.status ≠ 0 ∧ lo < x.offset := by
  fun_induction emitted es lo with
  | case1 => simp
  | case2 e es lo h0 ih => exact fun x hx => (ih hs.tail.1 x hx).imp_left (List.mem_cons_of_mem _)
  | case3 e es h0 ih => exact fun x hx => (ih hs.tail.1 x hx).imp_left (List.mem_cons_of_mem _)
  | case4 e es lo h0 hd ih =>
    have := hs.2 e List.mem_cons_self
    refine List.forall_mem_cons.2 ⟨⟨List.mem_cons_self, h0, by omega⟩, fun x hx => ?_⟩
    obtain ⟨a, b, c⟩ := ih hs.tail.2 x hx
    exact ⟨List.mem_cons_of_mem _ a, b, by omega⟩

theorem emitted_pairwise (es : List Entry) (lo : Int) (hs : SortedFrom lo es) :
    (emitted es lo).Pairwise (fun a b => a.offset < b.offset) := by
  fun_induction emitted es lo with
  | case1 => simp
  | case2 e es lo h0 ih => exact ih hs.tail.1
  | case3 e es h0 ih => exact ih hs.tail.1
  | case4 e es lo h0 hd ih =>
    exact List.pairwise_cons.2 ⟨fun x hx => (emitted_mem es e.offset hs.tail.2 x hx).2.2, ih hs.tail.2⟩

theorem emitted_complete (es : List Entry) (lo : Int) (hs : SortedFrom lo es) (e : Entry) (he : e ∈ es)
    (hlive : e.status ≠ 0) (hgt : lo < e.offset) : ∃ x ∈ emitted es lo, x.offset = e.offset := by
  fun_induction emitted es lo with
  | case1 => cases he
  | case2 h es lo h0 ih =>
    rcases List.mem_cons.1 he with rfl | he
    · exact absurd h0 hlive
    · exact ih hs.tail.1 he hgt
  | case3 h es h0 ih =>
    rcases List.mem_cons.1 he with rfl | he
    · omega
    · exact ih hs.tail.1 he hgt
  | case4 h es lo h0 hd ih =>
    by_cases hq : e.offset = h.offset
    · exact ⟨h, List.mem_cons_self, hq.symm⟩
    · rcases List.mem_cons.1 he with rfl | he
      · exact absurd rfl hq
      · have := hs.tail.2.2 e he
        obtain ⟨x, hx, hxo⟩ := ih hs.tail.2 he (by omega)
        exact ⟨x, List.mem_cons_of_mem _ hx, hxo⟩

/-- The list the loop feeds to `coalesceAppendRange`, in order: the ranges of the emitted entries and the gap ranges
merged by first offset, a gap range going before an entry only when it starts strictly below it. -/
def interleave (em : List Entry) (gs : List Range) : List Range :=
  List.merge (em.map single) gs (fun a b => decide (a.first ≤ b.first))

theorem interleave_perm (em : List Entry) (gs : List Range) : (interleave em gs).Perm (em.map single ++ gs) :=
  List.merge_perm_append _

/-- the gap loop in front of an emitted entry takes from the merge what goes before that entry -/
theorem interleave_cons_foldl (e : Entry) (em : List Entry) (gs acc : List Range) :
    (interleave (e :: em) gs).foldl coalesceRev acc =
      (interleave em (takeGapsBelow gs e.offset acc).2).foldl coalesceRev
        (coalesceRev (takeGapsBelow gs e.offset acc).1 (single e)) := by
  induction gs generalizing acc with
  | nil => simp [interleave, takeGapsBelow]
  | cons g gs ih =>
    have ih := ih (coalesceRev acc g)
    simp only [interleave, List.map_cons] at ih ⊢
    by_cases h : g.first < e.offset
    · have : ¬ (single e).first ≤ g.first := Int.not_le.2 h
      simp [takeGapsBelow, h, this, ih]
    · have : (single e).first ≤ g.first := Int.not_lt.1 h
      simp [takeGapsBelow, h, this]

theorem entryLoop_eq (es : List Entry) (lo : Int) (acc gaps : List Range) (hr : Bool) :
    (entryLoop es lo acc gaps hr).2.1.foldl coalesceRev (entryLoop es lo acc gaps hr).1 =
        (interleave (emitted es lo) gaps).foldl coalesceRev acc ∧
    (entryLoop es lo acc gaps hr).2.2 = (hr || (emitted es lo).any (fun e => e.status == 4)) := by
  fun_induction entryLoop es lo acc gaps hr with
  | case1 => simp [emitted, interleave]
  | case2 e es lo acc gaps hr h0 ih => rwa [emitted, if_pos h0]
  | case3 e es acc gaps hr h0 ih => rwa [emitted, if_neg h0, if_pos rfl]
  | case4 e es lo acc gaps hr h0 hd r ih =>
    rwa [emitted, if_neg h0, if_neg hd, interleave_cons_foldl, List.any_cons, ← Bool.or_assoc]

abbrev emittedOf (es : List Entry) : List Entry := emitted (sortEntries es) (-1)

abbrev mergedGaps (gs : List Range) : List Range := mergeGaps (sortGaps gs)

theorem build_fst (es : List Entry) (gs : List Range) :
    (buildAckRanges es gs).1 =
      ((interleave (emittedOf es) (mergedGaps gs)).foldl coalesceRev []).reverse := by
  simp only [buildAckRanges, (entryLoop_eq ..).1]

theorem build_snd (es : List Entry) (gs : List Range) :
    (buildAckRanges es gs).2 = (emittedOf es).any (fun e => e.status == 4) := by
  simp only [buildAckRanges, (entryLoop_eq ..).2, Bool.false_or]

theorem ascList_of_sorted_disj {l : List Range} (hs : l.Pairwise (fun a b => a.first ≤ b.first)) (hd : l.Pairwise Disj)
    (hw : ∀ x ∈ l, x.first ≤ x.last) : AscList l :=
  ⟨(hs.and hd).imp_of_mem (fun {a b} _ hb h => by have := hw b hb; unfold Disj at h; omega), hw⟩

/-- Both lists are sorted by first offset, so is their merge, and being pairwise disjoint does not depend on the order. -/
theorem interleave_ascList (em : List Entry) (gs : List Range)
    (hem : em.Pairwise (fun a b => a.offset < b.offset)) (hgs : AscList gs)
    (hap : ∀ e ∈ em, ∀ g ∈ gs, ¬ (g.first ≤ e.offset ∧ e.offset ≤ g.last)) : AscList (interleave em gs) := by
  refine ascList_of_sorted_disj (List.pairwise_merge_key Range.first ?_ ?_)
    (((interleave_perm em gs).pairwise_iff (fun h => Or.symm h)).2
      (List.pairwise_append.2 ⟨List.pairwise_map.2 (hem.imp Or.inl), hgs.1.imp Or.inl, ?_⟩))
    (fun x hx => ?_)
  · exact List.pairwise_map.2 (hem.imp Int.le_of_lt)
  · exact hgs.1.imp_of_mem (fun {a b} ha _ h => by have := hgs.2 a ha; omega)
  · intro a ha g hg
    obtain ⟨e, he, rfl⟩ := List.mem_map.1 ha
    have := hap e he g hg
    show e.offset < g.first ∨ g.last < e.offset
    omega
  · rcases List.mem_merge.1 hx with hx | hx
    · obtain ⟨e, _, rfl⟩ := List.mem_map.1 hx
      exact Int.le_refl _
    · exact hgs.2 x hx

structure WfInput (es : List Entry) (gs : List Range) : Prop where
  offs : ∀ e ∈ es, 0 ≤ e.offset
  gaps : ∀ g ∈ gs, (0 ≤ g.first ∧ g.first ≤ g.last) ∧ (g.ty = 0 ∨ g.ty = 2)
  agree : gs.Pairwise Agree
  apart : ∀ e ∈ es, e.status ≠ 0 → ∀ g ∈ gs, ¬ (g.first ≤ e.offset ∧ e.offset ≤ g.last)

theorem wfInput_iff (es : List Entry) (gs : List Range) : wfInput es gs = true ↔ WfInput es gs := by
  simp only [wfInput, Bool.and_eq_true, List.all_eq_true, decide_eq_true_eq, Bool.or_eq_true, beq_iff_eq,
    gapsAgree_iff, contains, Bool.not_eq_true', Bool.and_eq_false_iff, decide_eq_false_iff_not,
    ← Classical.not_and_iff_not_or_not]
  exact ⟨fun ⟨⟨⟨a, b⟩, c⟩, d⟩ => ⟨a, b, c, fun e he hl => (d e he).resolve_left hl⟩,
    fun ⟨a, b, c, d⟩ => ⟨⟨⟨a, b⟩, c⟩, fun e he => Decidable.or_iff_not_imp_left.2 (d e he)⟩⟩

theorem sortEntries_sortedFrom {es : List Entry} {gs : List Range} (h : WfInput es gs) :
    SortedFrom (-1) (sortEntries es) :=
  ⟨List.pairwise_mergeSort_key (·.offset) es, fun e he => by
    have := h.offs e (List.mem_mergeSort.1 he)
    omega⟩

theorem emittedOf_mem {es : List Entry} {gs : List Range} (h : WfInput es gs) : ∀ x ∈ emittedOf es, x ∈ es ∧ x.status ≠ 0 :=
  fun x hx =>
    have := emitted_mem _ _ (sortEntries_sortedFrom h) x hx
    ⟨List.mem_mergeSort.1 this.1, this.2.1⟩

theorem emittedOf_complete {es : List Entry} {gs : List Range} (h : WfInput es gs) (e : Entry) (he : e ∈ es) (hl : e.status ≠ 0) :
    ∃ x ∈ emittedOf es, x.offset = e.offset :=
  emitted_complete _ _ (sortEntries_sortedFrom h) e (List.mem_mergeSort.2 he) hl
    (by have := h.offs e he; omega)

theorem sortGaps_ok {es : List Entry} {gs : List Range} (h : WfInput es gs) : GapsOK (sortGaps gs) :=
  have hp : (sortGaps gs).Perm gs := List.mergeSort_perm ..
  ⟨List.pairwise_mergeSort_key (·.first) gs, fun g hg => (h.gaps g (hp.mem_iff.1 hg)).1.2,
    (hp.pairwise_iff (fun {a b} hab => by unfold Agree at *; omega)).2 h.agree⟩

theorem mergedGaps_ascList {es : List Entry} {gs : List Range} (h : WfInput es gs) : AscList (mergedGaps gs) :=
  mergeGaps_ascList _ (sortGaps_ok h)

theorem mem_cov_mergedGaps {es : List Entry} {gs : List Range} (h : WfInput es gs) (o t : Int) :
    t ∈ cov (mergedGaps gs) o ↔ t ∈ cov gs o :=
  (mem_cov_mergeGaps _ (sortGaps_ok h) o t).trans (cov_perm (List.mergeSort_perm ..) o).mem_iff

theorem emittedOf_apart {es : List Entry} {gs : List Range} (h : WfInput es gs) :
    ∀ e ∈ emittedOf es, ∀ x ∈ mergedGaps gs, ¬ (x.first ≤ e.offset ∧ e.offset ≤ x.last) := fun e he x hx hin => by
  obtain ⟨g, hg, h1, h2, _⟩ := mem_cov.1 ((mem_cov_mergedGaps h e.offset x.ty).1 (mem_cov.2 ⟨x, hx, hin.1, hin.2, rfl⟩))
  exact h.apart e (emittedOf_mem h e he).1 (emittedOf_mem h e he).2 g hg ⟨h1, h2⟩

theorem fed_ascList {es : List Entry} {gs : List Range} (h : WfInput es gs) : AscList (interleave (emittedOf es) (mergedGaps gs)) :=
  interleave_ascList _ _ (emitted_pairwise _ _ (sortEntries_sortedFrom h)) (mergedGaps_ascList h) (emittedOf_apart h)

theorem build_ascList {es : List Entry} {gs : List Range} (h : WfInput es gs) : AscList (buildAckRanges es gs).1 := by
  rw [build_fst, ascList_reverse]
  exact ascRev_foldl _ [] (by simp [AscRev]) (fed_ascList h) (by simp)

theorem mem_cov_singles {l : List Entry} {o t : Int} :
    t ∈ cov (l.map single) o ↔ ∃ e ∈ l, e.offset = o ∧ e.status = t := by
  simp only [mem_cov, List.mem_map]
  constructor
  · rintro ⟨_, ⟨e, he, rfl⟩, h1, h2, rfl⟩
    exact ⟨e, he, Int.le_antisymm h1 h2, rfl⟩
  · rintro ⟨e, he, rfl, rfl⟩
    exact ⟨_, ⟨e, he, rfl⟩, Int.le_refl _, Int.le_refl _, rfl⟩

theorem mem_cov_build {es : List Entry} {gs : List Range} (h : WfInput es gs) (o t : Int) :
    t ∈ cov (buildAckRanges es gs).1 o ↔ (∃ e ∈ emittedOf es, e.offset = o ∧ e.status = t) ∨ t ∈ cov gs o := by
  -- coalescing and the two reversals do not show in `cov`: the output covers what was fed to the loop …
  rw [build_fst, cov_reverse, List.mem_reverse, cov_foldl _ _ o (by simp) (fed_ascList h).2, List.mem_append, cov_reverse,
    List.mem_reverse]
  -- … which is a permutation of the emitted entries' ranges and the merged gaps, and merging gaps covers nothing new
  rw [(cov_perm (interleave_perm ..) o).mem_iff, cov_append, List.mem_append, mem_cov_singles, mem_cov_mergedGaps h]
  simp [cov]

theorem mem_covIn {es : List Entry} {gs : List Range} {o t : Int} :
    t ∈ covIn es gs o ↔ (∃ e ∈ es, e.status ≠ 0 ∧ e.offset = o ∧ e.status = t) ∨ t ∈ cov gs o := by
  simp [covIn, and_assoc]

theorem cov_length_le_one {rs : List Range} (h : AscList rs) (o : Int) : (cov rs o).length ≤ 1 := by
  rw [cov, List.length_map]
  refine List.length_le_one_of_pairwise (h.1.filter _) fun a ha b hb hab => ?_
  have ha := (List.mem_filter.1 ha).2
  have hb := (List.mem_filter.1 hb).2
  simp only [contains, Bool.and_eq_true, decide_eq_true_eq] at ha hb
  omega

/-- The drain loops test "this source, later epoch" and "another source" in turn; what is left is `deliverable`. -/
theorem ite_drop {α : Type} (self epoch src ep : Int) (a b c : α) :
    (if src = self ∧ ep > epoch then a else if src ≠ self then b else c) =
      if deliverable self epoch src ep then c else if src = self then a else b := by
  by_cases h1 : src = self <;> by_cases h2 : ep ≤ epoch <;> simp [deliverable, h1, h2, Int.not_lt.2, Int.not_le.1]

theorem firstDropErr_cons (self epoch : Int) (e : Entry) (es : List Entry) :
    firstDropErr self epoch (e :: es) =
      if deliverable self epoch e.source e.epoch then firstDropErr self epoch es
      else if e.source = self then some .epoch else some .state := by
  simp only [firstDropErr, List.find?_cons]
  cases deliverable self epoch e.source e.epoch <;> simp

theorem filterEntries_eq (self epoch : Int) (es : List Entry) :
    filterEntries self epoch es =
      ((es.filter (fun e => deliverable self epoch e.source e.epoch)),
        (es.filter (fun e => deliverable self epoch e.source e.epoch)).length,
        es.length - (es.filter (fun e => deliverable self epoch e.source e.epoch)).length,
        firstDropErr self epoch es) := by
  induction es with
  | nil => rfl
  | cons e es ih =>
    have := List.length_filter_le (fun e => deliverable self epoch e.source e.epoch) es
    rw [filterEntries, ite_drop, ih, firstDropErr_cons, List.filter_cons]
    cases deliverable self epoch e.source e.epoch
    · simp only [Bool.false_eq_true, if_false, List.length_cons, Nat.sub_add_comm this]
      split <;> rfl
    · simp

theorem filterGaps_eq (self epoch : Int) (gs : List Range) :
    filterGaps self epoch gs = gs.filter (fun g => deliverable self epoch g.source g.epoch) := by
  induction gs with
  | nil => rfl
  | cons g gs ih => rw [filterGaps, ite_drop, ih, ite_self, List.filter_cons]

end Proof.C12
