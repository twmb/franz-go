import FranzVerif.Proof.Producer
/-! `Inv c h s`: the state the producer monitor reaches on `h` holds a `RecInv` record for every id `h` speaks of and none
for the others, its occupancy counters are the length and byte sum of `inBuf h` and within `c`'s bounds, and its list of
flushes has an entry for every `flushStart` of `h`, marked done only if `h` has the `flushEnd`. An accepted event keeps the
three parts separately (`Inv.entry_step`, `Inv.occ_step`, `Inv.flush_step`). For the records, `find_apply` says what `apply`
does to the entry of one id, and `RecInv.step` is where the per-event demands of `check` on the record are used; the rest
of the record part takes from `check` only that the record exists (`find_of_check`) and that a called id is fresh (`check_call`). -/
namespace Proof.Producer
open Model.Producer
open Proof.Monitor (ite_some_eq_none)

theorem NoRec.called {h : List Ev} {id : Id} (hn : NoRec h id) : called id h = false := by
  rw [called_eq, List.any_eq_false]
  intro a ha
  rw [callEv_of_ne (hn a ha)]
  exact Bool.false_ne_true
theorem NoRec.kindOf {h : List Ev} {id : Id} (hn : NoRec h id) : kindOf id h = none :=
  List.findSome?_eq_none_iff.2 fun a ha => kindEv_of_ne (hn a ha)
theorem NoRec.szOpt {h : List Ev} {id : Id} (hn : NoRec h id) : szOpt id h = none :=
  List.findSome?_eq_none_iff.2 fun a ha => sizeEv_of_ne (hn a ha)
theorem NoRec.promisesOf {h : List Ev} {id : Id} (hn : NoRec h id) : promisesOf id h = [] :=
  List.filterMap_eq_nil_iff.2 fun a ha => promEv_of_ne (hn a ha)
theorem NoRec.hookUsOf {h : List Ev} {id : Id} (hn : NoRec h id) : hookUsOf id h = [] :=
  List.filterMap_eq_nil_iff.2 fun a ha => hookUEv_of_ne (hn a ha)
theorem NoRec.hookBsOf {h : List Ev} {id : Id} (hn : NoRec h id) : hookBsOf id h = [] :=
  List.filterMap_eq_nil_iff.2 fun a ha => hookBEv_of_ne (hn a ha)
theorem NoRec.not_admitted {h : List Ev} {id : Id} (hn : NoRec h id) : id ∉ admittedIds h :=
  fun hm => let ⟨a, ha, h2⟩ := List.mem_filterMap.1 hm; admitEv_of_ne (hn a ha) h2
theorem NoRec.not_released {h : List Ev} {id : Id} (hn : NoRec h id) : id ∉ releasedIds h :=
  fun hm => let ⟨a, ha, h2⟩ := List.mem_filterMap.1 hm; releaseEv_of_ne (hn a ha) h2
theorem NoRec.not_block {h : List Ev} {id : Id} (hn : NoRec h id) : Ev.block id ∉ h :=
  fun ha => hn _ ha rfl

structure Inv (c : Cfg) (h : List Ev) (s : St) : Prop where
  recSome : ∀ id r, find s.recs id = some r → RecInv h id r
  recNone : ∀ id, find s.recs id = none → NoRec h id
  occ : (inBuf h).length = s.occ
  bytes : s.occBytes = ((inBuf h).map (sizeOfId h)).sum
  occLe : s.occ ≤ c.maxRecs
  bytesLe : c.maxBytes > 0 → s.occBytes ≤ c.maxBytes
  flStart : ∀ k, Ev.flushStart k ∈ h → ∃ f ∈ s.flushes, f.k = k
  flDone : ∀ f ∈ s.flushes, f.done = true → ∃ ok, Ev.flushEnd f.k ok ∈ h

theorem Inv.init (c : Cfg) : Inv c [] {} :=
  ⟨fun _ _ h => (nomatch h), fun _ _ _ h => (nomatch h), rfl, rfl, Nat.zero_le _, fun _ => Nat.zero_le _,
    fun _ h => (nomatch h), fun _ h => (nomatch h)⟩

theorem find_of_check {c : Cfg} {s : St} {ev : Ev} {i : Id} (hchk : check c s ev = none) (hev : evId ev = some i)
    (hcall : callEv i ev = false) : ∃ r, find s.recs i = some r := by
  cases hfd : find s.recs i with
  | some r => exact ⟨r, rfl⟩
  | none =>
    cases ev <;> simp only [evId, reduceCtorEq, Option.some.injEq] at hev <;> subst hev <;>
      simp [check, hfd, callEv] at hchk hcall

theorem check_call {c : Cfg} {s : St} {i : Id} {k : Kind} {sz : Nat} :
    check c s (.call i k sz) = none ↔ find s.recs i = none ∧ s.quiet = false := by
  simp [check, ite_some_eq_none]

section
variable {c : Cfg} {s : St} {i : Id} {r : Rec} (hfd : find s.recs i = some r)
include hfd

/- What `check` demands of an event about the record `r`, one conjunct per rule, in the order of the rules. -/

theorem check_hookB : check c s (.hookB i) = none ↔ r.hookB = false ∧ r.hookU = none := by
  simp [check, hfd, ite_some_eq_none]

theorem check_block : check c s (.block i) = none ↔
    r.kind ≠ Kind.try_ ∧ c.manual = false ∧ r.admitted = false ∧ r.blocked = false ∧ r.hookU = none ∧
      r.sawFull = true := by
  simp [check, hfd, ite_some_eq_none, and_assoc]

theorem check_admit {n b sz : Nat} : check c s (.admit i n b sz) = none ↔
    r.admitted = false ∧ r.blocked = false ∧ r.hookU = none ∧ sz = r.sz ∧ r.hookB = true ∧
      s.occ + 1 ≤ c.maxRecs ∧ (0 < c.maxBytes → s.occBytes + sz ≤ c.maxBytes) ∧ n = s.occ + 1 ∧
      b = s.occBytes + sz := by
  simp [check, hfd, ite_some_eq_none, and_assoc]

theorem check_hookU {e : Err} : check c s (.hookU i e) = none ↔
    r.hookB = true ∧ r.hookU = none ∧ r.blocked = false ∧
      (isMaxBuf e = true → r.admitted = false ∧ r.sawFull = true) := by
  simp [check, hfd, ite_some_eq_none]

theorem check_promise {e : Err} : check c s (.promise i e) = none ↔
    r.promised = none ∧ r.hookU ≠ none ∧ r.hookU = some e := by
  simp [check, hfd, ite_some_eq_none]

theorem check_release {n b : Nat} : check c s (.release i n b) = none ↔
    r.admitted = true ∧ r.released = false ∧ r.hookU ≠ none ∧ (r.kind ≠ Kind.sync → r.promised ≠ none) ∧
      n + 1 = s.occ ∧ b + r.sz = s.occBytes := by
  simp [check, hfd, ite_some_eq_none, and_assoc]

end

/-- what an event does to the record it is about -/
def onRec : Ev → Rec → Rec
  | .hookB _, r => { r with hookB := true }
  | .block _, r => { r with blocked := true, wasBlocked := true }
  | .unblock _, r => { r with blocked := false }
  | .admit _ _ _ _, r => { r with admitted := true }
  | .hookU _ e, r => { r with hookU := some e }
  | .promise _ e, r => { r with promised := some e }
  | .release _ _ _, r => { r with released := true }
  | .ret _, r => { r with returned := true }
  | _, r => r

/-- `RecInv` for `h ++ [ev]`, each observable written as that of `h` plus what `ev` shows. The hypothesis is one conjunction
so that `RecInv.step` can rewrite all its parts with one `simp only` per event constructor. -/
theorem RecInv.snoc {h : List Ev} {id : Id} {ev : Ev} {r : Rec}
    (H : r.id = id ∧ (called id h || callEv id ev) = true ∧ (kindOf id h).or (kindEv id ev) = some r.kind ∧
      (szOpt id h).or (sizeEv id ev) = some r.sz ∧ promisesOf id h ++ (promEv id ev).toList = r.promised.toList ∧
      hookUsOf id h ++ (hookUEv id ev).toList = r.hookU.toList ∧
      hookBsOf id h ++ (hookBEv id ev).toList = (if r.hookB then [()] else []) ∧
      (admittedIds h ++ (admitEv ev).toList).count id = (if r.admitted then 1 else 0) ∧
      (releasedIds h ++ (releaseEv ev).toList).count id = (if r.released then 1 else 0) ∧
      (Ev.block id ∈ h ∨ Ev.block id = ev → r.blocked = true ∨ Ev.unblock id ∈ h ∨ Ev.unblock id = ev) ∧
      (r.released = true → r.admitted = true ∧ r.hookU.isSome = true ∧
        (r.kind ≠ Kind.sync → r.promised.isSome = true)) ∧
      (r.promised.isSome = true → r.hookU = r.promised) ∧ (r.hookU.isSome = true → r.hookB = true)) :
    RecInv (h ++ [ev]) id r := by
  obtain ⟨h1, h2, h3, h4, h5, h6, h7, h8, h9, h10, h11, h12, h13⟩ := H
  refine ⟨h1, ?_, ?_, ?_, ?_, ?_, ?_, ?_, ?_, ?_, h11, h12, h13⟩
  · rw [called_snoc]; exact h2
  · rw [kindOf_snoc]; exact h3
  · rw [szOpt_snoc]; exact h4
  · rw [promisesOf_snoc]; exact h5
  · rw [hookUsOf_snoc]; exact h6
  · rw [hookBsOf_snoc]; exact h7
  · rw [admittedIds_snoc]; exact h8
  · rw [releasedIds_snoc]; exact h9
  · simpa only [List.mem_append, List.mem_singleton] using h10

theorem RecInv.step {c : Cfg} {s : St} {h : List Ev} {i : Id} {r : Rec} (hr : RecInv h i r) {ev : Ev}
    (hev : evId ev = some i) (hfd : find s.recs i = some r) (hchk : check c s ev = none) :
    RecInv (h ++ [ev]) i (onRec ev r) := by
  refine RecInv.snoc ?_
  -- the ties of `hr` that the event does not touch close by rewriting; what stays is the tie it adds to (if any), then
  -- `hblk`, `relAdm`, `promU`, `UB` as far as the new flag does not make them trivial
  cases ev <;> simp only [evId, Option.some.injEq, reduceCtorEq] at hev <;> subst hev <;>
    simp only [onRec, promEv, hookUEv, hookBEv, callEv, kindEv, sizeEv, admitEv, releaseEv, Option.toList_none,
      List.append_nil, Bool.or_false, Option.or_none, reduceCtorEq, or_false, or_true, true_or, if_true,
      implies_true, true_and, and_true, Option.isSome_some, true_implies, List.count_snoc_self,
      hr.hid, hr.hcalled, hr.hkind, hr.hsz, hr.hprom, hr.hU, hr.hB, hr.hadm, hr.hrel]
  case call => cases hfd.symm.trans (check_call.1 hchk).1
  case hookB =>
    obtain ⟨cB, _⟩ := (check_hookB hfd).1 hchk
    exact ⟨by rw [cB]; rfl, hr.hblk, hr.relAdm, hr.promU⟩
  case admit =>
    obtain ⟨cA, _⟩ := (check_admit hfd).1 hchk
    exact ⟨by rw [cA]; rfl, hr.hblk, fun hrel => (hr.relAdm hrel).2, hr.promU, hr.UB⟩
  case hookU i e =>
    obtain ⟨cB, cU, _⟩ := (check_hookU hfd).1 hchk
    have hp : ¬ r.promised.isSome = true := fun hh => by rw [← hr.promU hh, cU] at hh; cases hh
    exact ⟨by rw [cU]; rfl, hr.hblk, fun hrel => ⟨(hr.relAdm hrel).1, (hr.relAdm hrel).2.2⟩, fun hh => absurd hh hp, cB⟩
  case promise i e =>
    obtain ⟨cP, _, cU⟩ := (check_promise hfd).1 hchk
    exact ⟨by rw [cP]; rfl, hr.hblk, fun hrel => ⟨(hr.relAdm hrel).1, (hr.relAdm hrel).2.1⟩, cU, hr.UB⟩
  case release =>
    obtain ⟨cA, cR, cU, cP, _⟩ := (check_release hfd).1 hchk
    exact ⟨by rw [cR]; rfl, hr.hblk,
      ⟨cA, Option.isSome_iff_ne_none.2 cU, fun hk => Option.isSome_iff_ne_none.2 (cP hk)⟩, hr.promU, hr.UB⟩
  case ret => exact ⟨hr.hblk, hr.relAdm, hr.promU, hr.UB⟩
  -- `block`, `unblock`: `hblk` holds by the event itself
  all_goals exact ⟨hr.relAdm, hr.promU, hr.UB⟩

theorem RecInv.call {h : List Ev} {i : Id} (hn : NoRec h i) (k : Kind) (sz : Nat) (b : Bool) :
    RecInv (h ++ [.call i k sz]) i { id := i, kind := k, sz := sz, sawFull := b } := by
  refine RecInv.snoc ?_
  simp only [hn.called, hn.kindOf, hn.szOpt, hn.promisesOf, hn.hookUsOf, hn.hookBsOf, callEv, kindEv, sizeEv, promEv,
    hookUEv, hookBEv, admitEv, releaseEv, Option.toList_none, List.append_nil, reduceCtorEq, or_false, if_true,
    beq_self_eq_true, Bool.or_true, Option.none_or, true_and]
  exact ⟨rfl, List.count_eq_zero.2 hn.not_admitted, List.count_eq_zero.2 hn.not_released,
    fun hb => absurd hb hn.not_block, nofun, nofun, nofun⟩

theorem RecInv.sawFull {h : List Ev} {id : Id} {r : Rec} (hr : RecInv h id r) (b : Bool) :
    RecInv h id { r with sawFull := b } :=
  { hr with }

theorem onRec_id (ev : Ev) (r : Rec) : (onRec ev r).id = r.id := by
  cases ev <;> rfl

/-- what an event does to every entry: an admission marks the calls in progress for which the buffer is now full
(`Model.Producer.markFull` at the state after the admission, written over the state before it) -/
def mark (c : Cfg) (s : St) : Ev → Rec → Rec
  | .admit _ _ _ sz => fun r =>
    if !r.admitted && r.promised.isNone && full c (s.occ + 1) (s.occBytes + sz) r.sz then { r with sawFull := true } else r
  | _ => id

theorem mark_cases (c : Cfg) (s : St) (ev : Ev) (r : Rec) : mark c s ev r = r ∨
    (mark c s ev r = { r with sawFull := true } ∧ r.admitted = false ∧ r.promised = none ∧
      full c (apply c s ev).occ (apply c s ev).occBytes r.sz = true) := by
  cases ev <;> try exact .inl rfl
  simp only [mark]
  split
  · next hc =>
    simp only [Bool.and_eq_true, Bool.not_eq_true', Option.isNone_iff_eq_none] at hc
    exact .inr ⟨rfl, hc.1.1, hc.1.2, hc.2⟩
  · exact .inl rfl

theorem mark_id (c : Cfg) (s : St) (ev : Ev) (r : Rec) : (mark c s ev r).id = r.id := by
  rcases mark_cases c s ev r with h | ⟨h, _⟩ <;> rw [h]

/-- every event about a record but `call` rewrites the entry in place; `l` is what `apply` makes of `s.recs` -/
theorem find_upd_entry {c : Cfg} {s : St} {ev : Ev} {i : Id} {l : List Rec} (hchk : check c s ev = none)
    (h1 : evId ev = some i) (hc : callEv i ev = false) (h3 : l = (upd s.recs i (onRec ev)).map (mark c s ev)) (id : Id) :
    ∃ o, find l id = o.map (mark c s ev) ∧ ((evId ev ≠ some id ∧ o = find s.recs id) ∨
      ∃ r, evId ev = some id ∧ find s.recs id = some r ∧ o = some (onRec ev r)) := by
  refine ⟨_, by rw [h3, find_map _ (mark_id c s ev), find_upd _ (onRec_id ev)], ?_⟩
  rw [h1]
  by_cases h : id = i
  · subst h
    obtain ⟨r, hfd⟩ := find_of_check hchk h1 hc
    exact .inr ⟨r, rfl, hfd, by rw [if_pos rfl, hfd]; rfl⟩
  · exact .inl ⟨fun he => h (Option.some.inj he).symm, if_neg h⟩

/-- The monitor's entry for `id` after an accepted event is `o`, marked: the entry a `call` of `id` opens, the entry of
before if the event is about another record or none, the record of before rewritten in place if it is about this one. -/
theorem find_apply {c : Cfg} {s : St} {ev : Ev} (hchk : check c s ev = none) (id : Id) :
    ∃ o, find (apply c s ev).recs id = o.map (mark c s ev) ∧
      ((∃ k sz, ev = .call id k sz ∧ find s.recs id = none ∧
          o = some { id := id, kind := k, sz := sz, sawFull := full c s.occ s.occBytes sz }) ∨
       (evId ev ≠ some id ∧ o = find s.recs id) ∨
       ∃ r, evId ev = some id ∧ find s.recs id = some r ∧ o = some (onRec ev r)) := by
  cases ev with
  | call i k sz =>
    refine ⟨_, (find_cons _ _ _).trans Option.map_id_apply.symm, ?_⟩
    by_cases h : i = id
    · subst h; exact .inl ⟨k, sz, rfl, (check_call.1 hchk).1, if_pos rfl⟩
    · exact .inr (.inl ⟨fun he => h (Option.some.inj he), if_neg h⟩)
  | hookB i | block i | unblock i | hookU i e | promise i e | ret i =>
    exact (find_upd_entry hchk rfl rfl (List.map_id _).symm id).imp fun _ => And.imp_right .inr
  | admit i n b sz =>
    -- `markFull` at the state after the admission is `mark`
    exact (find_upd_entry hchk rfl rfl rfl id).imp fun _ => And.imp_right .inr
  | release i n b =>
    obtain ⟨r, hr⟩ := find_of_check hchk rfl rfl
    exact (find_upd_entry hchk rfl rfl (by simp only [apply, hr]; exact (List.map_id _).symm) id).imp fun _ =>
      And.imp_right .inr
  | _ => exact ⟨_, Option.map_id_apply.symm, .inr (.inl ⟨nofun, rfl⟩)⟩

/-- What `Inv` says about the entry for `id`. -/
def RecAt (h : List Ev) (id : Id) : Option Rec → Prop
  | some r => RecInv h id r
  | none => NoRec h id

theorem Inv.recAt {c : Cfg} {h : List Ev} {s : St} (hi : Inv c h s) (id : Id) : RecAt h id (find s.recs id) := by
  cases hfd : find s.recs id with
  | some r => exact hi.recSome id r hfd
  | none => exact hi.recNone id hfd

theorem RecAt.frame {h : List Ev} {id : Id} {o : Option Rec} (hr : RecAt h id o) (ev : Ev) (hev : evId ev ≠ some id) :
    RecAt (h ++ [ev]) id o := by
  cases o with
  | some r => exact RecInv.frame hr ev hev
  | none => exact NoRec.frame hr ev hev

theorem RecAt.mark {h : List Ev} {id : Id} {o : Option Rec} (hr : RecAt h id o) (c : Cfg) (s : St) (ev : Ev) :
    RecAt h id (o.map (mark c s ev)) := by
  cases o with
  | none => exact hr
  | some r =>
    show RecInv h id (Proof.Producer.mark c s ev r)
    rcases mark_cases c s ev r with hm | ⟨hm, _⟩ <;> rw [hm]
    · exact hr
    · exact RecInv.sawFull hr true

theorem Inv.entry_step {c : Cfg} {h : List Ev} {s : St} (hi : Inv c h s) (ev : Ev) (hchk : check c s ev = none) (id : Id) :
    RecAt (h ++ [ev]) id (find (apply c s ev).recs id) := by
  obtain ⟨o, he, ho⟩ := find_apply hchk id
  rw [he]
  refine RecAt.mark ?_ c s ev
  rcases ho with ⟨k, sz, rfl, hfd, rfl⟩ | ⟨hev, rfl⟩ | ⟨r, hev, hfd, rfl⟩
  · exact RecInv.call (hi.recNone id hfd) _ _ _
  · exact (hi.recAt id).frame ev hev
  · exact RecInv.step (hi.recSome id r hfd) hev hfd hchk

theorem inBuf_snoc_same {h : List Ev} {ev : Ev} (ha : admitEv ev = none) (hr : releaseEv ev = none) :
    inBuf (h ++ [ev]) = inBuf h := by
  simp only [inBuf, admittedIds_snoc, releasedIds_snoc, ha, hr, Option.toList_none, List.append_nil]

theorem sizeOfId_snoc_same {h : List Ev} {ev : Ev} (hs : ∀ id, sizeEv id ev = none) :
    sizeOfId (h ++ [ev]) = sizeOfId h := by
  funext id
  rw [sizeOfId_eq', sizeOfId_eq', szOpt_snoc, hs, Option.or_none]

theorem inBuf_snoc_admit (h : List Ev) (i n b sz : Nat) (hnr : i ∉ releasedIds h) :
    inBuf (h ++ [.admit i n b sz]) = inBuf h ++ [i] := by
  simp [inBuf, admittedIds_snoc, releasedIds_snoc, admitEv, releaseEv, List.filter_append, hnr]

theorem inBuf_snoc_release (h : List Ev) (i n b : Nat) :
    inBuf (h ++ [.release i n b]) = (inBuf h).filter (fun x => x != i) := by
  simp only [inBuf, admittedIds_snoc, releasedIds_snoc, admitEv, releaseEv, Option.toList_none,
    Option.toList_some, List.append_nil, List.filter_filter]
  apply List.filter_congr
  intro x _
  by_cases hx : x = i <;> simp [hx]

/-- What `Inv` says about the occupancy counters. -/
def OccInv (c : Cfg) (h : List Ev) (s : St) : Prop :=
  (inBuf h).length = s.occ ∧ s.occBytes = ((inBuf h).map (sizeOfId h)).sum ∧ s.occ ≤ c.maxRecs ∧
  (c.maxBytes > 0 → s.occBytes ≤ c.maxBytes)

theorem Inv.rec_of_admitted {c : Cfg} {h : List Ev} {s : St} (hi : Inv c h s) {id : Id}
    (hm : id ∈ admittedIds h) : ∃ r, find s.recs id = some r ∧ RecInv h id r ∧ r.admitted = true := by
  cases hfd : find s.recs id with
  | none => exact absurd hm (hi.recNone id hfd).not_admitted
  | some r => exact ⟨r, rfl, hi.recSome id r hfd, (hi.recSome id r hfd).mem_admitted.1 hm⟩

theorem Inv.occ_step {c : Cfg} {h : List Ev} {s : St} (hi : Inv c h s) (ev : Ev) (hchk : check c s ev = none) :
    OccInv c (h ++ [ev]) (apply c s ev) := by
  have same : ∀ s' : St, admitEv ev = none → releaseEv ev = none → s'.occ = s.occ → s'.occBytes = s.occBytes →
      OccInv c (h ++ [ev]) s' := by
    intro s' ha hr e1 e2
    -- the size of a record in the buffer was fixed by its call (a `call` gives a size to another id)
    have hsz : (inBuf h).map (sizeOfId (h ++ [ev])) = (inBuf h).map (sizeOfId h) := List.map_congr_left fun id hm => by
      obtain ⟨r, -, hr, -⟩ := hi.rec_of_admitted (List.mem_filter.1 hm).1
      rw [sizeOfId_eq', sizeOfId_eq', szOpt_snoc, hr.hsz]; rfl
    unfold OccInv
    rw [inBuf_snoc_same ha hr, hsz, e1, e2]
    exact ⟨hi.occ, hi.bytes, hi.occLe, hi.bytesLe⟩
  cases ev with
  | admit i n b sz =>
    obtain ⟨r, hfd⟩ := find_of_check hchk rfl rfl
    have hr := hi.recSome i r hfd
    obtain ⟨c1, _, _, c4, _, c6, c7, _⟩ := (check_admit hfd).1 hchk
    have hnr : i ∉ releasedIds h := fun hm => by
      rw [(hr.relAdm (hr.mem_released.1 hm)).1] at c1; cases c1
    have hsz : sizeOfId h i = sz := by rw [sizeOfId_eq', hr.hsz, c4]; rfl
    unfold OccInv
    rw [inBuf_snoc_admit h i n b sz hnr, sizeOfId_snoc_same (fun _ => rfl)]
    refine ⟨?_, ?_, c6, c7⟩
    · rw [List.length_append, hi.occ]; rfl
    · rw [List.map_append, List.sum_append, ← hi.bytes, List.map_singleton, List.sum_singleton, hsz]; rfl
  | release i n b =>
    obtain ⟨r, hfd⟩ := find_of_check hchk rfl rfl
    have hr := hi.recSome i r hfd
    obtain ⟨c1, c2, _⟩ := (check_release hfd).1 hchk
    have hcnt : (inBuf h).count i = 1 := by
      have h1 := hr.hadm; have h2 := hr.hrel
      rw [c1] at h1; rw [c2] at h2
      rw [inBuf, List.count_filter (by simpa using List.count_eq_zero.1 h2)]
      exact h1
    have hsz : sizeOfId h i = r.sz := by rw [sizeOfId_eq', hr.hsz]; rfl
    have hlen := List.length_filter_ne (inBuf h) i
    have hsum := List.sum_filter_ne (sizeOfId h) (inBuf h) i
    rw [hcnt, hi.occ] at hlen
    rw [hcnt, Nat.one_mul, hsz, ← hi.bytes] at hsum
    unfold OccInv
    simp only [apply, hfd]
    rw [inBuf_snoc_release, sizeOfId_snoc_same (fun _ => rfl)]
    exact ⟨Nat.eq_sub_of_add_eq hlen, (Nat.eq_sub_of_add_eq hsum).symm, Nat.le_trans (Nat.sub_le _ _) hi.occLe,
      fun hpos => Nat.le_trans (Nat.sub_le _ _) (hi.bytesLe hpos)⟩
  | _ => exact same _ rfl rfl rfl rfl

/-- What `Inv` says about the pending flushes. -/
def FlushInv (h : List Ev) (fs : List Flush) : Prop :=
  (∀ k, Ev.flushStart k ∈ h → ∃ f ∈ fs, f.k = k) ∧ (∀ f ∈ fs, f.done = true → ∃ ok, Ev.flushEnd f.k ok ∈ h)

theorem Inv.flush_step {c : Cfg} {h : List Ev} {s : St} (hi : Inv c h s) (ev : Ev) :
    FlushInv (h ++ [ev]) (apply c s ev).flushes := by
  have same : (∀ k, ev ≠ .flushStart k) → FlushInv (h ++ [ev]) s.flushes := fun hne =>
    ⟨fun k hk => hi.flStart k ((List.mem_append.1 hk).resolve_right fun he => hne k (List.mem_singleton.1 he).symm),
     fun f hf hd => (hi.flDone f hf hd).imp fun _ => List.mem_append_left _⟩
  fun_cases apply c s ev <;> try exact same nofun
  · next k _ =>
    -- `flushStart k`
    constructor
    · intro k' hk
      rcases List.mem_append.1 hk with hk | hk
      · obtain ⟨f, hf, hfk⟩ := hi.flStart k' hk
        exact ⟨f, List.mem_cons_of_mem _ hf, hfk⟩
      · cases List.mem_singleton.1 hk
        exact ⟨_, List.mem_cons_self, rfl⟩
    · intro f hf hd
      rcases List.mem_cons.1 hf with rfl | hf
      · cases hd
      · exact (hi.flDone f hf hd).imp fun _ => List.mem_append_left _
  · next k ok =>
    -- `flushEnd k ok`
    constructor
    · intro k' hk
      obtain ⟨f, hf, hfk⟩ := (same nofun).1 k' hk
      refine ⟨_, List.mem_map.2 ⟨f, hf, rfl⟩, ?_⟩
      split <;> exact hfk
    · intro f' hf' hd
      obtain ⟨f, hf, rfl⟩ := List.mem_map.1 hf'
      by_cases hh : (f.k == k) = true
      · rw [if_pos hh]
        exact ⟨ok, by rw [show f.k = k from beq_iff_eq.1 hh]; exact List.mem_append_right _ List.mem_cons_self⟩
      · rw [if_neg hh] at hd ⊢
        exact (hi.flDone f hf hd).imp fun _ => List.mem_append_left _

theorem Inv.step {c : Cfg} {h : List Ev} {s : St} (hi : Inv c h s) (ev : Ev) (hchk : check c s ev = none) :
    Inv c (h ++ [ev]) (apply c s ev) :=
  have hr := hi.entry_step ev hchk
  let ⟨o1, o2, o3, o4⟩ := hi.occ_step ev hchk
  let ⟨f1, f2⟩ := hi.flush_step ev
  ⟨fun id r hfd => by have := hr id; rwa [hfd] at this, fun id hfd => by have := hr id; rwa [hfd] at this,
    o1, o2, o3, o4, f1, f2⟩

theorem Inv.unblock {c : Cfg} {h : List Ev} {s : St} (hi : Inv c h s) (i : Id)
    (hchk : check c s (.unblock i) = none) : Inv c (h ++ [.unblock i]) (apply c s (.unblock i)) :=
  hi.step _ hchk

theorem Inv.promise {c : Cfg} {h : List Ev} {s : St} (hi : Inv c h s) (i : Id) (e : Err)
    (hchk : check c s (.promise i e) = none) : Inv c (h ++ [.promise i e]) (apply c s (.promise i e)) :=
  hi.step _ hchk

theorem Inv.release {c : Cfg} {h : List Ev} {s : St} (hi : Inv c h s) (i n b : Nat)
    (hchk : check c s (.release i n b) = none) :
    Inv c (h ++ [.release i n b]) (apply c s (.release i n b)) :=
  hi.step _ hchk

theorem inv_of_run {c : Cfg} {h : List Ev} {s : St} (hr : run c {} h = some s) : Inv c h s :=
  (isMonitor c).inv (fun _ _ ev hi => hi.step ev) (Inv.init c) hr

end Proof.Producer
