import FranzVerif.Model.Producer
import FranzVerif.Proof.Monitor
import FranzVerif.Proof.Ledger
/-! What a history of `Model.Producer` events shows about one record (`promisesOf`, `hookUsOf`, `called`, `kindOf`, `admittedIds`,
… — folds over the events alone, the monitor plays no part), and `RecInv h id r`: the monitor's record `r` for `id` holds
exactly that. Each observable of `h ++ [ev]` is that of `h` plus what `ev` alone shows (`promEv`, `callEv`, …), so an event
about another record leaves `RecInv` as it is (`RecInv.frame`). Two observables are not such folds: `promiseRanIds` asks for
the kind of a record in the whole history, and `sawFullDuringCall` reads the monitor's `sawFull` flag; `Proof/ProducerFull.lean` says
what the latter means of the history. -/
namespace Proof.Producer
open Model.Producer

def promisesOf (id : Id) (h : List Ev) : List Err :=
  h.filterMap (fun e => match e with | .promise i e => if i = id then some e else none | _ => none)
def hookUsOf (id : Id) (h : List Ev) : List Err :=
  h.filterMap (fun e => match e with | .hookU i e => if i = id then some e else none | _ => none)
def hookBsOf (id : Id) (h : List Ev) : List Unit :=
  h.filterMap (fun e => match e with | .hookB i => if i = id then some () else none | _ => none)
def called (id : Id) (h : List Ev) : Bool :=
  h.any (fun e => match e with | .call i _ _ => i == id | _ => false)
def kindOf (id : Id) (h : List Ev) : Option Kind :=
  h.findSome? (fun e => match e with | .call i k _ => if i = id then some k else none | _ => none)
def sizeOfId (h : List Ev) (id : Id) : Nat :=
  (h.findSome? (fun e => match e with | .call i _ sz => if i = id then some sz else none | _ => none)).getD 0
def admittedIds (h : List Ev) : List Id :=
  h.filterMap (fun e => match e with | .admit i _ _ _ => some i | _ => none)
def releasedIds (h : List Ev) : List Id :=
  h.filterMap (fun e => match e with | .release i _ _ => some i | _ => none)
/-- ids whose promise has run: a promise event, or for ProduceSync the unbuffered hook that immediately precedes it -/
def promiseRanIds (h : List Ev) : List Id :=
  h.filterMap (fun e => match e with
    | .promise i _ => some i
    | .hookU i _ => if kindOf i h = some Kind.sync then some i else none
    | _ => none)
/-- the buffer was full (for a record of this size) at the call or at some admission since the call of `id` -/
def sawFullDuringCall (c : Cfg) (id : Id) (h : List Ev) : Bool :=
  match run c {} h with
  | some s => match find s.recs id with | some r => r.sawFull | none => false
  | none => false

/-- Records admitted and not yet released. `Props.C03.inBuffer` is the same definition under the property's name; the two
are definitionally equal, which `Props.C03.buffered_never_exceeds_limits` and `Props.C03.sawFull_means_buffer_was_full` rely on
(they hand facts about `inBuf` to goals about `inBuffer` without a rewrite). -/
def inBuf (h : List Ev) : List Id :=
  (admittedIds h).filter (fun id => !(releasedIds h).contains id)

theorem isMonitor (c : Cfg) : Proof.Monitor.IsMonitor (check c) (apply c) (step c) (run c) :=
  ⟨⟨fun _ => rfl, fun s e es => by rw [run]; cases step c s e <;> rfl⟩, fun s e => by rw [step]; cases check c s e <;> rfl⟩

theorem find_cons (r : Rec) (rs : List Rec) (id : Id) :
    find (r :: rs) id = if r.id = id then some r else find rs id := by
  simp only [find, List.find?_cons]
  by_cases h : r.id = id
  · simp [h]
  · have : (r.id == id) = false := by simpa using h
    simp [this, h]

theorem find_some {rs : List Rec} {id : Id} {r : Rec} (h : find rs id = some r) : r ∈ rs ∧ r.id = id :=
  Ledger.find?_key_some h

theorem find_map (g : Rec → Rec) (hg : ∀ r, (g r).id = r.id) (rs : List Rec) (id : Id) :
    find (rs.map g) id = (find rs id).map g := by
  induction rs with
  | nil => rfl
  | cons r rs ih =>
    simp only [List.map_cons, find_cons, hg]
    by_cases h : r.id = id <;> simp [h, ih]

theorem find_upd (f : Rec → Rec) (hf : ∀ r, (f r).id = r.id) (rs : List Rec) (i id : Id) :
    find (upd rs i f) id = if id = i then (find rs id).map f else find rs id := by
  unfold upd
  rw [find_map _ (by intro r; by_cases h : (r.id == i) = true <;> simp [h, hf])]
  cases hfd : find rs id with
  | none => simp
  | some r =>
    have := (find_some hfd).2
    by_cases h : id = i <;> simp [h, this]

def promEv (id : Id) : Ev → Option Err
  | .promise i e => if i = id then some e else none | _ => none
def hookUEv (id : Id) : Ev → Option Err
  | .hookU i e => if i = id then some e else none | _ => none
def hookBEv (id : Id) : Ev → Option Unit
  | .hookB i => if i = id then some () else none | _ => none
def callEv (id : Id) : Ev → Bool
  | .call i _ _ => i == id | _ => false
def kindEv (id : Id) : Ev → Option Kind
  | .call i k _ => if i = id then some k else none | _ => none
def sizeEv (id : Id) : Ev → Option Nat
  | .call i _ sz => if i = id then some sz else none | _ => none
def admitEv : Ev → Option Id
  | .admit i _ _ _ => some i | _ => none
def releaseEv : Ev → Option Id
  | .release i _ _ => some i | _ => none
/-- the record an event is about -/
def evId : Ev → Option Id
  | .call i _ _ | .hookB i | .admit i _ _ _ | .block i | .unblock i | .hookU i _ | .promise i _
  | .release i _ _ | .ret i => some i
  | _ => none

theorem promisesOf_eq (id : Id) (h : List Ev) : promisesOf id h = h.filterMap (promEv id) := rfl
theorem hookUsOf_eq (id : Id) (h : List Ev) : hookUsOf id h = h.filterMap (hookUEv id) := rfl
theorem called_eq (id : Id) (h : List Ev) : called id h = h.any (callEv id) := rfl
theorem sizeOfId_eq (id : Id) (h : List Ev) : sizeOfId h id = (h.findSome? (sizeEv id)).getD 0 := rfl

theorem promisesOf_snoc (id : Id) (h : List Ev) (ev : Ev) :
    promisesOf id (h ++ [ev]) = promisesOf id h ++ (promEv id ev).toList := List.filterMap_snoc _ h ev
theorem hookUsOf_snoc (id : Id) (h : List Ev) (ev : Ev) :
    hookUsOf id (h ++ [ev]) = hookUsOf id h ++ (hookUEv id ev).toList := List.filterMap_snoc _ h ev
theorem hookBsOf_snoc (id : Id) (h : List Ev) (ev : Ev) :
    hookBsOf id (h ++ [ev]) = hookBsOf id h ++ (hookBEv id ev).toList := List.filterMap_snoc _ h ev
theorem admittedIds_snoc (h : List Ev) (ev : Ev) :
    admittedIds (h ++ [ev]) = admittedIds h ++ (admitEv ev).toList := List.filterMap_snoc _ h ev
theorem releasedIds_snoc (h : List Ev) (ev : Ev) :
    releasedIds (h ++ [ev]) = releasedIds h ++ (releaseEv ev).toList := List.filterMap_snoc _ h ev
theorem called_snoc (id : Id) (h : List Ev) (ev : Ev) :
    called id (h ++ [ev]) = (called id h || callEv id ev) := List.any_snoc _ h ev
theorem kindOf_snoc (id : Id) (h : List Ev) (ev : Ev) :
    kindOf id (h ++ [ev]) = (kindOf id h).or (kindEv id ev) := List.findSome?_snoc _ h ev

def szOpt (id : Id) (h : List Ev) : Option Nat := h.findSome? (sizeEv id)
theorem sizeOfId_eq' (id : Id) (h : List Ev) : sizeOfId h id = (szOpt id h).getD 0 := rfl
theorem szOpt_snoc (id : Id) (h : List Ev) (ev : Ev) :
    szOpt id (h ++ [ev]) = (szOpt id h).or (sizeEv id ev) := List.findSome?_snoc _ h ev

/-- What the monitor's record `r` for `id` says about the history `h`. -/
structure RecInv (h : List Ev) (id : Id) (r : Rec) : Prop where
  hid : r.id = id
  hcalled : called id h = true
  hkind : kindOf id h = some r.kind
  hsz : szOpt id h = some r.sz
  hprom : promisesOf id h = r.promised.toList
  hU : hookUsOf id h = r.hookU.toList
  hB : hookBsOf id h = if r.hookB then [()] else []
  hadm : (admittedIds h).count id = if r.admitted then 1 else 0
  hrel : (releasedIds h).count id = if r.released then 1 else 0
  hblk : Ev.block id ∈ h → r.blocked = true ∨ Ev.unblock id ∈ h
  relAdm : r.released = true → r.admitted = true ∧ r.hookU.isSome = true ∧
    (r.kind ≠ Kind.sync → r.promised.isSome = true)
  promU : r.promised.isSome = true → r.hookU = r.promised
  UB : r.hookU.isSome = true → r.hookB = true

def NoRec (h : List Ev) (id : Id) : Prop := ∀ ev ∈ h, evId ev ≠ some id

/-- `hadm`, `hrel` as membership: an id is counted once or not at all, as the flag says. -/
theorem mem_iff_of_count {l : List Id} {i : Id} {b : Bool} (h : l.count i = if b then 1 else 0) : i ∈ l ↔ b = true := by
  rw [← List.count_pos_iff, h]
  cases b <;> decide

theorem RecInv.mem_admitted {h : List Ev} {id : Id} {r : Rec} (hr : RecInv h id r) :
    id ∈ admittedIds h ↔ r.admitted = true := mem_iff_of_count hr.hadm

theorem RecInv.mem_released {h : List Ev} {id : Id} {r : Rec} (hr : RecInv h id r) :
    id ∈ releasedIds h ↔ r.released = true := mem_iff_of_count hr.hrel

theorem callEv_of_ne {id : Id} {ev : Ev} (hev : evId ev ≠ some id) : callEv id ev = false := by
  cases ev <;> try rfl
  simpa [evId, callEv] using hev
theorem kindEv_of_ne {id : Id} {ev : Ev} (hev : evId ev ≠ some id) : kindEv id ev = none := by
  cases ev <;> try rfl
  simpa [evId, kindEv] using hev
theorem sizeEv_of_ne {id : Id} {ev : Ev} (hev : evId ev ≠ some id) : sizeEv id ev = none := by
  cases ev <;> try rfl
  simpa [evId, sizeEv] using hev
theorem promEv_of_ne {id : Id} {ev : Ev} (hev : evId ev ≠ some id) : promEv id ev = none := by
  cases ev <;> try rfl
  simpa [evId, promEv] using hev
theorem hookUEv_of_ne {id : Id} {ev : Ev} (hev : evId ev ≠ some id) : hookUEv id ev = none := by
  cases ev <;> try rfl
  simpa [evId, hookUEv] using hev
theorem hookBEv_of_ne {id : Id} {ev : Ev} (hev : evId ev ≠ some id) : hookBEv id ev = none := by
  cases ev <;> try rfl
  simpa [evId, hookBEv] using hev
theorem admitEv_of_ne {id : Id} {ev : Ev} (hev : evId ev ≠ some id) : admitEv ev ≠ some id := by
  cases ev <;> simp_all [evId, admitEv]
theorem releaseEv_of_ne {id : Id} {ev : Ev} (hev : evId ev ≠ some id) : releaseEv ev ≠ some id := by
  cases ev <;> simp_all [evId, releaseEv]

theorem count_append_toList {o : Option Id} {id : Id} (l : List Id) (ho : o ≠ some id) :
    (l ++ o.toList).count id = l.count id := by
  rw [List.count_append, List.count_eq_zero.2 (mt Option.mem_toList.1 ho), Nat.add_zero]

theorem RecInv.frame {h : List Ev} {id : Id} {r : Rec} (hr : RecInv h id r) (ev : Ev)
    (hev : evId ev ≠ some id) : RecInv (h ++ [ev]) id r :=
  { hr with
    hcalled := by rw [called_snoc, callEv_of_ne hev, Bool.or_false]; exact hr.hcalled
    hkind := by rw [kindOf_snoc, kindEv_of_ne hev, Option.or_none]; exact hr.hkind
    hsz := by rw [szOpt_snoc, sizeEv_of_ne hev, Option.or_none]; exact hr.hsz
    hprom := by rw [promisesOf_snoc, promEv_of_ne hev]; exact (List.append_nil _).trans hr.hprom
    hU := by rw [hookUsOf_snoc, hookUEv_of_ne hev]; exact (List.append_nil _).trans hr.hU
    hB := by rw [hookBsOf_snoc, hookBEv_of_ne hev]; exact (List.append_nil _).trans hr.hB
    hadm := by rw [admittedIds_snoc, count_append_toList _ (admitEv_of_ne hev)]; exact hr.hadm
    hrel := by rw [releasedIds_snoc, count_append_toList _ (releaseEv_of_ne hev)]; exact hr.hrel
    hblk := fun hb =>
      have hne : Ev.block id ≠ ev := fun he => hev (he ▸ rfl)
      (hr.hblk ((List.mem_append.1 hb).resolve_right (mt List.mem_singleton.1 hne))).imp_right (List.mem_append_left _) }

theorem NoRec.frame {h : List Ev} {id : Id} (hn : NoRec h id) (ev : Ev)
    (hev : evId ev ≠ some id) : NoRec (h ++ [ev]) id := by
  intro e he
  rcases List.mem_append.1 he with he | he
  · exact hn e he
  · simp at he; subst he; exact hev

end Proof.Producer
