import FranzVerif.Proof.C06Ref
import FranzVerif.Proof.ListFacts
/-! C06 — what holds of every input: the aborter does not depend on the order of the aborted list; the byte-level walks
(`frames`, `innerWalk`, `decodeAll`) never evaluate a panicking slice expression; the structured walk never panics on what
they yield, never moves the next offset back, and returns records with strictly increasing offsets between the requested offset
and the next one (the three parts of `Spec.C06.holdsAny`). -/
namespace Proof.C06
open Model.C06

theorem buildAborter_sorted (A : List (Int × Int)) (pid : Int) : (buildAborter A pid).Pairwise (· ≤ ·) :=
  List.pairwise_mergeSort_key id _

theorem buildAborter_perm {A A' : List (Int × Int)} (h : A.Perm A') : buildAborter A = buildAborter A' := by
  funext pid
  refine List.Perm.eq_of_pairwise (fun a b _ _ h1 h2 => Int.le_antisymm h1 h2) (buildAborter_sorted A pid)
    (buildAborter_sorted A' pid) ?_
  exact ((List.mergeSort_perm _ _).trans ((h.filter _).map _)).trans (List.mergeSort_perm _ _).symm

theorem uvarint_n_le (inp : Bytes) : (uvarint inp).2 ≤ 5 := by
  fun_cases uvarint inp <;> simp

theorem varint_n_le (inp : Bytes) : (varint inp).2 ≤ 5 := by
  unfold varint; exact uvarint_n_le inp

theorem sliceTo?_eq_some {s : Bytes} {hi : Int} (h0 : 0 ≤ hi) (h1 : hi ≤ s.length) :
    sliceTo? s hi = some (s.take hi.toNat) := if_pos ⟨h0, h1⟩

theorem sliceFrom?_eq_some {s : Bytes} {lo : Int} (h0 : 0 ≤ lo) (h1 : lo ≤ s.length) :
    sliceFrom? s lo = some (s.drop lo.toNat) := if_pos ⟨h0, h1⟩

theorem slice?_eq_some {s : Bytes} {lo hi : Int} (h0 : 0 ≤ lo) (h1 : lo ≤ hi) (h2 : hi ≤ s.length) :
    slice? s lo hi = some ((s.take hi.toNat).drop lo.toNat) := if_pos ⟨h0, h1, h2⟩

theorem idx?_eq_some {s : Bytes} {i : Nat} (h : i < s.length) : idx? s i = some s[i] :=
  List.getElem?_eq_getElem h

theorem sliceTo?_len {s b : Bytes} {hi : Int} (h : sliceTo? s hi = some b) : (b.length : Int) = hi := by
  unfold sliceTo? at h
  split at h
  · cases h; simp only [List.length_take]; omega
  · cases h

/-- a successful read by `rd` consumes at least `n` bytes -/
def Takes {α : Type} (rd : Rd α) (n : Nat) : Prop := ∀ s p, rd s = some p → p.2.length + n ≤ s.length

theorem takes_rdN (n : Nat) : Takes (rdN n) n := by
  intro s p h
  unfold rdN at h
  split at h
  · cases h
  · cases h; simp only [List.length_drop]; omega

theorem Takes.map {α β : Type} {rd : Rd α} {n : Nat} (h : Takes rd n) (f : α → β) :
    Takes (fun s => (rd s).map fun (v, r) => (f v, r)) n := by
  intro s p hp
  obtain ⟨q, hq, rfl⟩ := Option.map_eq_some_iff.mp hp
  exact h _ _ hq

theorem takes_rdI64 : Takes rdI64 8 := (takes_rdN 8).map toI64
theorem takes_rdI32 : Takes rdI32 4 := (takes_rdN 4).map toI32
theorem takes_rdI8 : Takes rdI8 1 := (takes_rdN 1).map toI8

theorem takes_rdVarint : Takes rdVarint 1 := by
  intro s p h
  cases s with
  | nil => cases h
  | cons b t =>
    unfold rdVarint at h
    split at h
    split at h
    · cases h
    · cases h; simp only [List.length_drop, List.length_cons]; omega

theorem Takes.le_of_bind {α β : Type} {rd : Rd α} {n k : Nat} {s : Bytes} {f : α × Bytes → Option β} {b : β}
    (hrd : Takes rd n) (hf : ∀ p, f p = some b → k ≤ p.2.length) (h : (rd s).bind f = some b) : k + n ≤ s.length := by
  obtain ⟨p, hp, h⟩ := Option.bind_eq_some_iff.mp h
  have := hrd _ _ hp; have := hf p h; omega

theorem readRecord_len {s : Bytes} {r : KRec} (h : readRecord s = some r) : 2 ≤ s.length :=
  takes_rdVarint.le_of_bind (fun _ h => takes_rdI8.le_of_bind (fun _ _ => Nat.zero_le _) h) h

/-- `readRawRecordsInto` with the `used <= 0` guard reaches neither of its two slice panics (past the guard
`0 < used`, `0 ≤ length` and `total ≤ len(in)`, so both `in[:total]` and `in[total:]` are in range); every record it decodes takes at least two bytes. -/
theorem decodeAll_spec (fuel : Nat) (inp : Bytes) :
    (decodeAll fuel inp).2 = .stop ∧ 2 * (decodeAll fuel inp).1.length ≤ inp.length := by
  fun_induction decodeAll fuel inp
  case case3 total hg hx => rw [sliceTo?_eq_some (by omega) (by omega)] at hx; cases hx
  case case5 total hg _ _ _ _ hx => rw [sliceFrom?_eq_some (by omega) (by omega)] at hx; cases hx
  case case6 total hg _ hb _ hr _ hrest _ _ hd ih =>
    rw [sliceTo?_eq_some (by omega) (by omega)] at hb
    rw [sliceFrom?_eq_some (by omega) (by omega)] at hrest
    cases hb; cases hrest
    have := readRecord_len hr
    rw [hd] at ih
    simp only [List.length_take, List.length_drop, List.length_cons] at *
    exact ⟨ih.1, by omega⟩
  all_goals exact ⟨rfl, Nat.zero_le _⟩

theorem readMsg0_len {s : Bytes} {m : RawMsg} (h : readMsg0 s = some m) : 16 ≤ s.length :=
  takes_rdI64.le_of_bind (fun _ h => takes_rdI32.le_of_bind (fun _ h => takes_rdI32.le_of_bind (fun _ _ => Nat.zero_le _) h) h) h

theorem readMsg1_len {s : Bytes} {m : RawMsg} (h : readMsg1 s = some m) : 16 ≤ s.length :=
  takes_rdI64.le_of_bind (fun _ h => takes_rdI32.le_of_bind (fun _ h => takes_rdI32.le_of_bind (fun _ _ => Nat.zero_le _) h) h) h

theorem readBatch_len {s : Bytes} {m : RawBatch} (h : readBatch s = some m) : 21 ≤ s.length :=
  takes_rdI64.le_of_bind (fun _ h => takes_rdI32.le_of_bind (fun _ h => takes_rdI32.le_of_bind (fun _ h => takes_rdI8.le_of_bind
    (fun _ h => takes_rdI32.le_of_bind (fun _ _ => Nat.zero_le _) h) h) h) h) h

theorem frameLen_ne_none {inp : Bytes} (h : inp.length > 17) : frameLen inp ≠ none := by
  unfold frameLen
  rw [sliceFrom?_eq_some (by omega) (by omega), Option.bind_some, if_neg (by simp only [List.length_drop]; omega)]
  exact Option.some_ne_none _

theorem mkBatch_spec (env : Env) (rb : RawBatch) :
    (mkBatch env rb).tail = .stop ∧ 2 * (mkBatch env rb).recs.length ≤ (mkBatch env rb).rawLen := by
  fun_cases mkBatch env rb
  · exact ⟨rfl, Nat.le_refl _⟩
  · rename_i raw _ _ _ h; have := decodeAll_spec (raw.length + 1) raw; rw [h] at this; exact this

theorem readMsg_len {c : Prop} [Decidable c] {s : Bytes} {m : RawMsg}
    (h : (if c then readMsg1 s else readMsg0 s) = some m) : 16 ≤ s.length := by
  split at h
  · exact readMsg1_len h
  · exact readMsg0_len h

theorem innerWalk_no_panic (env : Env) (v1 : Bool) (fuel : Nat) (inp : Bytes) : (innerWalk env v1 fuel inp).2.2 = false := by
  fun_induction innerWalk env v1 fuel inp
  -- cases 3, 5, 7, 9, 11, 13: a slice expression failed; inside a frame of declared length `l ≤ len(in)` none does
  case case3 hx => exact absurd hx (frameLen_ne_none (by omega))
  case case5 hx => rw [idx?_eq_some (by omega)] at hx; split at hx <;> cases hx
  case case7 hx => rw [sliceTo?_eq_some (by omega) (by omega)] at hx; cases hx
  case case9 hb _ hp hx =>
    have := sliceTo?_len hb
    have := readMsg_len hp
    rw [slice?_eq_some (by omega) (by omega) (by omega)] at hx; cases hx
  case case11 hb _ hp _ _ _ hx =>
    have := sliceTo?_len hb
    have := readMsg_len hp
    rw [slice?_eq_some (by omega) (by omega) (by omega)] at hx; split at hx <;> cases hx
  case case13 hx => rw [sliceFrom?_eq_some (by omega) (by omega)] at hx; cases hx
  case case14 h ih => rw [h] at ih; exact ih
  all_goals rfl

theorem mkInner_no_panic (env : Env) (v1 : Bool) (m : Msg) : (mkInner env v1 m).panic = false := by
  fun_cases mkInner env v1 m
  · rfl
  · rfl
  · rename_i raw _ _ _ _ h; have := innerWalk_no_panic env v1 (raw.length + 1) raw; rw [h] at this; exact this

/-- the item holds no panic outcome: it is not one, and neither the record stream of a batch nor the inner walk of a wrapper
ended in one -/
def ItemOk : Item → Prop
  | .panic => False
  | .batch b => b.tail = .stop
  | .msg _ i => i.panic = false
  | _ => True

theorem parsed_ok {env : Env} {mg : Nat} {body : Bytes} {item : Item} {lf cf : Int}
    (h : (if mg = 2 then (readBatch body).map fun rb => (Item.batch (mkBatch env rb), rb.length, rb.crc)
      else if mg = 1 then (readMsg1 body).map fun rm => (Item.msg rm.m (mkInner env true rm.m), rm.size, rm.crc)
      else (readMsg0 body).map fun rm => (Item.msg rm.m (mkInner env false rm.m), rm.size, rm.crc)) = some (item, lf, cf)) :
    ItemOk item ∧ 16 ≤ body.length ∧ (if mg = 2 then (21 : Int) else 16) ≤ body.length := by
  split at h
  · obtain ⟨rb, hr, hi⟩ := Option.map_eq_some_iff.mp h
    have := readBatch_len hr
    cases hi; exact ⟨(mkBatch_spec env rb).1, by omega, by omega⟩
  · split at h
    all_goals
      obtain ⟨rm, hr, hi⟩ := Option.map_eq_some_iff.mp h
      cases hi
    · have := readMsg1_len hr; exact ⟨mkInner_no_panic _ _ _, this, by omega⟩
    · have := readMsg0_len hr; exact ⟨mkInner_no_panic _ _ _, this, by omega⟩

theorem frames_itemOk (env : Env) (fuel : Nat) (inp : Bytes) : ∀ it ∈ frames env fuel inp, ItemOk it := by
  fun_induction frames env fuel inp
  -- cases 3, 5, 7, 9, 11, 13: a slice expression failed; inside a frame of declared length `l ≤ len(in)` none does
  case case3 hx => exact absurd hx (frameLen_ne_none (by omega))
  case case5 hx => rw [idx?_eq_some (by omega)] at hx; cases hx
  case case7 hx => rw [sliceTo?_eq_some (by omega) (by omega)] at hx; cases hx
  case case9 body hb _ _ _ _ hp hx =>
    have := sliceTo?_len hb
    have := (parsed_ok hp).2.1
    rw [slice?_eq_some (by omega) (by omega) (by omega)] at hx; cases hx
  case case11 body hb crcAt _ _ _ _ hp _ _ _ crcRes hx =>
    have hl := sliceTo?_len hb
    have hc := (parsed_ok hp).2.2
    rw [hl] at hc
    have : 0 ≤ crcAt := by simp only [crcAt]; split <;> omega
    simp only [crcRes] at hx
    rw [slice?_eq_some this hc (by omega)] at hx
    simp only at hx
    by_cases hd : env.disableCrc = true
    · rw [if_pos hd] at hx; cases hx
    · rw [if_neg hd, if_neg (by omega), ← apply_ite some] at hx; cases hx
  case case13 hx => rw [sliceFrom?_eq_some (by omega) (by omega)] at hx; cases hx
  case case14 hp _ _ _ _ _ _ _ ih =>
    intro it hit
    rcases List.mem_cons.mp hit with rfl | hit
    · exact (parsed_ok hp).1
    · exact ih it hit
  all_goals simp [ItemOk]

theorem frames_no_panic (env : Env) (fuel : Nat) (inp : Bytes) : Item.panic ∉ frames env fuel inp :=
  fun h => frames_itemOk env fuel inp _ h

/-- `s'` is a later state of the walk than `s`: the next offset has not gone back, and what has been returned since has strictly
increasing offsets from the old next offset on and below the new one -/
def Adv (s s' : St) : Prop :=
  s.off ≤ s'.off ∧ ∃ new, s'.out = s.out ++ new ∧ new.Pairwise (fun a b => a.offset < b.offset) ∧
    ∀ r ∈ new, s.off ≤ r.offset ∧ r.offset < s'.off

theorem Adv.of_out_eq {s s' : St} (ho : s'.out = s.out) (hf : s.off ≤ s'.off) : Adv s s' :=
  ⟨hf, [], by rw [ho, List.append_nil], .nil, fun _ h => absurd h List.not_mem_nil⟩

theorem Adv.refl (s : St) : Adv s s := .of_out_eq rfl (Int.le_refl _)

theorem Adv.trans {s s1 s2 : St} (h1 : Adv s s1) (h2 : Adv s1 s2) : Adv s s2 := by
  obtain ⟨f1, n1, o1, p1, b1⟩ := h1
  obtain ⟨f2, n2, o2, p2, b2⟩ := h2
  refine ⟨Int.le_trans f1 f2, n1 ++ n2, by rw [o2, o1, List.append_assoc], ?_, fun r hr => ?_⟩
  · -- what was returned up to `s1` lies below `s1.off`, what came after at or above it
    exact List.pairwise_append.mpr ⟨p1, p2, fun a ha b hb => by have := b1 a ha; have := b2 b hb; omega⟩
  · rcases List.mem_append.mp hr with h | h
    · have := b1 r h; omega
    · have := b2 r h; omega

theorem maybeKeep_adv (o : Opts) (s : St) (r : Rec) (ab : Bool) : Adv s (maybeKeepRecord o s r ab) := by
  rw [maybeKeepRecord_eq]
  split
  · exact .refl s
  · refine ⟨by simp only; omega, _, rfl, (List.pairwise_singleton _ r).sublist ?_, fun x hx => ?_⟩
    · generalize (if isControl r.attrs = true then o.keepControl else !ab) = k
      cases k
      · exact List.nil_sublist _
      · exact .refl _
    · rw [List.mem_ite_nil_right, List.mem_singleton] at hx
      rw [hx.2]; simp only; omega

theorem keepAll_adv (o : Opts) (ab : Bool) : ∀ (rs : List Rec) (s : St), Adv s (keepAll o ab s rs) := by
  intro rs
  induction rs with
  | nil => exact Adv.refl
  | cons r rs ih => exact fun s => (maybeKeep_adv o s r ab).trans (ih _)

/-- What is shown of each function of the structured walk that can panic (`processRecordBatch`, `processOuter`, `stepItem`,
`walk`): a result is a later state, and there is a result when the input satisfies `ok`. -/
def Sound (ok : Prop) (s : St) (r : Option St) : Prop := (ok → r ≠ none) ∧ ∀ s', r = some s' → Adv s s'

theorem Sound.some {ok : Prop} {s s' : St} (h : Adv s s') : Sound ok s (some s') :=
  ⟨fun _ => Option.some_ne_none _, fun _ e => by cases e; exact h⟩

theorem Sound.none {ok : Prop} {s : St} (h : ¬ ok) : Sound ok s none := ⟨fun h' => absurd h' h, fun _ e => nomatch e⟩

theorem Sound.map {ok : Prop} {s : St} {r : Option St} {f : St → St} (h : Sound ok s r) (hf : ∀ s', Adv s' (f s')) :
    Sound ok s (r.map f) := by
  cases r with
  | none => exact h
  | some s' => exact .some ((h.2 s' rfl).trans (hf s'))

theorem shouldAbortBatch_ne_none (a : Aborter) (b : Batch) : shouldAbortBatch a b ≠ none := by
  fun_cases shouldAbortBatch a b
  case case3 hne hx =>
    exact absurd (List.length_eq_zero_iff.mp (Nat.le_zero.mp (List.getElem?_eq_none_iff.mp hx))) hne
  all_goals nofun

theorem processRecordBatch_sound (o : Opts) (s : St) (b : Batch) : Sound (b.tail = .stop) s (processRecordBatch o s b) := by
  fun_cases processRecordBatch o s b
  -- cases 1-5 return early with `fp.Err` set or nothing done; 6-8 are the panics of `krecords`, `pidAborts[0]`, the record loop
  case case6 hx => exact .none fun ht => by unfold takeRecs at hx; rw [ht] at hx; split at hx <;> cases hx
  case case7 hx => exact absurd hx (shouldAbortBatch_ne_none _ _)
  case case8 hx => rw [procRecords_eq _ _ _ _ _ _ _ (Nat.le_refl _)] at hx; cases hx
  case case9 ks _ _ ab _ _ _ hp =>
    rw [procRecords_eq _ _ _ _ _ _ _ (Nat.le_refl _)] at hp
    cases hp
    -- the record loop, then the deferred KAFKA-5443 rule, which only moves the offset forward
    refine .some ((keepAll_adv o ab (ks.map (recordToRecord b)) s).trans (.of_out_eq ?_ ?_))
    · split <;> rfl
    · split
      · rename_i h; exact Int.le_of_lt h.2
      · exact Int.le_refl _
  all_goals exact .some (.of_out_eq rfl (Int.le_refl _))

theorem processMessage_adv (o : Opts) (s : St) (m : Msg) : Adv s (processMessage o s m).1 := by
  fun_cases processMessage o s m
  case case3 => exact maybeKeep_adv _ _ _ _
  case case6 => exact maybeKeep_adv _ _ _ _
  all_goals exact .of_out_eq rfl (Int.le_refl _)

theorem processInner_adv (o : Opts) (base : Int) (codec : Nat) (lat : Option Int) (s : St) (ms : List Msg) :
    Adv s (processInner o base codec lat s ms) := by
  fun_induction processInner o base codec lat s ms
  case case1 => exact .refl _
  case case2 s m _ _ h ih => have := processMessage_adv o s (innerSeen base codec lat m); rw [h] at this; exact this.trans ih
  case case3 s m _ _ _ h _ => have := processMessage_adv o s (innerSeen base codec lat m); rw [h] at this; exact this

theorem setErr_adv (s : St) (e : Option Err) : Adv s (setErr s e) := by
  cases e <;> exact .of_out_eq rfl (Int.le_refl _)

theorem processOuter_sound (o : Opts) (s : St) (m : Msg) (inner : Inner) :
    Sound (inner.panic = false) s (processOuter o s m inner) := by
  fun_cases processOuter o s m inner
  -- case 1: not compressed; 2: decompression failed; 3, 5: the inner walk ended in a panic (without / with messages collected);
  -- 4: no inner message; 6: `getLast?` of a list that is not empty; 7: the wrapper-offset error; 8-10 run the inner messages
  case case1 => exact .some (processMessage_adv o s m)
  case case2 => exact .some (.of_out_eq rfl (Int.le_refl _))
  case case3 hp => exact .none (by simp [hp])
  case case4 => exact .some (setErr_adv s _)
  case case5 hp => exact .none (by simp [hp])
  case case6 hne _ _ _ hl => rw [List.getLast?_eq_none_iff] at hl; rw [hl] at hne; exact absurd rfl hne
  case case7 => exact .some ((setErr_adv s _).trans (.of_out_eq rfl (Int.le_refl _)))
  all_goals exact .some ((setErr_adv s _).trans (processInner_adv ..))

theorem stepItem_sound (o : Opts) (s : St) (it : Item) : Sound (ItemOk it) s (stepItem o s it) := by
  have post : ∀ s' : St, Adv s' (if s'.err = some .decompress ∧ s'.out.length > 0 then { s' with err := none, stopped := true } else s') :=
    fun s' => .of_out_eq (by split <;> rfl) (by split <;> exact Int.le_refl _)
  cases it with
  | panic => exact .none id
  | stop e => exact .some (.of_out_eq rfl (Int.le_refl _))
  | badMagic off => exact .some (.of_out_eq rfl (by simp only; split <;> omega))
  | batch b => exact (processRecordBatch_sound o s b).map post
  | msg m i => exact (processOuter_sound o s m i).map post

theorem walk_sound (o : Opts) (s : St) (items : List Item) : Sound (∀ it ∈ items, ItemOk it) s (walk o s items) := by
  fun_induction walk o s items
  case case3 s it _ _ hx => exact .none fun hok => (stepItem_sound o s it).1 (hok it List.mem_cons_self) hx
  case case4 s it _ _ s1 hx ih =>
    exact ⟨fun hok => ih.1 fun x hx => hok x (List.mem_cons_of_mem _ hx),
      fun s' e => ((stepItem_sound o s it).2 s1 hx).trans (ih.2 s' e)⟩
  all_goals exact .some (.refl _)

theorem process_sound (o : Opts) (kerr : Bool) (A : List (Int × Int)) (items : List Item) :
    ((∀ it ∈ items, ItemOk it) → process o kerr A items ≠ .panic) ∧
    ∀ recs next err, process o kerr A items = .done recs next err → o.offset ≤ next ∧
      recs.Pairwise (fun a b => a.offset < b.offset) ∧ ∀ r ∈ recs, o.offset ≤ r.offset ∧ r.offset < next := by
  unfold process
  have h := walk_sound o
    { off := o.offset, ab := if o.readCommitted then buildAborter A else fun _ => [], err := if kerr then some .kerr else none } items
  simp only
  generalize walk o _ items = w at h
  cases w with
  | none => exact ⟨fun hok => absurd rfl (h.1 hok), nofun⟩
  | some s' =>
    refine ⟨fun _ => nofun, fun recs next err e => ?_⟩
    cases e
    obtain ⟨hf, new, ho, hp, hb⟩ := h.2 s' rfl
    rw [ho]
    exact ⟨hf, hp, hb⟩

theorem walk_halted (o : Opts) (s : St) (ys : List Item) (h : s.err.isSome ∨ s.stopped) : walk o s ys = some s := by
  cases ys with
  | nil => rfl
  | cons y ys => simp only [walk, h, if_true]

theorem walk_append (o : Opts) : ∀ (xs : List Item) (s : St) (ys : List Item),
    walk o s (xs ++ ys) = (walk o s xs).bind (fun s' => walk o s' ys) := by
  intro xs
  induction xs with
  | nil => intro s ys; simp [walk]
  | cons x xs ih =>
    intro s ys
    simp only [List.cons_append, walk]
    split
    · rename_i h; simp [walk_halted o s ys h]
    · cases stepItem o s x with
      | none => rfl
      | some s1 => exact ih s1 ys

end Proof.C06
