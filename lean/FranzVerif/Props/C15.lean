import FranzVerif.Proof.C15RoundTrip
import FranzVerif.Gen.Schema
/-! C15 — the generated codec matches the protocol definitions.

`Gen.Schema` is regenerated on every run from `/repo/generate/definitions/*` by the independent parser `tools/krammar`.
`Model.C15.enc` / `dec` is the independent interpreter of that schema; `canon` is the Spec-level statement of what a decoder has
to recover: the fields present at the version, every absent field at its default, tagged fields and unknown tags on flexible
versions, `nil`/empty exactly as the wire can express them at that version.

The driver evaluates on every op: bytes of `AppendTo` = `encTop`, tree recovered by `ReadFrom` = `canonTop` (that is the Spec
on the implementation's output); the theorems below say the interpreter itself has the property for EVERY schema, version and value. -/
namespace Props.C15
open Model.C15

/-- **Round trip, generic.** For every schema type `t` that is well formed at the version (every array element occupies ≥ 1
byte, defined tags pairwise distinct: decidable, `schema_ok` below proves it of the regenerated definitions), every version `≥ 0`, every
value `v` in the domain of the encoder and every suffix `rest`: decoding `enc v ++ rest` succeeds, returns the normal form of `v`
at that version and leaves `rest` untouched. (`c.cap` is the allocation cap of the model's `make`.) -/
theorem roundtrip (t : Ty) (c : Cfg) (flex : Bool) (v : Val) (bs rest : Bytes)
    (hv : 0 ≤ c.ver) (hs : schemaOK c.ver t = true) (h : enc c.ver flex t v = some bs) (hcap : bs.length + rest.length ≤ c.cap) :
    dec c flex t (bs ++ rest) = .ok (canon c.ver t v) rest :=
  Proof.C15.decEnc t c flex v bs rest hv hs h hcap

/-- Unknown tags are preserved: on a flexible version the decoded struct carries exactly the unknown tags of the encoded value. -/
theorem unknown_tags_preserved (nullable : Bool) (ff : Option Int) (fs : Fields) (c : Cfg) (flex : Bool) (vals : Vals)
    (unk : List (Nat × Bytes)) (bs rest : Bytes) (hv : 0 ≤ c.ver) (hfl : flexAt ff c.ver = true)
    (hs : schemaOK c.ver (.struct nullable ff fs) = true) (h : enc c.ver flex (.struct nullable ff fs) (.stru vals unk) = some bs)
    (hcap : bs.length + rest.length ≤ c.cap) :
    ∃ vals', dec c flex (.struct nullable ff fs) (bs ++ rest) = .ok (.stru vals' unk) rest := by
  refine ⟨canonFields c.ver true fs vals, ?_⟩
  rw [roundtrip _ c flex _ bs rest hv hs h hcap]
  simp [canon, hfl]

/-- Below its flexible version a struct has no tag section: the unknown tags of the value are not written and the decoder leaves none. -/
theorem no_tags_below_flexible (nullable : Bool) (ff : Option Int) (fs : Fields) (ver : Int) (vals : Vals)
    (unk : List (Nat × Bytes)) (hfl : flexAt ff ver = false) :
    canon ver (.struct nullable ff fs) (.stru vals unk) = .stru (canonFields ver false fs vals) [] := by
  simp [canon, hfl]

/-- What the normal form does field by field: an untagged field that is absent at the version is at its default … -/
theorem canon_absent_field (ver : Int) (flex : Bool) (name : String) (minV : Int) (maxV : Option Int) (d : Dflt) (t : Ty)
    (rest : Fields) (v : Val) (r : Vals) (h : present minV maxV ver = false) :
    canonFields ver flex (.cons name minV maxV none d t rest) (.cons v r) = .cons (dfltVal t d) (canonFields ver flex rest r) := by
  rw [canonFields, h]; rfl

/-- … a present one is recovered (in its own normal form) … -/
theorem canon_present_field (ver : Int) (flex : Bool) (name : String) (minV : Int) (maxV : Option Int) (d : Dflt) (t : Ty)
    (rest : Fields) (v : Val) (r : Vals) (h : present minV maxV ver = true) :
    canonFields ver flex (.cons name minV maxV none d t rest) (.cons v r) = .cons (canon ver t v) (canonFields ver flex rest r) := by
  rw [canonFields, h]; rfl

/-- … and a tagged field is recovered on flexible versions, and is at its default otherwise. -/
theorem canon_tagged_field (ver : Int) (flex : Bool) (name : String) (minV : Int) (maxV : Option Int) (k : Nat) (d : Dflt) (t : Ty)
    (rest : Fields) (v : Val) (r : Vals) :
    canonFields ver flex (.cons name minV maxV (some k) d t rest) (.cons v r) =
      .cons (if flex && !tagIsDefault ver t d v then canon ver t v else dfltVal t d) (canonFields ver flex rest r) := by
  rw [canonFields]

/-- two field-value lists agree on every field that is written at `ver` (absent untagged fields are unconstrained). -/
def SameAt (ver : Int) : Fields → Vals → Vals → Prop
  | .cons _ minV maxV tag _ _ rest, .cons v r, .cons v' r' =>
    ((tag = none ∧ present minV maxV ver = false) ∨ v = v') ∧ SameAt ver rest r r'
  | .nil, .nil, .nil => True
  | _, _, _ => False

/-- **The encoding depends only on the fields present at the version**: changing the value of fields that are absent at `ver`
does not change a single byte. -/
theorem enc_depends_only_on_present (ver : Int) (flex nullable : Bool) (ff : Option Int) (fs : Fields) (vals vals' : Vals)
    (unk : List (Nat × Bytes)) (h : SameAt ver fs vals vals') :
    enc ver flex (.struct nullable ff fs) (.stru vals unk) = enc ver flex (.struct nullable ff fs) (.stru vals' unk) := by
  obtain ⟨k1, k2⟩ := key (flexAt ff ver) fs vals vals' h
  simp only [enc, k1, k2]
where
  key (fl : Bool) : ∀ (fs : Fields) (vals vals' : Vals), SameAt ver fs vals vals' →
      encFields ver fl fs vals = encFields ver fl fs vals' ∧ encTags ver fl fs vals = encTags ver fl fs vals'
    | .nil, .nil, .nil, _ => ⟨rfl, rfl⟩
    | .cons _ minV maxV tag _ _ rest, .cons v r, .cons v' r', h => by
      obtain ⟨i1, i2⟩ := key fl rest r r' h.2
      rcases h.1 with ⟨rfl, e⟩ | rfl
      · simp only [encFields, encTags, i1, i2, e, Option.isSome_none, Bool.not_false, Bool.or_true, if_true, and_self]
      · simp only [encFields, encTags, i1, i2, and_self]
    | .nil, .nil, .cons .., h | .nil, .cons .., _, h | .cons .., .nil, _, h | .cons .., .cons .., .nil, h => h.elim

def versionsOf (top : Top) : List Int := (List.range (top.maxVersion.toNat + 1)).map fun (n : Nat) => (n : Int)

def checkAll : Bool := Gen.Schema.all.all fun top => (versionsOf top).all fun ver => schemaOK ver top.ty

theorem checkAll_true : checkAll = true := by decide +kernel

/-- **Tie T obligation.** Every definition of the current `generate/definitions`, at every version `0..max` it supports, is well
formed in the sense `roundtrip` needs: every array element that is written occupies at least one byte (so `Reader.ArrayLen`'s
"length ≤ remaining bytes" check never refuses a genuine encoding) and the defined tags of every struct are distinct. -/
theorem schema_ok (top : Top) (htop : top ∈ Gen.Schema.all) (ver : Int) (h0 : 0 ≤ ver) (h1 : ver ≤ top.maxVersion) :
    schemaOK ver top.ty = true := by
  have h := checkAll_true
  simp only [checkAll, List.all_eq_true] at h
  have hv : ver ∈ versionsOf top := by
    simp only [versionsOf, List.mem_map, List.mem_range]
    exact ⟨ver.toNat, by omega, by omega⟩
  exact h top htop ver hv

/-- The round trip for every request / response / `not top level` definition of the current tree at every supported version
(definitions read with the version as a parameter; `RecordBatch`'s trailing `length-field-minus` bytes and the types that carry
their own `Version` field go through `decTop`'s extra plumbing and the hand-written `StickyMemberMetadata` through `decSticky`;
those are exercised differentially). -/
theorem roundtrip_generated (top : Top) (htop : top ∈ Gen.Schema.all) (hraw : top.raw = none) (hwv : top.withVersion = false)
    (hname : (top.name == "StickyMemberMetadata") = false) (ver : Int) (h0 : 0 ≤ ver) (h1 : ver ≤ top.maxVersion) (v : Val) (bs rest : Bytes)
    (h : enc ver false top.ty v = some bs) :
    decTop top ver (bs ++ rest) = .ok (canon ver top.ty v) rest := by
  simp only [decTop, hname, hwv, hraw, Bool.false_eq_true, if_false]
  exact roundtrip top.ty { ver := ver, cap := (bs ++ rest).length } false v bs rest h0 (schema_ok top htop ver h0 h1) h
    (by simp)

/-! ### Non-vacuity: a struct with a version-gated field, a string that becomes nullable at v2, a tagged field away from its
default, a versioned-nullable array and an unknown tag, at a flexible version and at a non-flexible one -/

def exTy : Ty := .struct false (some 2) (.cons "A" 0 none none .none (.prim .int32)
  (.cons "B" 1 none none (.int (-1)) (.prim .int64)
  (.cons "S" (-32768) none none .none (.str (.nstr 2))
  (.cons "T" (-32768) none (some 0) (.int 7) (.prim .int16)
  (.cons "L" (-32768) none none .none (.arr (.nullable 1) (.prim .int8)) .nil)))))

def exVal : Val :=
  .stru (.cons (.int 5) (.cons (.int 9) (.cons (.blob none) (.cons (.int 8) (.cons (.list (.cons (.int 1) .nil)) .nil)))))
    [(100, [1, 2])]

example : schemaOK 2 exTy = true ∧
    enc 2 false exTy exVal = some [0, 0, 0, 5, 0, 0, 0, 0, 0, 0, 0, 9, 0, 2, 1, 2, 0, 2, 0, 8, 100, 2, 1, 2] ∧
    Val.beq (canon 2 exTy exVal) exVal = true := by decide +kernel

example : schemaOK 0 exTy = true ∧ enc 0 false exTy exVal = some [0, 0, 0, 5, 0, 0, 0, 0, 0, 1, 1] ∧
    Val.beq (canon 0 exTy exVal)
      (.stru (.cons (.int 5) (.cons (.int (-1)) (.cons (.blob (some [])) (.cons (.int 7) (.cons (.list (.cons (.int 1) .nil)) .nil))))) [])
      = true := by
  decide +kernel

example : SameAt 0 (.cons "A" 0 none none .none (.prim .int32) (.cons "B" 1 none none (.int (-1)) (.prim .int64) .nil))
    (.cons (.int 5) (.cons (.int 9) .nil)) (.cons (.int 5) (.cons (.int 1234) .nil)) := by
  simp [SameAt, present]

example : ∃ top ∈ Gen.Schema.all, top.name = "ApiVersionsResponse" ∧ top.maxVersion = 4 := by decide +kernel

end Props.C15
