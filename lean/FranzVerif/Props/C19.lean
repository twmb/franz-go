import FranzVerif.Model.C19
import FranzVerif.Proof.C19
/-! C19 — property theorems (compression round-trips and decompression is bounded).

PARTIAL by design: the third-party codecs are parameters (`Lib`, `Enc`). Theorems whose statement needs a
fact about a codec take it as a hypothesis and carry the suffix `_partial`; the assumed contracts are
  (K1) `s2.Decode` returns exactly `s2.DecodedLen` bytes,
  (K2) `zstd.DecodeAll` under `WithDecoderMaxMemory(max)` returns at most `max` bytes,
  (K3) the decoders invert the encoders,
  (K4) library calls return (they are total functions here).
Everything else (selection, limit arithmetic, framing, the reference decoders) is proved for all inputs. -/
namespace Props.C19
open Model.C19

/-- `DefaultCompressor` never panics on `c.options[0]`. -/
theorem build_never_panics (prefs : List Pref) : build prefs ≠ .panic := by
  fun_cases build prefs
  -- `c.options[0]`: the list is not empty, so neither are its deduplication and what is cut from it
  case case3 hne _ _ hc =>
    refine absurd hc (Proof.C19.cutNone_ne_nil _ (Proof.C19.dedup_ne_nil _ ?_))
    intro h; simp [h] at hne
  all_goals nofun

/-- zstd is never chosen when `CompressDisableZstd` is passed — for every option list. -/
theorem zstd_never_chosen_when_disabled (opts : List Int) (flags : List Int) (h : 1 ∈ flags) :
    choose opts (disableZstd flags) ≠ 4 := by
  have : disableZstd flags = true := by
    unfold disableZstd
    rw [List.any_eq_true]
    exact ⟨1, h, by decide⟩
  rw [this]
  exact Proof.C19.choose_true_ne_zstd opts

example : choose [4, 4, 2] (disableZstd [2, 1]) = 2 := by decide

/-- The reported codec is the one used: the bytes returned come from the encoder of the reported codec (with
the level of that codec's first occurrence), `CodecNone` returns the input, and the only other outcome is
`CodecError` with nil bytes. -/
theorem reported_codec_is_used (enc : Enc) (prefs : List Pref) (opts flags : List Int) (src : Bytes) :
    let r := compress enc prefs opts flags src
    (r.2 = 0 ∧ r.1 = some src) ∨
    (r.2 = choose opts (disableZstd flags) ∧ r.2 ≠ 0 ∧ r.1 = enc r.2 (levelOf prefs r.2) src ∧ r.1.isSome) ∨
    (r.2 = -1 ∧ r.1 = none) := by
  show (_ ∨ _ ∨ _)
  unfold compress
  by_cases h0 : choose opts (disableZstd flags) = 0
  · left
    simp [h0]
  · cases he : enc (choose opts (disableZstd flags)) (levelOf prefs (choose opts (disableZstd flags))) src with
    | none => right; right; simp [h0, he]
    | some out => right; left; simp [h0, he]

/-- Selection picks the first usable preference: for every preference list over the codecs 0..4, the compressor
built from it chooses `Spec.firstUsable` of the list as written (duplicates, and everything behind a
`NoCompression`, do not matter); when no compressor is built (empty list, or `NoCompression` first) the first
usable preference is "none"; and lists over 0..4 are never rejected as unknown. -/
theorem selection_is_first_usable (prefs : List Pref) (dis : Bool)
    (hv : ∀ p ∈ prefs, 0 ≤ p.codec ∧ p.codec ≤ 4) :
    (∀ opts, build prefs = .comp opts → choose opts dis = Spec.firstUsable (prefs.map Pref.codec) dis) ∧
    (build prefs = .noCompressor → Spec.firstUsable (prefs.map Pref.codec) dis = 0) ∧
    build prefs ≠ .unknownCodec := by
  cases prefs with
  | nil => exact ⟨nofun, fun _ => rfl, nofun⟩
  | cons p ps =>
    obtain ⟨o, rest, hc, hb⟩ := Proof.C19.build_of_valid (List.cons_ne_nil p ps) hv
    have hch := Proof.C19.choose_built (p :: ps) dis
    rw [hc] at hch
    rw [hb]
    by_cases ho : o = 0
    · subst ho
      exact ⟨nofun, fun _ => by simpa [choose] using hch.symm, nofun⟩
    · have ho' : (o == 0) = false := by simpa using ho
      rw [ho']
      exact ⟨fun opts h => by cases h; exact hch, nofun, nofun⟩

example : build [⟨4, 0⟩, ⟨4, 3⟩, ⟨0, 0⟩, ⟨1, 0⟩] = .comp [4, 0] ∧ choose [4, 0] true = 0 ∧
    Spec.firstUsable [4, 4, 0, 1] true = 0 := by decide

/-- The selection clause of the Spec holds of the model. -/
theorem selection_spec (prefs : List Pref) (flags : List Int) (opts : List Int)
    (hv : ∀ p ∈ prefs, 0 ≤ p.codec ∧ p.codec ≤ 4) (hb : build prefs = .comp opts) :
    Spec.selectionOk (prefs.map Pref.codec) (disableZstd flags) (choose opts (disableZstd flags)) = true := by
  have h1 := (selection_is_first_usable prefs (disableZstd flags) hv).1 opts hb
  unfold Spec.selectionOk
  rw [← h1]
  cases hd : disableZstd flags with
  | false => simp
  | true => simp [Proof.C19.choose_true_ne_zstd opts]

/-- gzip / lz4 paths (`io.Copy(out, io.LimitReader(r, max+1))`, `n > max → error`): whatever the library reader
yields - any bytes, any length, clean end or error - the answer is an error or at most `max` bytes, and then exactly
the stream. No assumption about the codec. -/
theorem limited_copy_bounded (max : Nat) (s : Stream) (out : Bytes) (h : limitedCopy max s = .ok out) :
    out.length ≤ max ∧ out = s.bytes ∧ s.clean = true := by
  revert h
  fun_cases limitedCopy max s <;> intro h <;> cases h
  -- the one path that returns data: neither length test fired and the reader ended cleanly
  exact ⟨by omega, rfl, by simpa using ‹¬(!s.clean) = true›⟩

example : limitedCopy 3 ⟨[1, 2, 3, 4], true, false⟩ = .err .tooLarge ∧ limitedCopy 3 ⟨[1, 2, 3], true, false⟩ = .ok [1, 2, 3] := by
  decide

/-- xerial framing: no slice or index of the loop is ever out of range (for every library behaviour, limit, dst
and source), and `xerialDecode` itself does not panic when entered with at least 16 bytes, which is how
`Decompress` enters it (`len(src) > 16`). -/
theorem xerial_never_panics (lib : Lib) (max : Nat) (dst src : Bytes) :
    xerialLoop lib max dst src ≠ .panic ∧ (16 ≤ src.length → xerialDecode lib max dst src ≠ .panic) :=
  ⟨(Proof.C19.xerialLoop_safe lib max dst src).1, Proof.C19.xerialDecode_ne_panic lib max dst src⟩

/-- The documented precondition is real: with fewer than 16 bytes `xerialDecode` does panic (`src[16:]`). -/
example : xerialDecode ⟨fun _ _ => ⟨[], true, false⟩, fun _ => none, fun _ => none, fun _ _ => none⟩ 10 [] [130, 83] = .panic := by
  decide

/-- Malformed framing ⇒ error, never data and never a panic: whenever the loop returns data the source is a
sequence of (4-byte big-endian non-negative int32 length, that many bytes) blocks (`Spec.frames`). -/
theorem xerial_malformed_is_error (lib : Lib) (max : Nat) (dst src : Bytes) (hm : Spec.frames src = none) :
    ∃ e, xerialLoop lib max dst src = .err e := by
  have h := Proof.C19.xerialLoop_safe lib max dst src
  cases hr : xerialLoop lib max dst src with
  | ok out => have := h.2 out hr; rw [hm] at this; cases this
  | err e => exact ⟨e, rfl⟩
  | panic => exact absurd hr h.1

/-- xerial output length ≤ limit, given (K1) `s2.Decode` returns `s2.DecodedLen` bytes. -/
theorem xerial_bounded_partial (lib : Lib) (max : Nat) (hK1 : Proof.C19.DecodeHonoursLen lib) (dst src out : Bytes)
    (hd : dst.length ≤ max) (h : xerialLoop lib max dst src = .ok out) : out.length ≤ max := by
  fun_induction Spec.frames src generalizing dst
  all_goals rw [Proof.C19.xerialLoop_eq] at h; simp only [*, if_true, if_false] at h
  case case1 => cases h; exact hd
  case case4 ih | case5 ih =>
    rcases Proof.C19.afterBlock_eq lib max dst _ _ with ⟨e, he⟩ | ⟨l, chunk, hl, hlim, hdec, he⟩ <;> rw [he] at h
    · cases h
    · -- (K1) the chunk has the claimed length, which fitted
      have := hK1 _ chunk hdec
      rw [hl] at this
      cases this
      exact ih _ (by rw [List.length_append]; omega) h
  all_goals cases h

/-- A well-formed framing of blocks decodes to the concatenation of the blocks' decodings (appended to dst),
for blocks the library decodes (`dec`) and a total within the limit. -/
theorem xerial_wellformed_concat_partial (lib : Lib) (max : Nat) (dec : Bytes → Bytes) (bs : List Bytes) (dst : Bytes)
    (hb : ∀ b ∈ bs, b.length < 2147483648 ∧ lib.snapLen b = some (dec b).length ∧ lib.snapDec b = some (dec b))
    (hmax : dst.length + ((bs.map dec).flatten).length ≤ max) :
    xerialLoop lib max dst (bs.flatMap Proof.C19.frame) = .ok (dst ++ (bs.map dec).flatten) :=
  Proof.C19.xerialLoop_frames lib max dec _ bs dst (Proof.C19.frames_flatMap_frame bs fun b h => (hb b h).1)
    (fun b h => (hb b h).2) hmax

/-- `Decompress` never panics: every codec number, limit and byte string (library calls are total: K4). -/
theorem decompress_never_panics_partial (lib : Lib) (max : Nat) (codec : Int) (src : Bytes) :
    decompress lib max codec src ≠ .panic := by
  fun_cases decompress lib max codec src
  case case2 | case8 => exact Proof.C19.limitedCopy_ne_panic _ _
  -- xerial is entered with more than 16 bytes
  case case3 hx =>
    rw [Bool.and_eq_true, decide_eq_true_eq] at hx
    exact Proof.C19.xerialDecode_ne_panic lib max [] src (by omega)
  all_goals nofun

/-- `Decompress` never returns more than the maximum decompressed size, for every real codec (1..4; `CodecNone`
hands the input back), given (K1) for snappy and (K2) for zstd; gzip and lz4 need no assumption. -/
theorem decompress_bounded_partial (lib : Lib) (max : Nat) (hK1 : Proof.C19.DecodeHonoursLen lib)
    (hK2 : Proof.C19.ZstdHonoursLimit lib) (codec : Int) (hc : codec ≠ 0) (src out : Bytes)
    (h : decompress lib max codec src = .ok out) : out.length ≤ max := by
  revert h
  fun_cases decompress lib max codec src <;> intro h
  case case1 => exact absurd (by simpa using ‹(codec == 0) = true›) hc
  -- gzip, lz4
  case case2 | case8 => exact (limited_copy_bounded _ _ _ h).1
  -- xerial snappy
  case case3 =>
    unfold xerialDecode at h
    split at h
    · cases h
    · exact xerial_bounded_partial lib max hK1 [] _ out (Nat.zero_le _) h
  -- raw snappy: the declared length passed the limit test, and (K1) it is the length
  case case7 l hl _ _ hd =>
    cases h
    have := hK1 src out hd
    rw [hl] at this
    cases this
    omega
  case case10 => cases h; exact hK2 max src out ‹lib.zstd max src = some out›
  all_goals cases h

/-- The Spec's observation clause holds of the model on every input (under K1, K2). -/
theorem decompress_spec_partial (lib : Lib) (max : Nat) (hK1 : Proof.C19.DecodeHonoursLen lib)
    (hK2 : Proof.C19.ZstdHonoursLimit lib) (codec : Int) (hc : codec ≠ 0) (src : Bytes) :
    Spec.boundedOk max (match decompress lib max codec src with
      | .ok out => .ok out.length | .err _ => .err | .panic => .panic) = true := by
  cases h : decompress lib max codec src with
  | ok out => simpa [Spec.boundedOk] using decompress_bounded_partial lib max hK1 hK2 codec hc src out h
  | err e => rfl
  | panic => exact absurd h (decompress_never_panics_partial lib max codec src)

/-- Round trip: for every preference list, flags, and source within the limit, decompressing what `Compress`
returned with the codec it reported gives the source back — given (K3) the libraries' own round trips. -/
theorem roundtrip_partial (enc : Enc) (lib : Lib) (max : Nat) (hrt : Proof.C19.RoundTrips enc lib max)
    (prefs : List Pref) (opts flags : List Int) (hopts : ∀ o ∈ opts, 0 ≤ o ∧ o ≤ 4)
    (src : Bytes) (hlen : src.length ≤ max) (bytes : Bytes)
    (h : (compress enc prefs opts flags src).1 = some bytes) :
    decompress lib max (compress enc prefs opts flags src).2 bytes = .ok src :=
  Proof.C19.roundtrip enc lib max hrt prefs opts flags hopts src hlen bytes h

/-! The reference decoders of `Model.C19` (snappy block, LZ4 frame) are what the driver runs on the real compressor's output as
independent implementations; these two theorems are about them, not about franz-go. -/

/-- Reference snappy decoder: never reads or copies out of range, for every byte string; and what it returns
has exactly the length the block's header declares, which is at most the caller's `limit`. -/
theorem ref_snappy_safe (limit : Nat) (src : Arr) :
    snappyDecode limit src ≠ .panic ∧
    ∀ out, snappyDecode limit src = .ok out → (∃ n, snappyLen src = .ok (out.size, n)) ∧ out.size ≤ limit := by
  unfold snappyDecode
  cases h : snappyLen src with
  | err => exact ⟨nofun, nofun⟩
  | panic => exact absurd h (Proof.C19.snappyLen_ne_panic src)
  | ok r =>
    obtain ⟨dLen, n⟩ := r
    dsimp only
    by_cases hl : dLen > limit
    · rw [if_pos hl]; exact ⟨nofun, nofun⟩
    · rw [if_neg hl]
      have := Proof.C19.snapLoop_safe src dLen (src.size + 1) n (Array.emptyWithCapacity dLen) (Nat.zero_le _)
      rw [Proof.C19.okSize_iff] at this
      refine ⟨this.1, fun out ho => ?_⟩
      have hsz : out.size = dLen := this.2 out ho
      exact ⟨⟨n, by rw [hsz]⟩, by omega⟩

/-- literal "ab", then a copy of 4 bytes from offset 2: "ababab" -/
example : (match snappyDecode 100 #[6, 4, 97, 98, 1, 2] with | .ok o => o.toList | _ => []) = [97, 98, 97, 98, 97, 98] := by
  decide

/-- Reference LZ4 frame decoder: never reads or copies out of range and never returns more than `limit` bytes,
for every byte string and every checksum function. -/
theorem ref_lz4_safe (xxh : Arr → Nat) (limit : Nat) (src : Arr) :
    lz4Frame xxh limit src ≠ .panic ∧ ∀ out, lz4Frame xxh limit src = .ok out → out.size ≤ limit := by
  exact Proof.C19.okSize_iff.mp (Proof.C19.lz4Frame_safe xxh limit src)

/-- a frame with one compressed block holding the literals "abc" (no checksums: checksum function constantly 0) -/
example : (match lz4Frame (fun _ => 0) 100 #[4, 34, 77, 24, 64, 64, 0, 4, 0, 0, 0, 48, 97, 98, 99, 0, 0, 0, 0] with
    | .ok o => o.toList | _ => []) = [97, 98, 99] := by
  decide +kernel

end Props.C19
