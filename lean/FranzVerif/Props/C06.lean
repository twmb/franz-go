import FranzVerif.Model.C06
import FranzVerif.Spec.C06
import FranzVerif.Proof.C06
import FranzVerif.Proof.C06Top
/-! C06 — property theorems: fetch response parsing (`kgo.ProcessFetchPartition`).

Property (properties.jsonl): the parser returns exactly the records a reference decoder of the Kafka log
format yields (offset ≥ requested, in order, every field), drops control records and, under read_committed, the
batches of aborted transactions *whatever order those transactions are listed in*; the returned next offset
never passes an offset that holds an unreturned data record, a truncated trailing batch never advances it, and
arbitrary input bytes never cause a panic.

What is a theorem here (all inputs, no size bound), about `Model.C06` (tied to source.go by the differential run):

* `aborted_order_irrelevant`        the whole result is invariant under permutation of the aborted list;
* `bytes_never_panic`               `processBytes` never returns the panic outcome, for arbitrary bytes, arbitrary
                                    CRC functions and an arbitrary decompressor (every slice / index expression of
                                    the walk, of `readRawRecordsInto`, of the inner walks, the header slab, the
                                    control-key index and the aborter pops are explicit panic points in the model);
* `record_stream_never_panics`      the `readRawRecordsInto` half on its own (the defect fixed in /repo 049c23c:
                                    under the guard `used == 0` an overflowing length varint reaches `in[:total]` with
                                    `total = -5`, see the witness below it);
* `cut_frame_is_silent_stop`, `truncated_tail_ignored`   a frame whose declared length exceeds the remaining bytes
                                    decodes to a silent stop, and a silent stop after any items changes neither
                                    the records, nor the next offset, nor the error;
* `next_offset_monotone`            the returned next offset is never below the requested one.

* `records_eq_reference_partial`     for every list of well-formed frames (v0/v1 messages, compressed v0/v1 wrappers with
                                    offset rebasing, v2 batches incl. compressed, compacted, empty, control and
                                    transactional ones, the last one possibly cut short inside, then a truncated / failing
                                    frame), every requested offset, isolation level and every aborted list *consistent
                                    with the log*: the returned records are exactly `Spec.C06.refRecords` (order, every field);
* `next_never_passes_unreturned_partial`  under the same hypotheses every record the reference decoder yields from the log
                                    (response and beyond) is among the returned ones or lies at/after the next offset;
* `next_within_response`            and the next offset stays at or below the end of the last batch wholly in the response;
* `returned_below_next`             for every input the next offset is past every returned record;
* `spec_holds_partial`              together: the executable predicate `Spec.C06.holds` that the driver evaluates on the
                                    implementation's output holds of the model's result (same hypotheses as the `…_partial` ones).

The `…_partial` theorems carry explicit hypotheses (see "Equality with the reference decoder" below): the frames encode a log whose offsets
increase (`WfLog`), and the aborted list is one a broker can send for that log and fetch offset (`AbortedConsistent`); and they
speak of a partition without an error code (`process o false …`; with one the walk returns before the first frame).
Outside them the property text does not say what the result must be (a list naming a transaction twice, a transaction whose
ABORT marker lies below the fetch offset); the model and the code are compared there by the differential run only.
v1 wrappers stamped LogAppendTime are covered (the departure found here was repaired in /repo 581b089; the model follows). -/
namespace Props.C06
open Model.C06 Proof.C06

/-- The result does not depend on the order in which the response lists the aborted transactions. -/
theorem aborted_order_irrelevant (o : Opts) (kerr : Bool) (A A' : List (Int × Int)) (items : List Item)
    (h : A.Perm A') : process o kerr A items = process o kerr A' items := by
  unfold process
  rw [buildAborter_perm h]

/-- the same on bytes -/
theorem aborted_order_irrelevant_bytes (env : Env) (o : Opts) (kerr : Bool) (A A' : List (Int × Int)) (inp : Bytes)
    (h : A.Perm A') : processBytes env o kerr A inp = processBytes env o kerr A' inp :=
  aborted_order_irrelevant o kerr A A' _ h

example : process ⟨false, true, 0⟩ false [(7, 10), (7, 3), (9, 1)] [] = process ⟨false, true, 0⟩ false [(9, 1), (7, 3), (7, 10)] [] :=
  aborted_order_irrelevant _ _ _ _ _ (by decide)
/-- whatever the listing order, each producer's first offsets are consulted in ascending order (`a[pid][0]`
is the smallest remaining one): this is what makes the order irrelevant -/
theorem aborter_sorted (A : List (Int × Int)) (pid : Int) : (buildAborter A pid).Pairwise (fun a b => a ≤ b) :=
  buildAborter_sorted A pid

/-- `readRawRecordsInto` never evaluates a panicking slice expression. -/
theorem record_stream_never_panics (fuel : Nat) (inp : Bytes) : (decodeAll fuel inp).2 = .stop :=
  (decodeAll_spec fuel inp).1

/-- regression witness for the defect fixed in /repo 049c23c: on `ff ff ff ff 7f 00 00` the length varint
overflows (`used = -5`, `length = 0`), so `total = -5`; with the guard `used == 0` (the code before that commit) the decoder goes on to
`in[:total]`, which is the panic outcome of `sliceTo?`. -/
example : varint [0xff, 0xff, 0xff, 0xff, 0x7f, 0, 0] = (0, -5) := by decide
example : sliceTo? [0xff, 0xff, 0xff, 0xff, 0x7f, 0, 0] (-5 + 0) = none := by decide
/-- with the present guard (`used <= 0`) the same bytes stop the decoder: no record, no panic -/
example : decodeAll 8 [0xff, 0xff, 0xff, 0xff, 0x7f, 0, 0] = ([], .stop) := by decide

/-- Arbitrary input bytes never cause a panic: whatever the bytes, the CRC functions, the decompressor, the
options and the aborted list, the walk never evaluates a panicking slice / index expression. -/
theorem bytes_never_panic (env : Env) (o : Opts) (kerr : Bool) (A : List (Int × Int)) (inp : Bytes) :
    processBytes env o kerr A inp ≠ .panic :=
  (process_sound o kerr A _).1 (frames_itemOk env _ inp)

/-- a frame whose declared length exceeds the bytes that are left (a truncated trailing batch) is a silent stop -/
theorem cut_frame_is_silent_stop (env : Env) (fuel : Nat) (inp : Bytes) (l : Int) (h17 : inp.length > 17)
    (hl : frameLen inp = some l) (hcut : (inp.length : Int) < l) : frames env (fuel + 1) inp = [.stop none] := by
  unfold frames
  simp [hl, hcut, h17]

/-- fewer than 18 bytes left: the loop condition `len(in) > 17` ends the walk -/
theorem short_rest_ends_walk (env : Env) (fuel : Nat) (inp : Bytes) (h17 : ¬ inp.length > 17) : frames env (fuel + 1) inp = [] := by
  unfold frames
  simp [h17]

/-- A truncated trailing batch changes nothing: the records, the next offset and the error are those of the
response without it. -/
theorem truncated_tail_ignored (o : Opts) (kerr : Bool) (A : List (Int × Int)) (items : List Item) :
    process o kerr A (items ++ [.stop none]) = process o kerr A items := by
  unfold process
  simp only [walk_append]
  cases walk o _ items with
  | none => rfl
  | some s =>
    by_cases hh : s.err.isSome ∨ s.stopped
    · simp only [Option.bind_some, walk_halted o s _ hh]
    · simp [walk, stepItem, hh]

/-- The returned next offset never goes below the requested offset (it only ever advances), for every input. -/
theorem next_offset_monotone (o : Opts) (kerr : Bool) (A : List (Int × Int)) (items : List Item)
    (recs : List Rec) (next : Int) (err : Option Err) (h : process o kerr A items = .done recs next err) : o.offset ≤ next :=
  ((process_sound o kerr A items).2 recs next err h).1

/-- the same on bytes -/
theorem next_offset_monotone_bytes (env : Env) (o : Opts) (kerr : Bool) (A : List (Int × Int)) (inp : Bytes)
    (recs : List Rec) (next : Int) (err : Option Err) (h : processBytes env o kerr A inp = .done recs next err) : o.offset ≤ next :=
  next_offset_monotone o kerr A _ recs next err h

/-- non-vacuity: an unknown magic byte at offset 41 moves the next offset from 7 to 42 -/
example : process ⟨false, false, 7⟩ false [] [.badMagic 41] = .done [] 42 (some .unknownMagic) := by decide

/-! ## Equality with the reference decoder, and the next offset

Vocabulary (definitions in `Proof/C06Ref.lean`, written from the Kafka log format, not from source.go):
`Rep it lb` — the decoded frame `it` is the encoding of the log batch `lb` of the Spec; `RepList` lifts it to lists;
`WfLog L` — offsets increase inside every batch and from one batch to the next, records lie inside `[first, last]`, `first ≥ 0`;
`AbortedConsistent o A L` — at every ABORT marker at most one listed transaction of its producer is open, and no listed
transaction was ended by an ABORT marker lying entirely below the requested offset; `obs` — the observable fields of a
returned record; `StopTail tail` — nothing, or a frame that stops the walk (`break` on a truncated frame, a `check()` failure)
followed by anything.

FULL STATEMENTS (not provable as such, kept visible):
  `records_eq_reference`: the conclusion below for *every* aborted list `A`.
  `next_never_passes_unreturned`: likewise.
They fail in the model (and in the code, confirmed by the differential run's malformed stream, kinds 0 and 1) for lists
the property does not speak about: with `A = [(p,5),(p,5)]` the parser keeps the second entry after the ABORT marker of
`p` and drops `p`'s next, committed, transaction, which the order-free definition of the Spec keeps; with a listed
transaction whose ABORT marker lies in a batch entirely below the requested offset the parser never sees that marker.
A broker lists each aborted transaction once and only those that overlap the fetch range, so `AbortedConsistent` is the
weakest hypothesis under which "the batches of aborted transactions" is defined by the list at all; the theorems are named
`…_partial` for that reason. The remaining hypotheses are the well-formedness of the log format itself. -/

open Proof.C06 in
/-- (A) The returned records are exactly those of the reference decoder: the data records with offset ≥ the requested one,
in order, with offset, timestamp, key, value, headers, attributes and producer fields; control records dropped (unless asked
for) and, under read_committed, the batches of aborted transactions dropped. `items` are the frames of the response that are
entirely there (the last one possibly a v2 batch cut short inside), `tail` what follows them. -/
theorem records_eq_reference_partial (o : Opts) (A : List (Int × Int)) (items tail : List Item) (whole : List Spec.C06.LBatch)
    (hrep : RepList items whole) (hwf : WfLog whole) (hcons : AbortedConsistent o A whole)
    (hcomplete : ∀ b ∈ whole.dropLast, b.present = b.records.length) (htail : StopTail tail)
    (recs : List Rec) (next : Int) (err : Option Err) (h : process o false A (items ++ tail) = .done recs next err) :
    recs.map obs = Spec.C06.refRecords (reqOf o A) whole := by
  obtain ⟨_, _, _, h', hrecs, _, _⟩ :=
    process_sim (rest := []) hrep (by simpa using hwf) (by simpa using hcons) hcomplete htail
  obtain ⟨rfl, _, _⟩ := Res.done.inj (h.symm.trans h')
  rw [hrecs]
  simp [Spec.C06.refRecords]

open Proof.C06 in
/-- (B) The returned next offset never passes an offset that holds an unreturned record the consumer must get: every record
the reference decoder yields from the log itself — the batches of the response *in full* (also the records of a batch cut
short that did not make it into the bytes) and the batches `rest` beyond the response — is among the returned records or lies
at/after the next offset. This covers the KAFKA-5443 rule (an empty or tail-compacted batch moves the next offset to its last
offset + 1: nothing unreturned lies below), the batch cut short inside (the rule is not applied) and a walk that stops at a
truncated frame or a `check()` failure. -/
theorem next_never_passes_unreturned_partial (o : Opts) (A : List (Int × Int)) (items tail : List Item)
    (whole rest : List Spec.C06.LBatch)
    (hrep : RepList items whole) (hwf : WfLog (whole ++ rest)) (hcons : AbortedConsistent o A (whole ++ rest))
    (hcomplete : ∀ b ∈ whole.dropLast, b.present = b.records.length) (htail : StopTail tail)
    (recs : List Rec) (next : Int) (err : Option Err) (h : process o false A (items ++ tail) = .done recs next err) :
    ∀ r ∈ Spec.C06.refRecords (reqOf o A) (whole ++ rest) true, r ∈ recs.map obs ∨ next ≤ r.offset := by
  obtain ⟨_, _, _, h', hrecs, ⟨_, hhi⟩, hcut⟩ := process_sim hrep hwf hcons hcomplete htail
  obtain ⟨rfl, rfl, _⟩ := Res.done.inj (h.symm.trans h')
  intro r hr
  obtain ⟨b, hb, hrb⟩ := List.mem_flatMap.mp hr
  obtain ⟨hk, x, hx, hq, rfl⟩ := mem_batchRecords.mp hrb
  simp only [if_true] at hx
  have hq' : o.offset ≤ x.offset := hq
  rcases List.mem_append.mp hb with hbw | hbr
  · -- a batch of the response: the record is among those present, and returned, or the next offset has not passed it
    rw [← List.take_append_drop b.present b.records, List.mem_append] at hx
    rcases hx with hx | hx
    · left
      rw [hrecs]
      exact List.mem_flatMap.mpr ⟨b, hbw, mem_batchRecords.mpr ⟨hk, x, by simpa using hx, hq, rfl⟩⟩
    · right
      have := hcut b hbw x hx
      show next ≤ x.offset
      omega
  · right
    have := ((hwf.batch b hb).inRange x hx).1
    have := hhi x.offset fun b' hb' => by
      have := (List.pairwise_append.mp hwf.ord).2.2 b' hb' b hbr
      omega
    show next ≤ x.offset
    omega

open Proof.C06 in
/-- The next offset is at least the requested one and never beyond the end of the last batch that is wholly in the response:
for every `x` above the last offsets of those batches, `next ≤ max requested x` (a truncated trailing frame adds nothing). -/
theorem next_within_response (o : Opts) (A : List (Int × Int)) (items tail : List Item) (whole : List Spec.C06.LBatch)
    (hrep : RepList items whole) (hwf : WfLog whole) (hcons : AbortedConsistent o A whole)
    (hcomplete : ∀ b ∈ whole.dropLast, b.present = b.records.length) (htail : StopTail tail)
    (recs : List Rec) (next : Int) (err : Option Err) (h : process o false A (items ++ tail) = .done recs next err) :
    o.offset ≤ next ∧ ∀ x, (∀ b ∈ whole, b.last < x) → next ≤ max o.offset x := by
  obtain ⟨_, _, _, h', _, hoff, _⟩ :=
    process_sim (rest := []) hrep (by simpa using hwf) (by simpa using hcons) hcomplete htail
  obtain ⟨_, rfl, _⟩ := Res.done.inj (h.symm.trans h')
  exact hoff

/-- The next offset is past every returned record, for every input (arbitrary frames, options and aborted list). -/
theorem returned_below_next (o : Opts) (kerr : Bool) (A : List (Int × Int)) (items : List Item)
    (recs : List Rec) (next : Int) (err : Option Err) (h : process o kerr A items = .done recs next err) :
    ∀ r ∈ recs, r.offset < next :=
  fun r hr => (((process_sound o kerr A items).2 recs next err h).2.2 r hr).2

open Proof.C06 in
/-- The predicate the driver evaluates on the implementation's output for every generated log, `Spec.C06.holds`, is a theorem
about the model: records equal to the reference, next offset not backwards and past every returned record, no unreturned
record of the log below it, and not beyond the last batch wholly in the response. -/
theorem spec_holds_partial (o : Opts) (A : List (Int × Int)) (items tail : List Item) (whole rest : List Spec.C06.LBatch)
    (hrep : RepList items whole) (hwf : WfLog (whole ++ rest)) (hcons : AbortedConsistent o A (whole ++ rest))
    (hcomplete : ∀ b ∈ whole.dropLast, b.present = b.records.length) (htail : StopTail tail)
    (recs : List Rec) (next : Int) (err : Option Err) (h : process o false A (items ++ tail) = .done recs next err) :
    Spec.C06.holds (reqOf o A) whole rest (recs.map obs) next = true := by
  have hwf' := wfLog_left hwf
  have hcons' := abortedConsistent_left hwf hcons
  have hA := records_eq_reference_partial o A items tail whole hrep hwf' hcons' hcomplete htail recs next err h
  have hB := next_never_passes_unreturned_partial o A items tail whole rest hrep hwf hcons hcomplete htail recs next err h
  have hC := next_within_response o A items tail whole hrep hwf' hcons' hcomplete htail recs next err h
  have hD := returned_below_next o false A _ recs next err h
  simp only [Spec.C06.holds, Bool.and_eq_true, beq_iff_eq, decide_eq_true_eq, List.all_eq_true, Bool.or_eq_true,
    List.contains_iff_mem]
  refine ⟨⟨⟨⟨hA, hC.1⟩, fun r hr => ?_⟩, hB⟩, ?_⟩
  · obtain ⟨x, hx, rfl⟩ := List.mem_map.mp hr
    exact hD x hx
  · have := hC.1
    cases hl : whole.getLast? with
    | none =>
      have := hC.2 o.offset (by rw [List.getLast?_eq_none_iff.mp hl]; simp)
      exact beq_iff_eq.mpr (show next = o.offset by omega)
    | some b =>
      -- every batch of the response ends at or before the last one
      obtain ⟨ys, hys⟩ := List.getLast?_eq_some_iff.mp hl
      subst hys
      refine decide_eq_true (hC.2 _ fun b' hb' => ?_)
      rcases List.mem_append.mp hb' with h1 | h1
      · have := (List.pairwise_append.mp hwf'.ord).2.2 b' h1 b (by simp)
        have := (hwf'.batch b (by simp)).firstLast
        omega
      · cases List.mem_singleton.mp h1; omega

/-- The byte-level fact behind the hypothesis `RepBatch.raw`: every v2 batch the framing walk decodes from bytes holds at
least two bytes per decoded record (so a batch whose claimed count exceeds its decodable records is never mistaken for a
complete one by the clamp `numRecords = len(rawRecords)`). -/
theorem decoded_batch_two_bytes_per_record (env : Env) (rb : RawBatch) :
    2 * (mkBatch env rb).recs.length ≤ (mkBatch env rb).rawLen :=
  (mkBatch_spec env rb).2

/-! Non-vacuity (the log of `Proof/C06Top.lean`): a v1 message at 9; producer 7's aborted transaction at 10..12; plain data
13..15 with a compaction gap and a preserved last offset (LogAppendTime); the ABORT marker (a control record) at 16; a
committed transaction of producer 7 at 17..18; a batch 19..21 cut short after its first record; then a truncated frame.
read_committed fetch at offset 11 (inside the first transactional batch), aborted list `[(7, 10)]`. -/

open Proof.C06 in
/-- the model returns a result on it (the hypothesis `h` of the theorems is satisfiable): the records at 13, 17, 18, 19 — the
aborted 11 and 12 and the marker at 16 are dropped — and a next offset that does not pass the unreturned record at 20 -/
example : ∃ recs next err, process exOpts false exAborted (exItems ++ [.stop none]) = .done recs next err ∧
    (recs.map obs).map (·.offset) = [13, 17, 18, 19] ∧ next ≤ 20 := by
  obtain ⟨recs, next, err, h, hrecs, _, hcut⟩ :=
    process_sim (tail := [.stop none]) ex_rep ex_wf ex_cons ex_complete (Or.inr ⟨none, [], rfl⟩)
  refine ⟨recs, next, err, h, ?_, ?_⟩
  · rw [hrecs]; decide
  · have := hcut exCutBatch (by decide) ⟨20, some 5001, exKey, exVal 20, []⟩ (by decide)
    have h2 : next ≤ max 11 20 := this
    omega

open Proof.C06 in
example : ∀ recs next err, process exOpts false exAborted (exItems ++ [.stop none]) = .done recs next err →
    recs.map obs = Spec.C06.refRecords (reqOf exOpts exAborted) exLog :=
  records_eq_reference_partial exOpts exAborted exItems [.stop none] exLog ex_rep ex_wf_whole ex_cons_whole ex_complete
    (Or.inr ⟨none, [], rfl⟩)

open Proof.C06 in
/-- the reference decoder on that log: four records; in full (with the part of the log beyond the response) seven -/
example : (Spec.C06.refRecords (reqOf exOpts exAborted) exLog).map (·.offset) = [13, 17, 18, 19] := by decide
open Proof.C06 in
example : (Spec.C06.refRecords (reqOf exOpts exAborted) (exLog ++ exRest) true).map (·.offset) = [13, 17, 18, 19, 20, 21, 22] := by decide

open Proof.C06 in
example : ∀ recs next err, process exOpts false exAborted (exItems ++ [.stop none]) = .done recs next err →
    ∀ r ∈ Spec.C06.refRecords (reqOf exOpts exAborted) (exLog ++ exRest) true, r ∈ recs.map obs ∨ next ≤ r.offset :=
  next_never_passes_unreturned_partial exOpts exAborted exItems [.stop none] exLog exRest ex_rep ex_wf ex_cons ex_complete
    (Or.inr ⟨none, [], rfl⟩)

open Proof.C06 in
/-- and the whole predicate of the Spec on that response (the log continues with `exRest` beyond it) -/
example : ∀ recs next err, process exOpts false exAborted (exItems ++ [.stop none]) = .done recs next err →
    Spec.C06.holds (reqOf exOpts exAborted) exLog exRest (recs.map obs) next = true :=
  spec_holds_partial exOpts exAborted exItems [.stop none] exLog exRest ex_rep ex_wf ex_cons ex_complete (Or.inr ⟨none, [], rfl⟩)

/-! A second log (repaired in /repo 581b089, see known_findings): a v1 gzip wrapper stamped LogAppendTime at 39..41 (inner relative
offsets 0 and 2, producer timestamps 77 and 78, broker time 5000) and a v0 message at 42; fetch at 40, inside the wrapper. The
reference — and hence the model — returns 41 with timestamp 5000 and attributes gzip|LogAppendTime, and 42 without timestamp. -/

open Proof.C06 in
example : ∀ recs next err, process exOpts2 false [] exItems2 = .done recs next err →
    recs.map obs = [⟨41, some 5000, exKey, exVal 2, [], 9, -1, -1, -1⟩, ⟨42, none, exKey, exVal 3, [], 128, -1, -1, -1⟩] := by
  intro recs next err h
  have := records_eq_reference_partial exOpts2 [] exItems2 [] exLog2 ex2_rep ex2_wf ex2_cons (by decide) (Or.inl rfl) recs next err
    (by simpa using h)
  rw [this]; decide

open Proof.C06 in
example : process exOpts2 false [] exItems2 = .done
    [⟨41, some 5000, exKey, exVal 2, [], 9, -1, -1, -1⟩, ⟨42, none, exKey, exVal 3, [], 128, -1, -1, -1⟩] 43 none := by decide

end Props.C06
