import FranzVerif.Proof.C16TagLoop
import FranzVerif.Proof.C16Normal
import FranzVerif.Proof.C16Size
import FranzVerif.Proof.C15RoundTrip
import FranzVerif.Gen.Schema
/-! C16 — protocol decoders are total and bounded.

Same model as C15 (`Model.C15.dec` over the schema regenerated from `generate/definitions`); every Go slice expression / index /
`make` of the reader and of the generated decode code goes through `goSplit` / `goMake`, which answer `.panic` where Go would panic.
The driver evaluates the property text on the implementation's output of every `dec` op: no panic, memory reachable from the
decoded value ≤ 4 KiB + 1024·|input|, `UnsafeReadFrom` agrees, re-encode + decode is stable. -/
namespace Props.C16
open Model.C15 Model.C16

/-- **Totality.** For every schema type, version, flexible flag and EVERY byte string: decoding (with `make` capped at the input
length, `c.cap ≥ |src|`) is `ok` or `err`, never a Go panic; and a successful decode never hands back more input than it got. -/
theorem decode_never_panics (t : Ty) (c : Cfg) (flex : Bool) (src : Bytes) (hcap : src.length ≤ c.cap) :
    (∀ m, dec c flex t src ≠ .panic m) ∧ (∀ v r, dec c flex t src = .ok v r → r.length ≤ src.length) :=
  Proof.C16.noPanic t c flex src hcap

/-- Totality of the entry point the harness calls, for every definition of the regenerated schema without the two hand-written
wrappers (`RecordBatch`'s trailing raw bytes and `StickyMemberMetadata` add one `span` / one `readInt` after `dec`; those two
are compared with the implementation by the differential run only). -/
theorem decodeTop_never_panics (top : Top) (ver : Int) (src : Bytes) (hraw : top.raw = none)
    (hname : (top.name == "StickyMemberMetadata") = false) : ∀ m, decTop top ver src ≠ .panic m := by
  intro m
  simp only [decTop, hname, hraw, Bool.false_eq_true, if_false]
  exact (Proof.C16.noPanic top.ty _ false src (Nat.le_refl _)).1 m

/-- **Array lengths are validated against the remaining bytes** (`Reader.ArrayLen`, `CompactArrayLen`, `VarintArrayLen`): the
length that comes back never exceeds the bytes that remain, so `make([]T, l)` is bounded by the input length … -/
theorem array_len_bounded (flex : Bool) (k : AKind) (src : Bytes) (l : Int) (r : Bytes)
    (h : decArrLen flex k src = .ok l r) : l ≤ r.length ∧ r.length ≤ src.length :=
  ⟨Proof.C16.decArrLen_bounded flex k src l r h, (Proof.C16.reads_decArrLen flex k src).cons.weaken (Nat.zero_le 1) l r h⟩

/-- … and every `make` of the decoder stays under the cap. The model's `goMake` panics only on a negative length or one above
the cap (this theorem), and `decode_never_panics` at `cap = |input|` says no such panic is reached: no allocation request exceeds
the input length in elements. -/
theorem alloc_requests_bounded (l : Int) (cap : Nat) (m : String) (h : goMake l cap = .panic m) :
    l < 0 ∨ l.toNat > cap := by
  simp only [goMake] at h
  split at h
  · left; assumption
  · split at h
    · right; assumption
    · cases h

/-- **Memory within a constant factor of the input.** The number of nodes of a successfully decoded value (every array slot,
every field, every unknown tag the decoder materialised) is at most `weight t · (|input| + 1)`, where `weight t` depends on the
schema type only. It needs the schema to be well formed at the version (`Props.C15.schema_ok`: every array element occupies at
least one byte) — without that, nested arrays of zero-width elements would allow a quadratic blow-up that `Reader.ArrayLen`'s
"length ≤ remaining bytes" check alone does not prevent. -/
theorem decoded_size_bounded (t : Ty) (c : Cfg) (flex : Bool) (src : Bytes) (v : Val) (r : Bytes)
    (hs : schemaOK c.ver t = true) (h : dec c flex t src = .ok v r) :
    Proof.C16.nodes v ≤ Proof.C16.weight t * (src.length + 1) := by
  obtain ⟨k, e, _⟩ := (Proof.C16.consT t c flex src).consumed h
  exact Nat.le_trans (Proof.C16.sized t c flex src v r hs h k e) (Nat.mul_le_mul_left _ (by omega))

/-- … and a successful decode consumed at least the minimal width of the type: no element of an array is free. -/
theorem decode_consumes_min_width (t : Ty) (c : Cfg) (flex : Bool) (src : Bytes) (v : Val) (r : Bytes)
    (h : dec c flex t src = .ok v r) : r.length + minW c.ver t ≤ src.length :=
  Proof.C16.consT t c flex src v r h

/-- **A successfully decoded value is already in normal form** at its version (for every schema whose tagged fields are not
versioned-nullable arrays, `schema_tags_ok`): nothing a decoder produces is changed by `canon`. -/
theorem decoded_is_normal_form (t : Ty) (c : Cfg) (flex : Bool) (src : Bytes) (v : Val) (r : Bytes)
    (hok : Proof.C16.tagsOK t = true) (h : dec c flex t src = .ok v r) : canon c.ver t v = v :=
  Proof.C16.canonFix t c flex src v r hok h

/-- Full statement: `decode (encode (decode b)) = decode b` whenever the first decode succeeds.
Proved here with the extra hypothesis that the decoded value is in the encoder's domain (`enc … = some bs`: lengths below the
prefix limits, which decoded values satisfy but which is not proved generically — hence `_partial`): re-encoding the decoded
value and decoding again (with any suffix) gives back exactly the decoded value. The harness computes the same check on the Go
code for every successfully decoded input (`r=1`). -/
theorem reencode_stable_partial (t : Ty) (c : Cfg) (flex : Bool) (src : Bytes) (v : Val) (r bs rest : Bytes)
    (hv : 0 ≤ c.ver) (hs : schemaOK c.ver t = true) (hok : Proof.C16.tagsOK t = true)
    (h : dec c flex t src = .ok v r) (henc : enc c.ver flex t v = some bs) (hcap : bs.length + rest.length ≤ c.cap) :
    dec c flex t (bs ++ rest) = .ok v rest := by
  have h1 := Proof.C15.decEnc t c flex v bs rest hv hs henc hcap
  rw [decoded_is_normal_form t c flex src v r hok h] at h1
  exact h1

def tagsCheck : Bool := Gen.Schema.all.all fun top => Proof.C16.tagsOK top.ty

/-- Tie T obligation: no tagged field of the current definitions is a versioned-nullable array. -/
theorem schema_tags_ok : ∀ top ∈ Gen.Schema.all, Proof.C16.tagsOK top.ty = true :=
  List.all_eq_true.1 (by decide +kernel : tagsCheck = true)

/-! ### Time: the tag-count loop (DESIGN §8-i, repaired in /repo 994d56c) -/

open Proof.C16 in
/-- **The loop is linear**, from any point of it: iterations still to run ≤ remaining bytes + 1, and none on an invalidated
reader (each iteration that leaves the reader valid consumed ≥ 2 bytes, the first one that invalidates it is the last). -/
theorem tag_loop_steps_le (n : Nat) (b : Reader) (t : List (Nat × Bytes)) (s : Nat) :
    (tagLoop n b t s).2.2 ≤ s + (if b.bad then 0 else b.src.length + 1) := by
  induction n generalizing b t s with
  | zero => exact Nat.le_add_right s _
  | succ n ih =>
    rw [tagLoop_succ]
    obtain ⟨src, bad⟩ := b
    cases bad
    · have h := ih (entry ⟨src, false⟩).2.2 (tagSet t (entry ⟨src, false⟩).1 (entry ⟨src, false⟩).2.1) (s + 1)
      simp only [Bool.false_eq_true, if_false]
      cases h3 : (entry ⟨src, false⟩).2.2.bad
      · have := entry_good h3
        simp only [h3, Bool.false_eq_true, if_false] at h
        omega
      · simp only [h3, if_true] at h
        omega
    · exact Nat.le_refl _

/-- **`steps(decode b) ≤ |b| + 1`**: the loop of `internalReadTags` / `ReadTags` / `SkipTags`, as the code runs it (count taken
from the input, `b.Ok()` tested before every iteration), runs at most one iteration more than there are input bytes. (Without the
`b.Ok()` test — the loop before /repo 994d56c — five input bytes make it run 2^32 − 1 iterations.) -/
theorem tag_loop_steps_linear (src : Bytes) : steps src ≤ src.length + 1 := by
  have h := tag_loop_steps_le (Reader.uvarint { src := src, bad := false }).1 (Reader.uvarint { src := src, bad := false }).2 [] 0
  simp only [steps, internalReadTags]
  cases hb : (Reader.uvarint { src := src, bad := false }).2.bad
  · have hl := Proof.C16.Reader.uvarint_good hb
    simp only [hb, Bool.false_eq_true, if_false] at h
    omega
  · simp only [hb, if_true] at h
    omega

/-- Once a read has failed the loop ends at its next test: the reader stays invalidated and the outcome is an error … -/
theorem bad_reader_ends_loop (n : Nat) (b : Reader) (t : List (Nat × Bytes)) (s : Nat) (h : b.bad = true) :
    tagLoop n b t s = (t, b, s) := Proof.C16.tagLoop_bad n b t s h

/-- … which is why the model may end a decode at the first failed read: the loop as the code runs it and `readRawTags` agree. -/
theorem early_exit_justified (n : Nat) (src : Bytes) :
    (∀ l r, readRawTags n src = .ok l r →
      tagLoop n { src := src, bad := false } [] 0 =
        (l.foldl (fun a (e : Nat × Bytes) => tagSet a e.1 e.2) [], { src := r, bad := false }, n)) ∧
    (∀ k, readRawTags n src = .err k → (tagLoop n { src := src, bad := false } [] 0).2.1.bad = true) := by
  constructor
  · intro l r h; simpa using Proof.C16.loop_agrees_ok n src l r [] 0 h
  · intro k h; exact Proof.C16.loop_agrees_err n src k [] 0 h

/-- a well-formed 3-byte flexible message decodes -/
example : decTop { name := "T", kind := "req", key := 0, maxVersion := 1, withVersion := false, raw := none,
                   ty := .struct false (some 0) (.cons "A" 0 none none .none (.prim .int16) .nil) } 0 [0, 7, 0]
          = .ok (.stru (.cons (.int 7) .nil) []) [] :=
  -- it is the encoding of that value, at cap 3
  Proof.C15.decEnc _ ⟨0, 3⟩ false (.stru (.cons (.int 7) .nil) []) [0, 7, 0] [] (by decide) rfl rfl (by decide)

/-- the witness of the unbounded loop (DESIGN §8-i): a tag count of 2^32 − 1 with nothing behind it costs at most 6 iterations -/
example : steps [0xff, 0xff, 0xff, 0xff, 0x0f] ≤ 6 := tag_loop_steps_linear _

example : ∃ l r, decArrLen true .normal [3, 1, 2] = .ok l r ∧ l = 2 := ⟨2, [1, 2], rfl, rfl⟩

end Props.C16
