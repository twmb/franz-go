import FranzVerif.Model.C28
import FranzVerif.Spec.C28
import FranzVerif.Proof.C28
import FranzVerif.Proof.C28Sel
/-! C28 — property theorems: "Partitioners pick valid, Kafka-compatible partitions".

`Model.C28` is the transcription of pkg/kgo/partitioner.go (tied to the code by the differential run),
`Spec.C28` is the independent statement (Java `Utils.murmur2` / `toPositive` / `% numPartitions` over
`Nat` with explicit `mod 2^32`, Sarama's signed formula, index range, key consistency).
Every `rand` draw is universally quantified (`raw`, `draws`); `Intn(n)` is `raw % n`. -/
namespace Props.C28
open Model.C28 Spec.C28 Proof.C28

/-! ### murmur2 is the Java client's murmur2, for every key (no bound on the length) -/

/-- Go `murmur2` (BitVec 32, slice-consuming loop, unsigned bytes) = Java `Utils.murmur2` (index loop,
signed bytes masked with 0xff, int arithmetic as explicit `mod 2^32`), as 32-bit residues. -/
theorem murmur2_eq_java (key : List UInt8) : (murmur2 key).toNat = murmur2U key :=
  murmur2_toNat key

/-- … and as the signed Java `int`. -/
theorem murmur2_eq_java_int (key : List UInt8) : (murmur2 key).toInt = murmur2Java key := by
  have hlt := (murmur2 key).isLt
  rw [BitVec.toInt_eq_toNat_cond, murmur2Java, ← murmur2_toNat, toInt32]
  split <;> split <;> omega

example : murmur2 [] ≠ murmur2 [0] := by decide

/-- The Spec's Java transcription reproduces the vectors of Kafka's `UtilsTest.testMurmur2`
("21", "foobar", "a-little-bit-long-string", "a-little-bit-longer-string",
"lkjh234lh9fiuh90y23oiuhsafujhadof229phr9h19h89h8", "abc"), as remembered; checked by the kernel. -/
example : murmur2Java [0x32, 0x31] = -973932308 := by decide
example : murmur2Java [0x66, 0x6f, 0x6f, 0x62, 0x61, 0x72] = -790332482 := by decide
example : murmur2Java [0x61, 0x2d, 0x6c, 0x69, 0x74, 0x74, 0x6c, 0x65, 0x2d, 0x62, 0x69, 0x74, 0x2d, 0x6c, 0x6f, 0x6e, 0x67, 0x2d, 0x73, 0x74, 0x72, 0x69, 0x6e, 0x67] = -985981536 := by decide
example : murmur2Java [0x61, 0x2d, 0x6c, 0x69, 0x74, 0x74, 0x6c, 0x65, 0x2d, 0x62, 0x69, 0x74, 0x2d, 0x6c, 0x6f, 0x6e, 0x67, 0x65, 0x72, 0x2d, 0x73, 0x74, 0x72, 0x69, 0x6e, 0x67] = -1486304829 := by decide
example : murmur2Java [0x6c, 0x6b, 0x6a, 0x68, 0x32, 0x33, 0x34, 0x6c, 0x68, 0x39, 0x66, 0x69, 0x75, 0x68, 0x39, 0x30, 0x79, 0x32, 0x33, 0x6f, 0x69, 0x75, 0x68, 0x73, 0x61, 0x66, 0x75, 0x6a, 0x68, 0x61, 0x64, 0x6f, 0x66, 0x32, 0x32, 0x39, 0x70, 0x68, 0x72, 0x39, 0x68, 0x31, 0x39, 0x68, 0x38, 0x39, 0x68, 0x38] = -58897971 := by decide
example : murmur2Java [0x61, 0x62, 0x63] = 479470107 := by decide

/-! ### hashers: formulas, for every hash value / key and every n ≥ 1 -/

/-- `KafkaHasher(f)(key, n) = toPositive(int32 f(key)) % n` (sign bit masked, then modulo), never panics. -/
theorem kafkaHasher_formula (h : BitVec 32) (n : Int) (hn : 1 ≤ n) :
    kafkaHasher h n = some (kafkaOfHash h.toNat n) := by
  have hlt := h.isLt
  unfold kafkaHasher kafkaOfHash toPositive toInt32
  rw [if_neg (by omega), and_mask, Int.tmod_eq_emod_of_nonneg (by omega)]
  congr 2
  split <;> omega

/-- The default key hasher picks exactly the Java client's partition:
`toPositive(Utils.murmur2(key)) % numPartitions`. -/
theorem default_hasher_is_java (key : List UInt8) (n : Int) (hn : 1 ≤ n) :
    defaultHasher key n = some (kafkaPartition key n) := by
  unfold defaultHasher
  rw [kafkaHasher_formula _ _ hn, murmur2_toNat]
  unfold kafkaOfHash kafkaPartition murmur2Java
  rfl

example : (1 : Int) ≤ 2147483647 := by decide

/-- `SaramaCompatHasher(f)(key, n) = |int32 f(key)| mod n` (Sarama's signed remainder then negate),
for every partition count an int32 can hold. -/
theorem saramaCompat_formula (h : BitVec 32) (n : Int) (hn : 1 ≤ n) (hn2 : n ≤ 2147483647) :
    saramaCompatHasher h n = some (saramaPartition h.toNat n) := by
  unfold saramaCompatHasher saramaPartition
  dsimp only
  rw [i32_id n (by omega) (by omega), i32_u _ h.isLt, if_neg (by omega)]
  generalize toInt32 h.toNat = s
  have hr := emod_range (if s < 0 then -s else s) n hn
  rw [← abs_tmod s n (by omega)] at hr ⊢
  -- the negated remainder is below `n`, so int32 holds it
  split
  · rw [i32_id _ (by omega) (by omega)]
  · rfl

/-- The int32 boundary is where Sarama differs from Kafka: hash 0x80000000, n = 3. -/
example : saramaCompatHasher 0x80000000#32 3 = some 2 ∧ kafkaHasher 0x80000000#32 3 = some 0 := by decide

/-- `SaramaHasher(f)(key, n)` on a 64-bit platform is the unsigned hash modulo n. -/
theorem sarama_formula (h : BitVec 32) (n : Int) (hn : 1 ≤ n) :
    saramaHasher h n = some (unsignedPartition h.toNat n) := by
  unfold saramaHasher unsignedPartition
  rw [if_neg (by omega)]
  dsimp only
  rw [abs_tmod _ n (by omega), if_neg (by omega)]

/-- Every built-in hasher, over any hash function, never panics and returns an index in `[0,n)`. -/
theorem kafka_hasher_ok (f : List UInt8 → BitVec 32) : HasherOk (fun k n => kafkaHasher (f k) n) := by
  intro k n hn _
  exact ⟨_, kafkaHasher_formula _ _ hn, emod_range _ _ hn⟩

theorem default_hasher_ok : HasherOk defaultHasher := kafka_hasher_ok murmur2

theorem sarama_hasher_ok (f : List UInt8 → BitVec 32) : HasherOk (fun k n => saramaHasher (f k) n) := by
  intro k n hn _
  exact ⟨_, sarama_formula _ _ hn, emod_range _ _ hn⟩

theorem saramaCompat_hasher_ok (f : List UInt8 → BitVec 32) : HasherOk (fun k n => saramaCompatHasher (f k) n) := by
  intro k n hn hn2
  exact ⟨_, saramaCompat_formula _ _ hn hn2, emod_range _ _ hn⟩

/-! ### every partitioner, every op sequence: every pick is in `[0, n)` -/

/-- One call from any state satisfying the invariant (current index is −1 or ≥ 0, possibly ≥ the new `n`:
the count may have shrunk): no panic, the pick is in `[0,n)`, the invariant is kept. -/
theorem each_call_in_range (k : PKind) (s : PState) (r : Rec) (n : Int) (mapping : List Int) (draws : List Nat)
    (hk : KindOk k) (hs : Inv k s) (hv : OpValid k (.part r n mapping draws)) :
    ∃ s' p, k.partitionN s r n (Iter.ofMapping mapping) draws = .ok s' p ∧ Inv k s' ∧ 0 ≤ p ∧ p < n :=
  part_ok k s r n mapping draws hk hs hv

/-- For every partitioner satisfying `KindOk` (the built-in ones with a built-in hasher, `ManualPartitioner`
excepted: see the `example` on `PKind.manual` below), every sequence of partition calls and
`OnNewBatch` events — any records, any `n_i ∈ [1, 2^31−1]` growing or shrinking arbitrarily, any
buffered-record counts, any random draws — the run never panics and every pick lies in `[0, n_i)`. -/
theorem every_pick_in_range (k : PKind) (hk : KindOk k) (ops : List Op) (hv : ∀ op ∈ ops, OpValid k op) :
    ∃ picks, k.run k.init ops = some picks ∧ ∀ t ∈ picks, 0 ≤ t.2.2 ∧ t.2.2 < t.2.1 := by
  obtain ⟨picks, e, h⟩ := run_calls k hk ops k.init (init_inv k) hv
  exact ⟨picks, e, fun t ht => ⟨(h t ht).1, (h t ht).2.1⟩⟩

/-- Model ⇒ Spec on whole traces: the observations of every such run satisfy the executable Spec the
driver evaluates on the implementation (`traceOk`: range, equal key and n ⇒ equal pick, and the key
rule's formula whenever the configured hasher computes it). -/
theorem run_meets_spec (k : PKind) (hk : KindOk k) (rule : KeyRule) (hr : RuleOk k rule) (ops : List Op)
    (hv : ∀ op ∈ ops, OpValid k op) :
    ∃ picks, k.run k.init ops = some picks ∧ traceOk rule [] (picks.map toObs) = true := by
  obtain ⟨picks, e, h⟩ := run_calls k hk ops k.init (init_inv k) hv
  exact ⟨picks, e, traceOk_of_calls k rule hr _ [] nofun (List.forall_mem_map.2 h)⟩

/-- The rules the driver uses are the ones the configured hashers compute. -/
theorem rule_default_stickyKey : RuleOk (.stickyKey defaultHasher) .kafkaDefault := by
  intro key n f hn _ h
  cases h
  exact default_hasher_is_java key n hn

theorem rule_default_uniformBytes (c : UBCfg) (hh : c.hasher = defaultHasher) : RuleOk (.uniformBytes c) .kafkaDefault := by
  intro key n f hn _ h
  cases h
  simp only [kindHasher, hh]
  exact default_hasher_is_java key n hn

theorem rule_saramaCompat_stickyKey :
    RuleOk (.stickyKey (fun k n => saramaCompatHasher (fnv32a k) n)) .saramaFnv := by
  intro key n f hn hn2 h
  cases h
  simp only [kindHasher]
  rw [saramaCompat_formula _ _ hn hn2, fnv_eq]

theorem rule_sarama_stickyKey :
    RuleOk (.stickyKey (fun k n => saramaHasher (fnv32a k) n)) .unsignedFnv := by
  intro key n f hn _ h
  cases h
  simp only [kindHasher]
  rw [sarama_formula _ _ hn, fnv_eq]

/-- non-vacuity: a least-backup sequence whose `n` shrinks from 3 to 2 below the current index. -/
example : OpValid .leastBackup (.part ⟨none, 0, [], 0⟩ 3 [5, 5, 0] [1]) ∧
    OpValid .leastBackup (.part ⟨none, 0, [], 0⟩ 2 [5, 5] []) ∧
    PKind.run .leastBackup (PKind.init .leastBackup)
      [.part ⟨none, 0, [], 0⟩ 3 [5, 5, 0] [1], .part ⟨none, 0, [], 0⟩ 2 [5, 5] [1]] = some [(none, 3, 2), (none, 2, 1)] := by
  refine ⟨⟨by decide, by decide, fun _ => ⟨by decide, by decide⟩⟩, ⟨by decide, by decide, fun _ => ⟨by decide, by decide⟩⟩, by decide⟩

example : KindOk (.stickyKey defaultHasher) := default_hasher_ok

/-! ### equal keys ⇒ equal partition (for equal n), whatever happened before -/

/-- Sticky-key: a keyed record's pick depends only on (key, n): not on the state, not on the draws. -/
theorem stickyKey_keyed_ignores_state (h : Hasher) (s₁ s₂ : Sticky) (key : List UInt8) (n : Int) (raw₁ raw₂ : Nat) :
    (stickyKeyPartition h s₁ (some key) n raw₁).pick? = (stickyKeyPartition h s₂ (some key) n raw₂).pick? := by
  unfold stickyKeyPartition
  dsimp only
  cases h key n <;> rfl

/-- Uniform-bytes with `keys = true`: the same. -/
theorem uniformBytes_keyed_ignores_state (c : UBCfg) (hkeys : c.keys = true) (s₁ s₂ : UB) (r₁ r₂ : Rec)
    (key : List UInt8) (h₁ : r₁.key = some key) (h₂ : r₂.key = some key) (n : Int) (it₁ it₂ : Iter) (raw₁ raw₂ : Nat) :
    (s₁.partitionByBackup c r₁ n it₁ raw₁).pick? = (s₂.partitionByBackup c r₂ n it₂ raw₂).pick? := by
  unfold UB.partitionByBackup
  rw [hkeys, h₁, h₂]
  simp only [↓reduceIte]
  cases c.hasher key n <;> rfl

/-- With the default hasher a keyed record goes where the Java client sends it. -/
theorem stickyKey_default_is_java (s : Sticky) (key : List UInt8) (n : Int) (raw : Nat) (hn : 1 ≤ n) :
    (stickyKeyPartition defaultHasher s (some key) n raw).pick? = some (kafkaPartition key n) := by
  unfold stickyKeyPartition
  simp only [default_hasher_is_java key n hn, Outcome.pick?]

theorem uniformBytes_default_is_java (c : UBCfg) (hkeys : c.keys = true) (hh : c.hasher = defaultHasher) (s : UB)
    (r : Rec) (key : List UInt8) (h₁ : r.key = some key) (n : Int) (it : Iter) (raw : Nat) (hn : 1 ≤ n) :
    (s.partitionByBackup c r n it raw).pick? = some (kafkaPartition key n) := by
  unfold UB.partitionByBackup
  rw [hkeys, h₁, hh]
  simp only [↓reduceIte, default_hasher_is_java key n hn, Outcome.pick?]

/-! ### `RequiresConsistency` is true exactly for the records the partitioner hashes

`PKind.obsKey` is the key the key logic of `Partition` / `PartitionByBackup` sees (the scrutinee of their
`if r.Key != nil` / `if p.u.keys && r.Key != nil` branch).  For the five partitioners with state,
`RequiresConsistency(r)` holds iff that branch is taken; when it is taken the pick is the hasher's answer
from every state, when it is not the hasher is never consulted.  `BasicConsistentPartitioner` /
`ManualPartitioner` always require consistency (their pick is a function of the record and `n` alone). -/

theorem requiresConsistency_iff_hashed (k : PKind) (hb : k.isBasic = false) (r : Rec) :
    k.requiresConsistency r = true ↔ ∃ key, k.obsKey r = some key := by
  rw [requiresConsistency_eq, hb, Bool.or_false, Option.isSome_iff_exists]

theorem basic_requires_consistency (f : Rec → Int → Option Int) (r : Rec) :
    (PKind.basic f).requiresConsistency r = true := rfl

/-- a record that requires consistency under a stateful partitioner is mapped by the hasher alone:
every state, every backup iterator, every random draw give `hasher(key, n)`, and the state is not touched. -/
theorem consistent_record_is_hashed (k : PKind) (hk : KindOk k) (hb : k.isBasic = false) (r : Rec)
    (hrc : k.requiresConsistency r = true) :
    ∃ key, r.key = some key ∧ ∀ (s : PState), Inv k s → ∀ (n : Int), 1 ≤ n → n ≤ 2147483647 →
      ∀ (it : Iter) (draws : List Nat),
        ∃ p, kindHasher k key n = some p ∧ 0 ≤ p ∧ p < n ∧ k.partitionN s r n it draws = .ok s p := by
  obtain ⟨key, hkey⟩ := (requiresConsistency_iff_hashed k hb r).mp hrc
  refine ⟨key, ?_, fun s hs n hn hn2 it draws =>
    have ⟨p, hp, h0, h1, h⟩ := keyed_partitionN k hk r key hkey n hn hn2
    ⟨p, hp, h0, h1, h s hs it draws⟩⟩
  cases k with
  | stickyKey h => exact hkey
  | uniformBytes c =>
    simp only [PKind.obsKey] at hkey
    cases hc : c.keys <;> simp [hc] at hkey
    exact hkey
  | _ => simp [PKind.obsKey] at hkey

/-- a record that does not require consistency is partitioned without the hasher: any other hasher gives
the same outcome (pick and successor state). -/
theorem inconsistent_record_is_not_hashed (k : PKind) (r : Rec) (hrc : k.requiresConsistency r = false)
    (h' : Hasher) (s : PState) (n : Int) (it : Iter) (draws : List Nat) :
    (k.withHasher h').partitionN s r n it draws = k.partitionN s r n it draws := by
  apply unhashed_ignores_hasher
  rw [requiresConsistency_eq] at hrc
  cases ho : k.obsKey r with
  | none => rfl
  | some key => simp [ho] at hrc

/-- an empty, non-nil key is a key: sticky-key and uniform-bytes (keys on) require consistency for it. -/
example : (PKind.stickyKey defaultHasher).requiresConsistency ⟨some [], 0, [], 0⟩ = true ∧
    (PKind.uniformBytes ⟨65536, true, true, defaultHasher⟩).requiresConsistency ⟨some [], 0, [], 0⟩ = true ∧
    (PKind.uniformBytes ⟨65536, true, false, defaultHasher⟩).requiresConsistency ⟨some [], 0, [], 0⟩ = false ∧
    (PKind.uniformBytes ⟨65536, true, true, defaultHasher⟩).requiresConsistency ⟨none, 0, [], 0⟩ = false := by
  decide

/-! ### the client around the partitioner (`doPartition`): key consistency across leader outages -/

/-- For a record that requires consistency `doPartition` never reads `writablePartitions`: replacing the
writable subset by any other list leaves the whole outcome unchanged (every partitioner, every state). -/
theorem consistent_record_ignores_writable (k : PKind) (s : PState) (t : TopicData) (w : List Part) (r : Rec)
    (d₁ d₂ : List Nat) (h : k.requiresConsistency r = true) :
    k.doPartition s { t with writable := w } r d₁ d₂ = k.doPartition s t r d₁ d₂ := by
  unfold PKind.doPartition
  simp only [mappingOf_consistent k r _ h]

/-- **Keyed records.**  Every partitioner with key logic and a well-behaved hasher, every state, every record
whose key is non-nil (the empty key included) and seen by the key logic, every topic with
`1 ≤ len(partitions) ≤ 2^31-1` numbered `0 … len-1`, **every** `writablePartitions` (no hypothesis on it),
every buffered count, batch state and random draw: the record is handed to the partition whose *number* is
`hasher(key, len(partitions))`, looked up in *all* partitions. -/
theorem keyed_record_partition (k : PKind) (hk : KindOk k) (s : PState) (hs : Inv k s) (r : Rec) (key : List UInt8)
    (hkey : k.obsKey r = some key) (t : TopicData) (hf : t.fatalLoadErr = false)
    (h1 : 1 ≤ t.partitions.length) (h2 : t.partitions.length ≤ 2147483647) (hnum : Numbered t.partitions)
    (d₁ d₂ : List Nat) :
    ∃ s' part b, k.doPartition s t r d₁ d₂ = .placed s' part b ∧ Inv k s' ∧
      kindHasher k key t.partitions.length = some (part.num : Int) ∧ t.partitions[part.num]? = some part := by
  have hmap := mappingOf_consistent k r t (rc_of_obsKey k r key hkey)
  obtain ⟨p, part, hp, hnumeq, hget, hpick⟩ := pickFrom_keyed k hk r key hkey t.partitions h1 h2 hnum
  -- both picks are the hasher's
  rcases doPartition_of_picks k s s (k.onNewBatch s) t r d₁ d₂ part part hf (by rw [hmap]; omega)
    (hmap ▸ hpick s hs d₁) (hmap ▸ hpick _ (newBatch_inv k s hs) d₂) with h | h
  · exact ⟨_, _, _, h, hs, by rw [hp, hnumeq], hget⟩
  · exact ⟨_, _, _, h, newBatch_inv k s hs, by rw [hp, hnumeq], hget⟩

/-- … which for the default hasher is the partition the Java client picks over the topic's partition count:
`toPositive(murmur2(key)) % len(allPartitions)`, whatever subset is writable. -/
theorem keyed_record_goes_to_java_partition (k : PKind) (hk : KindOk k) (hr : RuleOk k .kafkaDefault)
    (s : PState) (hs : Inv k s) (r : Rec) (key : List UInt8) (hkey : k.obsKey r = some key) (t : TopicData)
    (hf : t.fatalLoadErr = false) (h1 : 1 ≤ t.partitions.length) (h2 : t.partitions.length ≤ 2147483647)
    (hnum : Numbered t.partitions) (d₁ d₂ : List Nat) :
    ∃ s' part b, k.doPartition s t r d₁ d₂ = .placed s' part b ∧
      (part.num : Int) = toPositive (murmur2Java key) % (t.partitions.length : Int) := by
  obtain ⟨s', part, b, e, _, hh, _⟩ := keyed_record_partition k hk s hs r key hkey t hf h1 h2 hnum d₁ d₂
  refine ⟨s', part, b, e, ?_⟩
  have := hr key t.partitions.length _ (by omega) (by omega) rfl
  rw [hh] at this
  exact Option.some.inj this

/-- **Equal keys map to the same partition across leader outages** (Model ⇒ Spec): two records with the
same key, produced at two moments of the same topic (same partition count; *different* writable subsets,
buffered counts, batch states, partitioner states and random draws), are placed on the same partition
number, and the second observation satisfies the Spec `selOk` the driver evaluates, given the first. -/
theorem equal_keys_same_partition_across_outage (k : PKind) (hk : KindOk k) (rule : KeyRule) (hr : RuleOk k rule)
    (key : List UInt8) (s₁ s₂ : PState) (hs₁ : Inv k s₁) (hs₂ : Inv k s₂) (r₁ r₂ : Rec)
    (hk₁ : k.obsKey r₁ = some key) (hk₂ : k.obsKey r₂ = some key) (t₁ t₂ : TopicData)
    (hf₁ : t₁.fatalLoadErr = false) (hf₂ : t₂.fatalLoadErr = false)
    (hlen : t₂.partitions.length = t₁.partitions.length)
    (h1 : 1 ≤ t₁.partitions.length) (h2 : t₁.partitions.length ≤ 2147483647)
    (hn₁ : Numbered t₁.partitions) (hn₂ : Numbered t₂.partitions) (d₁ d₂ e₁ e₂ : List Nat) :
    ∃ s₁' p₁ b₁ s₂' p₂ b₂,
      k.doPartition s₁ t₁ r₁ d₁ d₂ = .placed s₁' p₁ b₁ ∧ k.doPartition s₂ t₂ r₂ e₁ e₂ = .placed s₂' p₂ b₂ ∧
      p₁.num = p₂.num ∧
      selOk rule [⟨some key, t₁.partitions.length, t₁.writable.map (fun p => (p.num : Int)), p₁.num⟩]
        ⟨some key, t₂.partitions.length, t₂.writable.map (fun p => (p.num : Int)), p₂.num⟩ = true := by
  obtain ⟨s₁', p₁, b₁, e₁', _, hh₁, _⟩ := keyed_record_partition k hk s₁ hs₁ r₁ key hk₁ t₁ hf₁ h1 h2 hn₁ d₁ d₂
  obtain ⟨s₂', p₂, b₂, e₂', _, hh₂, hg₂⟩ :=
    keyed_record_partition k hk s₂ hs₂ r₂ key hk₂ t₂ hf₂ (by omega) (by omega) hn₂ e₁ e₂
  have hsame : p₁.num = p₂.num := by
    rw [hlen, hh₁] at hh₂
    have := Option.some.inj hh₂
    omega
  have hlt : p₂.num < t₂.partitions.length := by
    have := List.getElem?_eq_some_iff.mp hg₂
    exact this.1
  refine ⟨s₁', p₁, b₁, s₂', p₂, b₂, e₁', e₂', hsame, ?_⟩
  simp only [selOk, selKeyedOk, inRange, Bool.and_eq_true, decide_eq_true_eq, List.all_cons, List.all_nil,
    Bool.and_true]
  refine ⟨⟨by omega, by omega⟩, ?_, ?_⟩
  · simp [hsame]
  · exact ruleHolds_of_hasher k rule hr key _ _ (by omega) (by omega) hh₂

/-- **Every record.**  Every partitioner satisfying `KindOk` (not `ManualPartitioner`), every state, every record, every
topic whose writable partitions are a sub-list of its `1 … 2^31-1` partitions: `doPartition` never panics,
never fails the record, and hands it to a partition of the topic — a *writable* one whenever the record
does not require consistency and some partition is writable. -/
theorem every_record_is_placed (k : PKind) (hk : KindOk k) (s : PState) (hs : Inv k s) (r : Rec) (t : TopicData)
    (hf : t.fatalLoadErr = false) (hm : MappingOk t.partitions) (hsub : t.writable.Sublist t.partitions)
    (d₁ d₂ : List Nat) :
    ∃ s' part b, k.doPartition s t r d₁ d₂ = .placed s' part b ∧ Inv k s' ∧ part ∈ t.partitions ∧
      (k.requiresConsistency r = false → t.writable ≠ [] → part ∈ t.writable) := by
  have hmw : t.writable ≠ [] → MappingOk t.writable := fun hne =>
    ⟨List.length_pos_iff.mpr hne, by have := hsub.length_le; have := hm.2.1; omega, fun p hp => hm.2.2 p (hsub.subset hp)⟩
  have hmap : MappingOk (k.mappingOf r t) ∧ (∀ p ∈ k.mappingOf r t, p ∈ t.partitions) ∧
      (k.requiresConsistency r = false → t.writable ≠ [] → k.mappingOf r t = t.writable) := by
    unfold PKind.mappingOf
    by_cases hrc : k.requiresConsistency r = true
    · rw [if_pos hrc]; exact ⟨hm, fun _ h => h, fun h => by rw [hrc] at h; cases h⟩
    · rw [if_neg hrc]
      by_cases hw : t.writable = []
      · rw [if_pos ⟨by simp [hw], by have := hm.1; omega⟩]
        exact ⟨hm, fun _ h => h, fun _ h => absurd hw h⟩
      · rw [if_neg fun h => hw (List.eq_nil_of_length_eq_zero h.1)]
        exact ⟨hmw hw, fun p hp => hsub.subset hp, fun _ _ => rfl⟩
  obtain ⟨s', part, b, e, hi, hmem⟩ := doPartition_ok k hk s hs r t hf hmap.1 d₁ d₂
  refine ⟨s', part, b, e, hi, hmap.2.1 part hmem, fun h1 h2 => ?_⟩
  rw [hmap.2.2 h1 h2] at hmem
  exact hmem

/-- `ManualPartitioner` / `BasicConsistentPartitioner`: the function's answer indexes all partitions (or the
record is failed as an invalid choice); `writablePartitions` is never read. -/
theorem basic_record_partition (f : Rec → Int → Option Int) (t : TopicData) (hf : t.fatalLoadErr = false)
    (h1 : 1 ≤ t.partitions.length) (r : Rec) (p : Int) (hp : f r t.partitions.length = some p) (d₁ d₂ : List Nat) :
    (PKind.basic f).doPartition .unit t r d₁ d₂ =
      if doPartitionRejects p t.partitions.length then .failInvalid p t.partitions.length
      else match t.partitions[p.toNat]? with
        | none => .panic
        | some part => .placed .unit part false := by
  unfold PKind.doPartition
  simp only [hf, mappingOf_consistent (.basic f) r t rfl, Bool.false_eq_true, if_false]
  rw [if_neg (by omega)]
  unfold PKind.pickFrom
  simp only [PKind.partitionN, hp]
  by_cases hr : doPartitionRejects p t.partitions.length = true
  · simp [hr]
  · simp only [hr, Bool.false_eq_true, if_false]
    cases t.partitions[p.toNat]? with
    | none => rfl
    | some part => simp [PKind.hasOnNewBatch]

/-- Non-vacuity, and the case the text singles out ("all keys, including nil and empty"): the default
partitioner (uniform bytes, keys on, default hasher), a record with an **empty non-nil key**, a topic of four
partitions.  With every partition writable and with partition 3 leaderless the record goes to partition 1
(`murmur2("") = 275646681`, `275646681 % 4 = 1`, the Java client's pick); hashing over the three writable
partitions instead would have sent it to partition 0. -/
example :
    let k := PKind.uniformBytes ⟨65536, true, true, defaultHasher⟩
    let r : Rec := ⟨some [], 1, [], 0⟩
    let p0 : Part := ⟨0, 0, .newBatch⟩
    let p1 : Part := ⟨1, 2, .fits⟩
    let p2 : Part := ⟨2, 0, .newBatch⟩
    let p3 : Part := ⟨3, 7, .fits⟩
    (k.doPartition k.init ⟨false, [p0, p1, p2, p3], [p0, p1, p2, p3]⟩ r [] []).part? = some p1 ∧
    (k.doPartition k.init ⟨false, [p0, p1, p2, p3], [p0, p1, p2]⟩ r [] []).part? = some p1 ∧
    (k.doPartition k.init ⟨false, [p0, p1, p2, p3], []⟩ r [] []).part? = some p1 ∧
    k.requiresConsistency r = true ∧ k.obsKey r = some [] ∧
    kafkaPartition [] 4 = 1 ∧ defaultHasher [] 3 = some 0 ∧
    Numbered [p0, p1, p2, p3] := by
  refine ⟨by decide, by decide, by decide, by decide, by decide, by decide, by decide, by unfold Numbered; decide⟩

/-- the same topic, a nil key: the record avoids the leaderless partition. -/
example :
    let k := PKind.uniformBytes ⟨65536, false, true, defaultHasher⟩
    let p0 : Part := ⟨0, 0, .fits⟩
    let p1 : Part := ⟨1, 0, .fits⟩
    let p3 : Part := ⟨3, 0, .fits⟩
    (k.doPartition k.init ⟨false, [p0, p1, ⟨2, 0, .fits⟩, p3], [p0, p1, p3]⟩ ⟨none, 1, [], 0⟩ [2] []).part? = some p3 := by
  decide

example : KindOk (.uniformBytes ⟨65536, true, true, defaultHasher⟩) := default_hasher_ok
/-- `ManualPartitioner` is outside `KindOk`: its pick is the record's own `Partition` field, whatever `n` is. The
range theorems do not speak of it; `basic_record_partition` and `doPartition_rejects_iff` do. -/
example : KindOk PKind.manual → False := by
  intro h
  obtain ⟨p, e, _, h1⟩ := h ⟨none, 0, [], 5⟩ 1 (by decide) (by decide)
  simp at e; omega

/-! ### the producer rejects any out-of-range pick -/

/-- `doPartition` fails the record exactly when the pick is outside `[0, len(mapping))`. -/
theorem doPartition_rejects_iff (pick : Int) (len : Nat) :
    doPartitionRejects pick len = false ↔ (0 ≤ pick ∧ pick < (len : Int)) :=
  rejects_iff pick len

/-- … which is the Spec's `rejectOk`. -/
theorem doPartition_meets_spec (pick : Int) (len : Nat) : rejectOk len pick (doPartitionRejects pick len) = true := by
  unfold rejectOk doPartitionRejects inRange
  by_cases h1 : pick < 0 <;> by_cases h2 : pick ≥ (len : Int) <;> simp [h1, h2] <;> omega

end Props.C28
