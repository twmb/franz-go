import FranzVerif.Gen.C17
import FranzVerif.Model.C17
import FranzVerif.Spec.C17
import FranzVerif.Proof.C17Enc
import FranzVerif.Proof.C17Refine
/-! C17 — property theorems: wire primitives encode and decode exactly.

`Gen.C17.uvarintLens` and `Gen.C17.privateCopyIdentical` are regenerated from /repo on every run, so
the table theorems and `private_copy_identical` are re-checked against the source as it stands. -/
namespace Props.C17
open Model.C17

/-- "The protocol package's private copy of these primitives is identical": the two files have the
same Go token stream (comments and the package name aside). -/
theorem private_copy_identical : Gen.C17.privateCopyIdentical = true := by decide

/-- The table has 256 entries, so `uvarintLens[byte(…)]` can never be out of range (no panic). -/
theorem lens_index_in_range : Gen.C17.uvarintLens.length = 256 := by
  -- counting all 256 entries at once is too deep a recursion for `decide`: count those after the first 192
  have h : (Gen.C17.uvarintLens.drop 192).length = 64 := by decide
  rw [List.length_drop] at h; omega

/-- Every live entry of the table (`bits.Len` returns 0..64) is `max 1 ⌈L/7⌉`. -/
theorem lens_table_correct : ∀ L : Fin 65, lensAt L.val = max 1 ((L.val + 6) / 7) := by decide

/-- Decoder exactness, 32 bit: on *every* byte string `Uvarint` returns exactly the reference result
(`n>0`: value and number of bytes consumed; `(0,0)`: input ran out; `(0,-5)`: more than five bytes or
the value does not fit 32 bits), and it never indexes past the input (`some` = no panic). -/
theorem uvarint_exact (inp : Bytes) :
    uvarint inp = some (BitVec.ofNat 32 (Spec.C17.decU 32 5 inp).1, (Spec.C17.decU 32 5 inp).2) :=
  Proof.C17.uvarint_exact inp

example : uvarint [0xff#8, 0xff#8, 0xff#8, 0xff#8, 0x0f#8, 0x01#8] = some (4294967295#32, 5) := by decide
example : uvarint [0xff#8, 0xff#8, 0xff#8, 0xff#8, 0x10#8] = some (0#32, -5) := by decide
example : uvarint [0xff#8, 0xff#8] = some (0#32, 0) := by decide


theorem uvarint_no_panic (inp : Bytes) : (uvarint inp).isSome = true := by rw [uvarint_exact]; rfl

/-- The reference reader inverts the reference writer (pure `Nat` statement about the Spec, all `n`,
any trailing bytes): this is what makes `decU`/`encU` a specification of "the same value". -/
theorem spec_leb128_roundtrip (bits maxB n : Nat) (r : Spec.C17.Bytes) (hn : n < 2 ^ bits)
    (hl : Spec.C17.lenU n ≤ maxB) :
    Spec.C17.decU bits maxB (Spec.C17.encU n ++ r) = (n, (Spec.C17.lenU n : Int)) :=
  Proof.C17.decU_encU bits maxB n r hn hl

/-- Encoder exactness, 32 bit: for every `u` and every `dst`, `AppendUvarint` appends exactly the
LEB128 bytes of `u`, and `UvarintLen u` (through the regenerated table) is their number. -/
theorem appendUvarint_exact (dst : Bytes) (u : BitVec 32) :
    appendUvarint dst u = dst ++ Spec.C17.encU u.toNat ∧ uvarintLen u = Spec.C17.lenU u.toNat := by
  have hl : uvarintLen u = Spec.C17.lenU u.toNat :=
    Proof.C17.lens_bitsLen lens_table_correct u.toNat (by have := u.isLt; omega)
  refine ⟨?_, hl⟩
  have h1 := Proof.C17.lenU_pos u.toNat
  have h5 := Proof.C17.lenU_le5 u.isLt
  unfold appendUvarint
  rw [hl]
  generalize hk : Spec.C17.lenU u.toNat = k at h1 h5
  obtain rfl | rfl | rfl | rfl | rfl : k = 1 ∨ k = 2 ∨ k = 3 ∨ k = 4 ∨ k = 5 := by omega
  -- the arm for `k` bytes is, by unfolding, `dst ++ Proof.C17.encGo u (k - 1) 0`
  all_goals exact Proof.C17.encGo_arm (by decide) dst u _ hk

/-- Encoder exactness, 64 bit (`appendUvarlong`, `uvarlongLen`; all ten switch cases). -/
theorem appendUvarlong_exact (dst : Bytes) (u : BitVec 64) :
    appendUvarlong dst u = dst ++ Spec.C17.encU u.toNat ∧ uvarlongLen u = Spec.C17.lenU u.toNat := by
  have hl : uvarlongLen u = Spec.C17.lenU u.toNat := Proof.C17.lens_bitsLen lens_table_correct u.toNat u.isLt
  refine ⟨?_, hl⟩
  have h1 := Proof.C17.lenU_pos u.toNat
  have h10 := Proof.C17.lenU_le10 u.isLt
  unfold appendUvarlong
  rw [hl]
  generalize hk : Spec.C17.lenU u.toNat = k at h1 h10
  obtain rfl | rfl | rfl | rfl | rfl | rfl | rfl | rfl | rfl | rfl :
    k = 1 ∨ k = 2 ∨ k = 3 ∨ k = 4 ∨ k = 5 ∨ k = 6 ∨ k = 7 ∨ k = 8 ∨ k = 9 ∨ k = 10 := by omega
  all_goals exact Proof.C17.encGo_arm (by decide) dst u _ hk

/-- The length functions equal the encoded lengths (all 32-bit / 64-bit values). -/
theorem uvarintLen_is_encoded_length (u : BitVec 32) : (appendUvarint [] u).length = uvarintLen u := by
  rw [(appendUvarint_exact [] u).1, (appendUvarint_exact [] u).2, List.nil_append, Proof.C17.encU_length]
theorem uvarlongLen_is_encoded_length (u : BitVec 64) : (appendUvarlong [] u).length = uvarlongLen u := by
  rw [(appendUvarlong_exact [] u).1, (appendUvarlong_exact [] u).2, List.nil_append, Proof.C17.encU_length]
/-- `VarintLen`/`VarlongLen` are the length functions of the zig-zag image, which is what `AppendVarint` writes. -/
theorem varintLen_is_encoded_length (i : BitVec 32) : (appendVarint [] i).length = varintLen i :=
  uvarintLen_is_encoded_length (zigzag32 i)
theorem varlongLen_is_encoded_length (i : BitVec 64) : (appendVarlong [] i).length = varlongLen i :=
  uvarlongLen_is_encoded_length (zigzag64 i)

/-- Round trip, every 32-bit value, any trailing bytes: `Uvarint(AppendUvarint(nil,u) ++ r) = (u, UvarintLen(u))`. -/
theorem uvarint_roundtrip (u : BitVec 32) (r : Bytes) :
    uvarint (appendUvarint [] u ++ r) = some (u, (uvarintLen u : Int)) := by
  rw [(appendUvarint_exact [] u).1, (appendUvarint_exact [] u).2, List.nil_append]
  exact Proof.C17.dec_encU 5 uvarint uvarint_exact u (Proof.C17.lenU_le5 u.isLt) r

example : appendUvarint [] 300#32 = [0xac#8, 0x02#8] ∧ uvarintLen 300#32 = 2 := by decide

/-- Decoder exactness, 64 bit: on *every* byte string `uvarlong` returns exactly the reference LEB128
result (`n>0`: value and bytes consumed; `(0,0)`: the input ran out; `(0,-10)`: more than ten bytes or
the value does not fit 64 bits) and never indexes past the input. Proof: the transcription is
definitionally the generic unrolled loop `Proof.C17.ulGo` at fuel 9, and `ulGo_spec` is an induction. -/
theorem uvarlong_exact (inp : Bytes) :
    uvarlong inp = some (BitVec.ofNat 64 (Spec.C17.decU 64 10 inp).1, (Spec.C17.decU 64 10 inp).2) :=
  Proof.C17.uvarlong_exact inp

theorem uvarlong_no_panic (inp : Bytes) : (uvarlong inp).isSome = true := by rw [uvarlong_exact]; rfl

example : uvarlong [0xff#8, 0xff#8, 0xff#8, 0xff#8, 0xff#8, 0xff#8, 0xff#8, 0xff#8, 0xff#8, 0x01#8, 0x55#8]
    = some (18446744073709551615#64, 10) := by decide
example : uvarlong [0xff#8, 0xff#8, 0xff#8, 0xff#8, 0xff#8, 0xff#8, 0xff#8, 0xff#8, 0xff#8, 0x02#8] = some (0#64, -10) := by decide
example : uvarlong [0xff#8, 0xff#8, 0xff#8] = some (0#64, 0) := by decide

/-- Round trip, every 64-bit value, any trailing bytes. -/
theorem uvarlong_roundtrip (u : BitVec 64) (r : Bytes) :
    uvarlong (appendUvarlong [] u ++ r) = some (u, (uvarlongLen u : Int)) := by
  rw [(appendUvarlong_exact [] u).1, (appendUvarlong_exact [] u).2, List.nil_append]
  exact Proof.C17.dec_encU 10 uvarlong uvarlong_exact u (Proof.C17.lenU_le10 u.isLt) r

/-- The Go expressions `uint32(i)<<1 ^ uint32(i>>31)` / `(x>>1) ^ -(x&1)` (and the 64-bit ones) compute
the integer zig-zag maps of the Kafka protocol on every value. -/
theorem zigzag32_is_spec (i : BitVec 32) : (zigzag32 i).toNat = Spec.C17.zz i.toInt := Proof.C17.zigzag_spec (w := 31) i
theorem zigzag64_is_spec (i : BitVec 64) : (zigzag64 i).toNat = Spec.C17.zz i.toInt := Proof.C17.zigzag_spec (w := 63) i
theorem unzigzag32_is_spec (u : BitVec 32) : (unzigzag32 u).toInt = Spec.C17.unzz u.toNat := Proof.C17.unzigzag32_spec u
theorem unzigzag64_is_spec (u : BitVec 64) : (unzigzag64 u).toInt = Spec.C17.unzz u.toNat := Proof.C17.unzigzag64_spec u

/-- encode and decode are inverse bijections on all of `BitVec 32` / `BitVec 64`. -/
theorem zigzag32_bijection (i u : BitVec 32) : unzigzag32 (zigzag32 i) = i ∧ zigzag32 (unzigzag32 u) = u :=
  ⟨Proof.C17.unzigzag32_zigzag32 i, Proof.C17.zigzag_unzigzag (w := 31) u⟩
theorem zigzag64_bijection (i u : BitVec 64) : unzigzag64 (zigzag64 i) = i ∧ zigzag64 (unzigzag64 u) = u :=
  ⟨Proof.C17.unzigzag64_zigzag64 i, Proof.C17.zigzag_unzigzag (w := 63) u⟩

example : zigzag32 (-1#32) = 1#32 ∧ zigzag32 (2147483648#32) = 4294967295#32 ∧ unzigzag32 3#32 = -2#32 := by decide

/-- `AppendVarint`/`AppendVarlong` append the LEB128 bytes of the zig-zag image of the signed value. -/
theorem appendVarint_exact (dst : Bytes) (i : BitVec 32) :
    appendVarint dst i = dst ++ Spec.C17.encU (Spec.C17.zz i.toInt) ∧ varintLen i = Spec.C17.lenU (Spec.C17.zz i.toInt) := by
  rw [← zigzag32_is_spec]; exact appendUvarint_exact dst (zigzag32 i)
theorem appendVarlong_exact (dst : Bytes) (i : BitVec 64) :
    appendVarlong dst i = dst ++ Spec.C17.encU (Spec.C17.zz i.toInt) ∧ varlongLen i = Spec.C17.lenU (Spec.C17.zz i.toInt) := by
  rw [← zigzag64_is_spec]; exact appendUvarlong_exact dst (zigzag64 i)

/-- `Varint`/`Varlong` return exactly the Spec's signed decoder result on every byte string. -/
theorem varint_exact (inp : Bytes) :
    varint inp = some (BitVec.ofInt 32 (Spec.C17.decS 32 5 inp).1, (Spec.C17.decS 32 5 inp).2) := by
  rw [varint, uvarint_exact, Option.map_some]
  simp only [Spec.C17.decS]
  rw [← Proof.C17.unzigzag32_ofNat (Proof.C17.decU_fst_lt 32 5 inp), BitVec.ofInt_toInt]
theorem varlong_exact (inp : Bytes) :
    varlong inp = some (BitVec.ofInt 64 (Spec.C17.decS 64 10 inp).1, (Spec.C17.decS 64 10 inp).2) := by
  rw [varlong, uvarlong_exact, Option.map_some]
  simp only [Spec.C17.decS]
  rw [← Proof.C17.unzigzag64_ofNat (Proof.C17.decU_fst_lt 64 10 inp), BitVec.ofInt_toInt]

/-- Round trips `decode (encode v ++ rest) = (v, length)` for every signed 32/64-bit value. -/
theorem varint_roundtrip (i : BitVec 32) (r : Bytes) :
    varint (appendVarint [] i ++ r) = some (i, (varintLen i : Int)) := by
  rw [varint, appendVarint, uvarint_roundtrip, Option.map_some]
  simp only [(zigzag32_bijection i 0).1]; rfl
theorem varlong_roundtrip (i : BitVec 64) (r : Bytes) :
    varlong (appendVarlong [] i ++ r) = some (i, (varlongLen i : Int)) := by
  rw [varlong, appendVarlong, uvarlong_roundtrip, Option.map_some]
  simp only [(zigzag64_bijection i 0).1]; rfl

example : varint (appendVarint [] (-300#32) ++ [0xff#8]) = some (-300#32, 2) := by decide

/-- The fixed-width encoders append the big-endian bytes of the value (`Spec.C17.be`); signed values
are written as their two's complement pattern; a float64 as its 64 bits. -/
theorem appendInt8_exact (dst : Bytes) (i : BitVec 8) : appendInt8 dst i = dst ++ Spec.C17.be 1 (Spec.C17.pattern 8 i.toInt) := by
  rw [Proof.C17.pattern_toInt]; exact Proof.C17.appendInt8_be dst i
theorem appendUint16_exact (dst : Bytes) (u : BitVec 16) : appendUint16 dst u = dst ++ Spec.C17.be 2 u.toNat :=
  Proof.C17.appendUint16_be dst u
theorem appendInt16_exact (dst : Bytes) (i : BitVec 16) : appendInt16 dst i = dst ++ Spec.C17.be 2 (Spec.C17.pattern 16 i.toInt) := by
  rw [Proof.C17.pattern_toInt]; exact Proof.C17.appendUint16_be dst i
theorem appendUint32_exact (dst : Bytes) (u : BitVec 32) : appendUint32 dst u = dst ++ Spec.C17.be 4 u.toNat :=
  Proof.C17.appendUint32_be dst u
theorem appendInt32_exact (dst : Bytes) (i : BitVec 32) : appendInt32 dst i = dst ++ Spec.C17.be 4 (Spec.C17.pattern 32 i.toInt) := by
  rw [Proof.C17.pattern_toInt]; exact Proof.C17.appendUint32_be dst i
theorem appendInt64_exact (dst : Bytes) (i : BitVec 64) : appendInt64 dst i = dst ++ Spec.C17.be 8 (Spec.C17.pattern 64 i.toInt) := by
  rw [Proof.C17.pattern_toInt]; exact Proof.C17.appendUint64_be dst i
theorem appendFloat64_exact (dst : Bytes) (bits : BitVec 64) : appendFloat64 dst bits = dst ++ Spec.C17.be 8 bits.toNat :=
  Proof.C17.appendUint64_be dst bits

/-- the reference big-endian reader inverts the reference writer (all widths, all values) -/
theorem spec_bigendian_roundtrip (k n : Nat) : Spec.C17.unbe (Spec.C17.be k n) = n % 256 ^ k := Proof.C17.unbe_be k n

/-- Fixed-width round trips through the `Reader`: whatever reader state (`r`) whose source starts with
the encoding, the read returns exactly the value and leaves exactly the bytes that followed. -/
theorem bool_roundtrip (r : Reader) (v : Bool) (tail : Bytes) (h : r.src = appendBool [] v ++ tail) :
    r.bool = some (v, { r with src := tail }) := by
  rw [Proof.C17.bool_eq]
  cases v
  · rw [Proof.C17.fixed_rt (Proof.C17.hdr_int8 r) (by decide) 0#8 tail h]; rfl
  · rw [Proof.C17.fixed_rt (Proof.C17.hdr_int8 r) (by decide) 1#8 tail h]; rfl
theorem int8_roundtrip (r : Reader) (v : BitVec 8) (tail : Bytes) (h : r.src = appendInt8 [] v ++ tail) :
    r.int8 = some (v, { r with src := tail }) := by
  rw [Proof.C17.appendInt8_be, List.nil_append] at h
  exact Proof.C17.fixed_rt (Proof.C17.hdr_int8 r) (by decide) v tail h
theorem int16_roundtrip (r : Reader) (v : BitVec 16) (tail : Bytes) (h : r.src = appendInt16 [] v ++ tail) :
    r.int16 = some (v, { r with src := tail }) := by
  rw [appendInt16, Proof.C17.appendUint16_be, List.nil_append] at h
  exact Proof.C17.fixed_rt (Proof.C17.hdr_int16 r) (by decide) v tail h
theorem uint16_roundtrip (r : Reader) (v : BitVec 16) (tail : Bytes) (h : r.src = appendUint16 [] v ++ tail) :
    r.uint16 = some (v, { r with src := tail }) := int16_roundtrip r v tail h
theorem int32_roundtrip (r : Reader) (v : BitVec 32) (tail : Bytes) (h : r.src = appendInt32 [] v ++ tail) :
    r.int32 = some (v, { r with src := tail }) := by
  rw [appendInt32, Proof.C17.appendUint32_be, List.nil_append] at h
  exact Proof.C17.fixed_rt (Proof.C17.hdr_int32 r) (by decide) v tail h
theorem uint32_roundtrip (r : Reader) (v : BitVec 32) (tail : Bytes) (h : r.src = appendUint32 [] v ++ tail) :
    r.uint32 = some (v, { r with src := tail }) := int32_roundtrip r v tail h
theorem int64_roundtrip (r : Reader) (v : BitVec 64) (tail : Bytes) (h : r.src = appendInt64 [] v ++ tail) :
    r.int64 = some (v, { r with src := tail }) := by
  rw [appendInt64, Proof.C17.appendUint64_be, List.nil_append] at h
  exact Proof.C17.fixed_rt (Proof.C17.hdr_int64 r) (by decide) v tail h
theorem float64_roundtrip (r : Reader) (bits : BitVec 64) (tail : Bytes) (h : r.src = appendFloat64 [] bits ++ tail) :
    r.float64 = some (bits, { r with src := tail }) := int64_roundtrip r bits tail h
theorem uuid_roundtrip (r : Reader) (hnil : r.srcNil = false) (u tail : Bytes) (hu : u.length = 16)
    (h : r.src = appendUuid [] u ++ tail) : r.uuid = some (u, { r with src := tail }) := by
  rw [appendUuid, List.nil_append] at h
  have := Proof.C17.span_rt r hnil u tail h
  rw [hu] at this
  rw [Reader.uuid, show (16 : Int) = ((16 : Nat) : Int) from rfl, this]; rfl

example : (Reader.int32 { src := appendInt32 [] (-2#32) ++ [0x07#8] }) = some (-2#32, { src := [0x07#8] }) := by decide

/-- Short input is rejected: the reader is invalidated (`bad`, `Src = nil`) and the zero value returned. -/
theorem fixed_short_rejected (r : Reader) :
    (r.src.length < 1 → r.bool = some (false, Reader.invalid) ∧ r.int8 = some (0, Reader.invalid)) ∧
    (r.src.length < 2 → r.int16 = some (0, Reader.invalid) ∧ r.uint16 = some (0, Reader.invalid)) ∧
    (r.src.length < 4 → r.int32 = some (0, Reader.invalid) ∧ r.uint32 = some (0, Reader.invalid)) ∧
    (r.src.length < 8 → r.int64 = some (0, Reader.invalid) ∧ r.float64 = some (0, Reader.invalid)) ∧
    (r.src.length < 16 → r.uuid = some (List.replicate 16 0#8, Reader.invalid)) := by
  refine ⟨fun h => ?_, fun h => ?_, fun h => ?_, fun h => ?_, fun h => ?_⟩
  · simp [Reader.bool, Reader.int8, h]
  · simp [Reader.int16, Reader.uint16, h]
  · simp [Reader.int32, Reader.uint32, h]
  · simp [Reader.int64, Reader.float64, Reader.readUint64, h]
  · rw [Reader.uuid, Proof.C17.span_eq, if_pos (by omega)]; rfl

/-- Every `Reader` method refines one step of the Spec's reader contract (`Spec.C17.step`, written from
the protocol description), on every reader satisfying the invariant `WF` (which the constructor state
satisfies and every method preserves): the method does not panic (never reads past the input); the
observable state afterwards (`Src`, `Ok()`) is the Spec's — a well-formed prefix is consumed exactly,
anything else (short input, overlong/overflowing varint, negative or oversized length) invalidates the
reader; the value is the Spec's value; and the new source is a suffix of the old one. All 26 kinds. -/
theorem reader_refines_spec (k : Spec.C17.Kind) (r : Reader) (hwf : Proof.C17.WF r) :
    ∃ res r', Proof.C17.run k r = some (res, r') ∧ Proof.C17.WF r' ∧
      Proof.C17.absR r' = (Spec.C17.step k (Proof.C17.absR r)).2 ∧
      (∀ v, (Spec.C17.step k (Proof.C17.absR r)).1 = some v → Proof.C17.matchesVal v res = true) ∧
      (r' = Reader.invalid ∨ ∃ n, n ≤ r.src.length ∧ r' = Proof.C17.adv r n) := by
  open Proof.C17 Spec.C17 in
  rcases hb : r.bad with _ | _
  · have hs := sim_all k r hwf
    have hok : (absR r).ok = true := by rw [absR, hb]; rfl
    generalize hr : read k r.src = sp, run k r = m at hs ⊢
    cases hs with
    | fail =>
      rw [step_none k (absR r) hok hr]
      exact ⟨_, _, rfl, wf_invalid, rfl, nofun, Or.inl rfl⟩
    | @ok v n _ hn hv =>
      rw [step_some k (absR r) hok hr]
      exact ⟨_, _, rfl, wf_adv r hwf hb n, by simp [absR, adv, hb], fun _ h => by cases h; exact hv, Or.inr ⟨n, hn, rfl⟩⟩
  · -- an invalidated reader stays invalidated
    obtain rfl := hwf.1 hb
    rw [step_bad k (absR Reader.invalid) rfl]
    exact ⟨_, _, run_invalid_zero k, wf_invalid, rfl, nofun, Or.inl rfl⟩

/-- the initial states satisfy the invariant: any non-nil source, or the nil source -/
theorem reader_initial_wf (src : Bytes) : Proof.C17.WF { src := src } ∧ Proof.C17.WF { src := [], srcNil := true } := by
  refine ⟨⟨fun h => ?_, fun h => ?_⟩, ⟨fun h => ?_, fun _ => rfl⟩⟩ <;> simp at h

example : Proof.C17.run .string { src := [0x00#8, 0x02#8, 0x61#8, 0x62#8, 0xff#8] }
    = some (.o (some [0x61#8, 0x62#8]), { src := [0xff#8] }) := by decide
example : Proof.C17.run .compactString { src := [0x05#8, 0x61#8] } = some (.o (some []), Reader.invalid) := by decide

/-- Any sequence of reads: no panic, and the final `Src`/`Ok()` are the Spec's. In particular `Ok()`
(hence `Complete() == nil`) holds at the end iff every read of the sequence found a well-formed
encoding (`Proof.C17.stepAll` fails from the first malformed read on). -/
theorem reader_sequence_refines (ks : List Spec.C17.Kind) (r : Reader) (hwf : Proof.C17.WF r) :
    ∃ out r', Proof.C17.runAll ks r = some (out, r') ∧ Proof.C17.WF r' ∧
      Proof.C17.absR r' = Proof.C17.stepAll ks (Proof.C17.absR r) ∧ out.length = ks.length := by
  induction ks generalizing r with
  | nil => exact ⟨[], r, rfl, hwf, rfl, rfl⟩
  | cons k ks ih =>
    obtain ⟨res, r1, hm, hwf1, habs, _, _⟩ := reader_refines_spec k r hwf
    obtain ⟨out, r2, hm2, hwf2, habs2, hlen⟩ := ih r1 hwf1
    refine ⟨res :: out, r2, ?_, hwf2, ?_, by simp [hlen]⟩
    · simp [Proof.C17.runAll, hm, hm2]
    · rw [habs2, habs]; rfl

theorem reader_ok_iff_spec_ok (ks : List Spec.C17.Kind) (r r' : Reader) (out : List Proof.C17.MR) (hwf : Proof.C17.WF r)
    (h : Proof.C17.runAll ks r = some (out, r')) : r'.ok = (Proof.C17.stepAll ks (Proof.C17.absR r)).ok := by
  obtain ⟨out2, r2, h2, _, habs, _⟩ := reader_sequence_refines ks r hwf
  rw [h] at h2
  simp only [Option.some.injEq, Prod.mk.injEq] at h2
  obtain ⟨_, rfl⟩ := h2
  rw [← habs]; rfl

/-- After a failed read the reader stays failed: every method on an invalidated reader returns its zero
value (`Proof.C17.zeroRes`: false / 0 / nil / "" — with the quirks that `CompactBytes` returns the empty
non-nil slice and `CompactArrayLen` returns -1), consumes nothing and leaves the reader invalidated. -/
theorem reader_failure_is_sticky (k : Spec.C17.Kind) (r : Reader) (hwf : Proof.C17.WF r) (hbad : r.ok = false) :
    Proof.C17.run k r = some (Proof.C17.zeroRes k, r) ∧ r.src = [] := by
  have hb : r.bad = true := by simpa [Reader.ok] using hbad
  have := hwf.1 hb
  subst this
  exact ⟨Proof.C17.run_invalid_zero k, rfl⟩

theorem spec_failure_is_sticky (ks : List Spec.C17.Kind) (s : Spec.C17.RState) (h : s.ok = false) :
    (Proof.C17.stepAll ks s).ok = false := by
  induction ks generalizing s with
  | nil => exact h
  | cons k ks ih =>
    rw [Proof.C17.stepAll, Proof.C17.step_bad k s h]
    exact ih _ rfl

example : ∃ out r', Proof.C17.runAll [.int16, .int32, .bool] { src := [0x00#8, 0x01#8, 0x02#8] } = some (out, r') ∧ r'.ok = false :=
  ⟨[.i 1, .i 0, .b false], Reader.invalid, by decide, rfl⟩

/-! Length-prefixed reads return exactly what the corresponding `Append*` wrote. The length bounds are those under
which the Go conversion of `len` to the prefix type (`int16`, `int32`, `uint32` plus one) does not wrap; `hnil`
stands in for `Proof.C17.WF` (a nil `Src` is empty): the model's `span` returns nil whenever `srcNil` is set. -/

theorem string_roundtrip (r : Reader) (hnil : r.srcNil = false) (s tail : Bytes) (hs : s.length < 32768)
    (h : r.src = appendString [] s ++ tail) : r.string = some (s, { r with src := tail }) := by
  rw [appendString, List.append_assoc] at h
  rw [Reader.string, int16_roundtrip r _ _ h, Option.bind_some]
  simp only [Proof.C17.toInt_len (w := 16) s.length (by omega)]
  rw [Proof.C17.span_rt { r with src := s ++ tail } hnil s tail rfl]; rfl
theorem nullableString_roundtrip (r : Reader) (hnil : r.srcNil = false) (s : Option Bytes) (tail : Bytes)
    (hs : ∀ x, s = some x → x.length < 32768) (h : r.src = appendNullableString [] s ++ tail) :
    r.nullableString = some (s, { r with src := tail }) := by
  rcases s with _ | s
  · rw [appendNullableString] at h
    rw [Reader.nullableString, int16_roundtrip r _ _ h, Option.bind_some]; rfl
  · rw [appendNullableString, appendString, List.append_assoc] at h
    rw [Reader.nullableString, int16_roundtrip r _ _ h, Option.bind_some]
    simp only [Proof.C17.toInt_len (w := 16) s.length (by have := hs s rfl; omega)]
    rw [if_neg (by omega), Proof.C17.span_rt { r with src := s ++ tail } hnil s tail rfl]; rfl
theorem compactString_roundtrip (r : Reader) (hnil : r.srcNil = false) (s tail : Bytes) (hs : s.length < 4294967295)
    (h : r.src = appendCompactString [] s ++ tail) : r.compactString = some (s, { r with src := tail }) := by
  rw [appendCompactString, (appendUvarint_exact [] _).1, List.nil_append, List.append_assoc] at h
  rw [Reader.compactString, Proof.C17.uvarint_rt r _ _ h, Option.bind_some]
  simp only [Proof.C17.uvm1_len _ hs]
  rw [Proof.C17.span_rt (Proof.C17.withSrc r (s ++ tail)) hnil s tail rfl]; rfl
theorem compactNullableString_roundtrip (r : Reader) (hnil : r.srcNil = false) (s : Option Bytes) (tail : Bytes)
    (hs : ∀ x, s = some x → x.length < 4294967295) (h : r.src = appendCompactNullableString [] s ++ tail) :
    r.compactNullableString = some (s, { r with src := tail }) := by
  rcases s with _ | s
  · rw [appendCompactNullableString, (appendUvarint_exact [] _).1, List.nil_append] at h
    rw [Reader.compactNullableString, Proof.C17.uvarint_rt r _ _ h, Option.bind_some]; rfl
  · rw [appendCompactNullableString, appendCompactString, (appendUvarint_exact [] _).1, List.nil_append,
      List.append_assoc] at h
    rw [Reader.compactNullableString, Proof.C17.uvarint_rt r _ _ h, Option.bind_some]
    simp only [Proof.C17.uvm1_len _ (hs s rfl)]
    rw [if_neg (by omega), Proof.C17.span_rt (Proof.C17.withSrc r (s ++ tail)) hnil s tail rfl]; rfl
theorem bytes_roundtrip (r : Reader) (hnil : r.srcNil = false) (b tail : Bytes) (hb : b.length < 2147483648)
    (h : r.src = appendBytes [] b ++ tail) : r.bytes = some (some b, { r with src := tail }) := by
  rw [appendBytes, List.append_assoc] at h
  rw [Reader.bytes, int32_roundtrip r _ _ h, Option.bind_some]
  simp only [Proof.C17.toInt_len (w := 32) b.length (by omega)]
  rw [if_neg (by omega), Proof.C17.span_rt { r with src := b ++ tail } hnil b tail rfl]; rfl
theorem nullableBytes_roundtrip (r : Reader) (hnil : r.srcNil = false) (b : Option Bytes) (tail : Bytes)
    (hb : ∀ x, b = some x → x.length < 2147483648) (h : r.src = appendNullableBytes [] b ++ tail) :
    r.nullableBytes = some (b, { r with src := tail }) := by
  rcases b with _ | b
  · rw [appendNullableBytes] at h
    rw [Reader.nullableBytes, int32_roundtrip r _ _ h, Option.bind_some]; rfl
  · rw [appendNullableBytes, appendBytes, List.append_assoc] at h
    rw [Reader.nullableBytes, int32_roundtrip r _ _ h, Option.bind_some]
    simp only [Proof.C17.toInt_len (w := 32) b.length (by have := hb b rfl; omega)]
    rw [if_neg (by omega), Proof.C17.span_rt { r with src := b ++ tail } hnil b tail rfl]; rfl
theorem compactBytes_roundtrip (r : Reader) (hnil : r.srcNil = false) (b tail : Bytes) (hb : b.length < 4294967295)
    (h : r.src = appendCompactBytes [] b ++ tail) : r.compactBytes = some (some b, { r with src := tail }) := by
  rw [appendCompactBytes, (appendUvarint_exact [] _).1, List.nil_append, List.append_assoc] at h
  rw [Reader.compactBytes, Proof.C17.uvarint_rt r _ _ h, Option.bind_some]
  simp only [Proof.C17.uvm1_len _ hb]
  rw [if_neg (by omega), Proof.C17.span_rt (Proof.C17.withSrc r (b ++ tail)) hnil b tail rfl]; rfl
theorem compactNullableBytes_roundtrip (r : Reader) (hnil : r.srcNil = false) (b : Option Bytes) (tail : Bytes)
    (hb : ∀ x, b = some x → x.length < 4294967295) (h : r.src = appendCompactNullableBytes [] b ++ tail) :
    r.compactNullableBytes = some (b, { r with src := tail }) := by
  rcases b with _ | b
  · rw [appendCompactNullableBytes, (appendUvarint_exact [] _).1, List.nil_append] at h
    rw [Reader.compactNullableBytes, Proof.C17.uvarint_rt r _ _ h, Option.bind_some]; rfl
  · rw [appendCompactNullableBytes, appendCompactBytes, (appendUvarint_exact [] _).1, List.nil_append,
      List.append_assoc] at h
    rw [Reader.compactNullableBytes, Proof.C17.uvarint_rt r _ _ h, Option.bind_some]
    simp only [Proof.C17.uvm1_len _ (hb b rfl)]
    rw [if_neg (by omega), Proof.C17.span_rt (Proof.C17.withSrc r (b ++ tail)) hnil b tail rfl]; rfl
theorem varintBytes_roundtrip (r : Reader) (hnil : r.srcNil = false) (b : Option Bytes) (tail : Bytes)
    (hb : ∀ x, b = some x → x.length < 2147483648) (h : r.src = appendVarintBytes [] b ++ tail) :
    r.varintBytes = some (b, { r with src := tail }) := by
  rcases b with _ | b
  · rw [appendVarintBytes, (appendVarint_exact [] _).1, List.nil_append, ← zigzag32_is_spec] at h
    rw [Reader.varintBytes, Proof.C17.varint_rt r _ _ h, Option.bind_some]; rfl
  · rw [appendVarintBytes, (appendVarint_exact [] _).1, List.nil_append, ← zigzag32_is_spec, List.append_assoc] at h
    rw [Reader.varintBytes, Proof.C17.varint_rt r _ _ h, Option.bind_some]
    simp only [Proof.C17.toInt_len (w := 32) b.length (by have := hb b rfl; omega)]
    rw [if_neg (by omega), Proof.C17.span_rt (Proof.C17.withSrc r (b ++ tail)) hnil b tail rfl]; rfl
theorem varintString_roundtrip (r : Reader) (hnil : r.srcNil = false) (s tail : Bytes) (hs : s.length < 2147483648)
    (h : r.src = appendVarintString [] s ++ tail) : r.varintString = some (s, { r with src := tail }) := by
  rw [Reader.varintString, varintBytes_roundtrip r hnil (some s) tail (fun x hx => by cases hx; exact hs) h]; rfl
/-- array lengths come back when at least that many bytes follow (every element takes at least a byte) -/
theorem arrayLen_roundtrip (r : Reader) (l : Nat) (tail : Bytes) (hl : l < 2147483648) (ht : l ≤ tail.length)
    (h : r.src = appendArrayLen [] l ++ tail) : r.arrayLen = some (BitVec.ofNat 32 l, { r with src := tail }) := by
  rw [appendArrayLen, BitVec.ofInt_natCast] at h
  rw [Reader.arrayLen, int32_roundtrip r _ _ h, Option.map_some]
  simp only [Reader.arrayTail, Proof.C17.toInt_len (w := 32) l (by omega)]
  rw [if_neg (by omega)]
theorem compactArrayLen_roundtrip (r : Reader) (l : Nat) (tail : Bytes) (hl : l < 2147483648) (ht : l ≤ tail.length)
    (h : r.src = appendCompactArrayLen [] l ++ tail) : r.compactArrayLen = some (BitVec.ofNat 32 l, { r with src := tail }) := by
  rw [appendCompactArrayLen, BitVec.ofInt_natCast, (appendUvarint_exact [] _).1, List.nil_append] at h
  rw [Reader.compactArrayLen, Proof.C17.uvarint_rt r _ _ h, Option.map_some]
  simp only [Reader.arrayTail, Proof.C17.withSrc_src, BitVec.add_comm 1#32, BitVec.add_sub_cancel, Proof.C17.toInt_len (w := 32) l (by omega)]
  rw [if_neg (by omega)]; rfl
theorem reader_varint_roundtrips (r : Reader) (tail : Bytes) :
    (∀ u, r.src = appendUvarint [] u ++ tail → r.uvarint = some (u, { r with src := tail })) ∧
    (∀ i, r.src = appendVarint [] i ++ tail → r.varint = some (i, { r with src := tail })) ∧
    (∀ i, r.src = appendVarlong [] i ++ tail → r.varlong = some (i, { r with src := tail })) :=
  ⟨fun u h => Proof.C17.uvarint_rt r u tail (by rwa [(appendUvarint_exact [] u).1] at h),
   fun i h => Proof.C17.varint_rt r i tail (by rwa [appendVarint, (appendUvarint_exact [] _).1] at h),
   fun i h => Proof.C17.varlong_rt r i tail (by rwa [appendVarlong, (appendUvarlong_exact [] _).1] at h)⟩

/-- negative and oversized lengths are rejected by `Span` (no panic, reader invalidated) -/
theorem span_rejects (r : Reader) (l : Int) (h : l < 0 ∨ (r.src.length : Int) < l) : r.span l = some (none, Reader.invalid) := by
  rw [Proof.C17.span_eq, if_pos (by omega)]

example : Reader.compactString { src := appendCompactString [] [0x61#8, 0x62#8, 0x63#8] ++ [0x00#8] }
    = some ([0x61#8, 0x62#8, 0x63#8], { src := [0x00#8] }) := by decide
example : Reader.bytes { src := [0x80#8, 0x00#8, 0x00#8, 0x00#8, 0x01#8] } = some (none, Reader.invalid) := by decide

end Props.C17
