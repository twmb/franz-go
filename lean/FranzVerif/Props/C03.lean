import FranzVerif.Model.Producer
import FranzVerif.Proof.Producer
import FranzVerif.Proof.ProducerWake
import FranzVerif.Proof.ProducerFacts
import FranzVerif.Proof.ProducerFull
import FranzVerif.Proof.Ledger
/-! C03 — producer buffering limits and Flush completion, over all accepted histories. -/
namespace Props.C03
open Model.Producer Proof.Producer

/-- Records admitted and not yet released, as a function of the history alone. -/
def inBuffer (h : List Ev) : List Id :=
  (admittedIds h).filter (fun id => !(releasedIds h).contains id)

/-- Records accepted by Produce whose promise has not run (for ProduceSync the unbuffered hook, which
runs immediately before the promise, stands for it because the harness can log that promise only at return). -/
def acceptedNotPromised (h : List Ev) : List Id :=
  (admittedIds h).filter (fun id => !(promiseRanIds h).contains id)

/-- (a) The limit is never exceeded: at every point of every accepted history the records Produce has
accepted and whose promise has not run number at most `MaxBufferedRecords`; the bytes of the records admitted
and not yet released (`inBuffer`, which the former are among) are at most `MaxBufferedBytes` when set. -/
theorem buffered_never_exceeds_limits (c : Cfg) (h : List Ev) (s : St) (hacc : run c {} h = some s) :
    (acceptedNotPromised h).length ≤ (inBuffer h).length ∧ (inBuffer h).length = s.occ ∧ s.occ ≤ c.maxRecs ∧
    (c.maxBytes > 0 → s.occBytes ≤ c.maxBytes) ∧ s.occBytes = ((inBuffer h).map (sizeOfId h)).sum := by
  have hi := inv_of_run hacc
  refine ⟨?_, hi.occ, hi.occLe, hi.bytesLe, hi.bytes⟩
  unfold acceptedNotPromised inBuffer
  rw [← List.countP_eq_length_filter, ← List.countP_eq_length_filter]
  refine List.countP_mono_left fun id _ hnp => ?_
  simp only [Bool.not_eq_true', List.contains_eq_mem, decide_eq_false_iff_not] at hnp ⊢
  exact fun hrel => hnp (hi.released_promiseRan hrel)

/-- (b) At the limit: TryProduce never blocks, nothing blocks under ManualFlushing, and a record is
blocked or failed with ErrMaxBuffered only if the buffer was full at some point during its call. -/
theorem blocking_discipline (c : Cfg) (h₁ h₂ : List Ev) (id : Id)
    (hacc : (run c {} (h₁ ++ Ev.block id :: h₂)).isSome) :
    c.manual = false ∧ kindOf id h₁ ≠ some Kind.try_ ∧ sawFullDuringCall c id h₁ = true := by
  obtain ⟨s₁, h1, hchk⟩ := (isMonitor c).split_isSome hacc
  obtain ⟨r, hfd⟩ := find_of_check hchk rfl rfl
  obtain ⟨cK, cM, _, _, _, cF⟩ := (check_block hfd).1 hchk
  refine ⟨cM, ?_, ?_⟩
  · rw [((inv_of_run h1).recSome id r hfd).hkind]; simpa using cK
  · simp [sawFullDuringCall, h1, hfd, cF]

/-- (b, second half) A record's unbuffered hook / promise gets ErrMaxBuffered only if the record was never
admitted and the buffer was full at some point during its call. -/
theorem maxbuffered_discipline (c : Cfg) (h₁ h₂ : List Ev) (id : Id) (e : Err)
    (hacc : (run c {} (h₁ ++ Ev.hookU id e :: h₂)).isSome) (he : e.cls = ErrClass.maxBuffered) :
    id ∉ admittedIds h₁ ∧ sawFullDuringCall c id h₁ = true := by
  obtain ⟨s₁, h1, hchk⟩ := (isMonitor c).split_isSome hacc
  obtain ⟨r, hfd⟩ := find_of_check hchk rfl rfl
  obtain ⟨_, _, _, cM⟩ := (check_hookU hfd).1 hchk
  obtain ⟨ha, hsf⟩ := cM (by simp [isMaxBuf, he])
  exact ⟨fun hm => Bool.false_ne_true (ha.symm.trans (((inv_of_run h1).recSome id r hfd).mem_admitted.1 hm)),
    by simp [sawFullDuringCall, h1, hfd, hsf]⟩

/-- (b) in history terms: what `sawFullDuringCall` (read off the monitor state in (b) above) means.  At some
prefix `p` of the history the record had been passed to Produce, was neither admitted nor finished, and
the buffer as a function of `p` alone — `inBuffer p` and the sizes of its records — was at its limit for a
record of this size. -/
theorem sawFull_means_buffer_was_full (c : Cfg) (h : List Ev) (id : Id) (hs : sawFullDuringCall c id h = true) :
    ∃ p q, h = p ++ q ∧ called id p = true ∧ id ∉ admittedIds p ∧ promisesOf id p = [] ∧
      full c (inBuffer p).length ((inBuffer p).map (sizeOfId p)).sum (sizeOfId h id) = true :=
  sawFullDuringCall_sound hs

/-- (c) Flush returns nil only after every record that was in the buffer (admitted, not yet released) when it began
has been finished: promise called and accounting released. The rule of `check` read here,
`C03.flush-nil-before-promises`, also covers the records blocked when the Flush began (no longer blocked, and
finished if admitted since); this theorem does not state that part. -/
theorem flush_nil_after_promises (c : Cfg) (h₁ h₂ h₃ : List Ev) (k : Nat)
    (hacc : (run c {} (h₁ ++ Ev.flushStart k :: h₂ ++ Ev.flushEnd k true :: h₃)).isSome)
    (id : Id) (hin : id ∈ inBuffer h₁) :
    id ∈ releasedIds (h₁ ++ Ev.flushStart k :: h₂) ∧ id ∈ promiseRanIds (h₁ ++ Ev.flushStart k :: h₂) := by
  -- the state `s₂` at the `flushEnd`, and the state `s₁` at the `flushStart`
  obtain ⟨s₂, h2, hchkE⟩ := (isMonitor c).split_isSome hacc
  obtain ⟨s₁, h1, hchkS, h12⟩ := (isMonitor c).split h2
  have hi₁ := inv_of_run h1
  have hi₂ := inv_of_run h2
  -- `id` is in the wait set recorded at the `flushStart`
  have hadm₁ : id ∈ admittedIds h₁ := (List.mem_filter.1 hin).1
  have hnrel₁ : id ∉ releasedIds h₁ := by simpa using (List.mem_filter.1 hin).2
  obtain ⟨r₁, hfd₁, hr₁, ha₁⟩ := hi₁.rec_of_admitted hadm₁
  have hnr₁ : r₁.released = false := Bool.eq_false_iff.2 fun hh => hnrel₁ (hr₁.mem_released.2 hh)
  have hw : id ∈ ((s₁.recs.filter (fun r => (r.admitted || r.blocked) && !r.released)).map (·.id)) := by
    refine List.mem_map.2 ⟨r₁, List.mem_filter.2 ⟨(find_some hfd₁).1, by simp [ha₁, hnr₁]⟩, (find_some hfd₁).2⟩
  -- the pending flush keeps that wait set until the `flushEnd`
  obtain ⟨f, hf, hfw⟩ := flush_waitFor_run h12 k
    { k := k, waitFor := (s₁.recs.filter (fun r => (r.admitted || r.blocked) && !r.released)).map (·.id) }
    (by simp [Model.Producer.apply])
  -- so at the `flushEnd` the record is finished
  obtain ⟨r₂, hfd₂, _, hfin⟩ := check_flushEnd_nil hf hchkE (by rw [hfw]; exact hw)
  obtain ⟨r, hfd, hr₂, ha₂⟩ := hi₂.rec_of_admitted (Proof.Ledger.mem_filterMap_append_left hadm₁ _)
  cases hfd₂.symm.trans hfd
  obtain ⟨hu, hrel, hp⟩ := hfin ha₂
  exact ⟨hr₂.mem_released.2 hrel, hr₂.promiseRan hu hp⟩

/-- (d) Nothing stays blocked: at a quiescent point no Produce is blocked, every Flush has returned, and no record is
left in the buffer. -/
theorem nothing_blocked_at_quiescence (c : Cfg) (h : List Ev) (n b : Nat) (s : St)
    (hacc : run c {} (h ++ [Ev.quiesce n b]) = some s) :
    (∀ id, Ev.block id ∈ h → Ev.unblock id ∈ h) ∧ (∀ k, Ev.flushStart k ∈ h → ∃ ok, Ev.flushEnd k ok ∈ h) ∧
    inBuffer h = [] := by
  obtain ⟨s₁, hi, hq⟩ := at_quiesce hacc
  refine ⟨?_, hi.flush_returned hq.flushes, ?_⟩
  · intro id hb
    cases hfd : find s₁.recs id with
    | none => exact absurd hb (hi.recNone id hfd).not_block
    | some r =>
      rcases (hi.recSome id r hfd).hblk hb with hbl | hu
      · cases hbl.symm.trans (hq.unblocked hfd)
      · exact hu
  · apply List.filter_eq_nil_iff.2
    intro id hm
    obtain ⟨r, hfd, hr, ha⟩ := hi.rec_of_admitted hm
    simpa using hr.mem_released.2 (hq.released hfd ha)

/-- Non-vacuity: an accepted history with a Produce blocked at the limit (`block 2` while record 1
occupies the only slot), a TryProduce failed with ErrMaxBuffered, and a Flush that returns nil after
the promises of records 1 and 2 ran; it ends at a quiescent point. -/
example : accepts { maxRecs := 1, maxBytes := 0, manual := false }
    [.call 1 .produce 3, .hookB 1, .admit 1 1 3 3, .ret 1,
     .call 2 .produce 2, .hookB 2, .block 2,
     .call 3 .try_ 1, .hookB 3, .ret 3, .hookU 3 ⟨.maxBuffered, 7⟩, .promise 3 ⟨.maxBuffered, 7⟩,
     .flushStart 1,
     .hookU 1 .ok, .promise 1 .ok, .release 1 0 0,
     .unblock 2, .admit 2 1 2 2, .ret 2, .hookU 2 .ok, .promise 2 .ok, .release 2 0 0,
     .flushEnd 1 true, .closeStart, .closeEnd, .quiesce 0 0] = true := by decide

/-- Non-vacuity of (c): the same history in the shape `h₁ ++ flushStart k :: h₂ ++ flushEnd k true :: h₃`,
with record 1 in the buffer when the Flush begins (and record 2 blocked). -/
example :
    (run { maxRecs := 1, maxBytes := 0, manual := false } {}
      ([.call 1 .produce 3, .hookB 1, .admit 1 1 3 3, .ret 1,
        .call 2 .produce 2, .hookB 2, .block 2,
        .call 3 .try_ 1, .hookB 3, .ret 3, .hookU 3 ⟨.maxBuffered, 7⟩, .promise 3 ⟨.maxBuffered, 7⟩]
       ++ Ev.flushStart 1 ::
       [.hookU 1 .ok, .promise 1 .ok, .release 1 0 0,
        .unblock 2, .admit 2 1 2 2, .ret 2, .hookU 2 .ok, .promise 2 .ok, .release 2 0 0]
       ++ Ev.flushEnd 1 true :: [.closeStart, .closeEnd, .quiesce 0 0])).isSome = true ∧
    1 ∈ inBuffer [.call 1 .produce 3, .hookB 1, .admit 1 1 3 3, .ret 1,
        .call 2 .produce 2, .hookB 2, .block 2,
        .call 3 .try_ 1, .hookB 3, .ret 3, .hookU 3 ⟨.maxBuffered, 7⟩, .promise 3 ⟨.maxBuffered, 7⟩] := by decide

/-! ### No lost wake-up (monitor `Model.ProducerWake`) -/

open Model.ProducerWake in
/-- Every release of a record's accounting while a producer is blocked (space freed for a parked producer; the
blocked count is exact, it only changes under the producer mutex) is followed by a Broadcast of the producer's
condition variable, in every history accepted up to its quiescent point. -/
theorem wake_release_is_broadcast (h₁ h₂ : List Model.ProducerWake.Ev) (s : Model.ProducerWake.St)
    (id : Nat) (n bl fl : Nat)
    (hacc : Model.ProducerWake.run {} (h₁ ++ Model.ProducerWake.Ev.released id n bl fl :: h₂ ++ [Model.ProducerWake.Ev.quiesce]) = some s)
    (hneed : bl > 0) :
    ∃ site, Model.ProducerWake.Ev.bcast site ∈ h₂ := by
  refine Classical.byContradiction fun hno => ?_
  obtain ⟨s₂, h2, hq, _⟩ := Proof.ProducerWake.isMonitor.snoc hacc
  obtain ⟨s₁, h1, _, h12⟩ := Proof.ProducerWake.isMonitor.split h2
  -- the release raises an obligation beyond the tentative one, and without a Broadcast it stays until `quiesce`
  have h0 : (Model.ProducerWake.apply s₁ (.released id n bl fl)).need
      ≥ Proof.ProducerWake.tent (Model.ProducerWake.apply s₁ (.released id n bl fl)) + 1 := by
    have := Proof.ProducerWake.need_ge_tent h1
    simp only [Model.ProducerWake.apply, hneed, if_true]
    split <;> exact Nat.succ_le_succ this
  have hst := Proof.ProducerWake.need_stays h0 (fun site hm => hno ⟨site, hm⟩) h12
  have := (Proof.ProducerWake.check_quiesce.1 hq).1
  omega

open Model.ProducerWake in
/-- A release that leaves nothing buffered or blocked while a Flush is reported in progress is followed by a
Broadcast or by the return of a flusher (a flusher that had not parked yet re-checks its predicate under the
mutex and returns without needing a wake-up), in every history accepted up to its quiescent point. -/
theorem wake_release_wakes_flusher (h₁ h₂ : List Model.ProducerWake.Ev) (s : Model.ProducerWake.St)
    (id : Nat) (n bl fl : Nat)
    (hacc : Model.ProducerWake.run {} (h₁ ++ Model.ProducerWake.Ev.released id n bl fl :: h₂ ++ [Model.ProducerWake.Ev.quiesce]) = some s)
    (hzero : n + bl = 0) (hfl : fl > 0) :
    (∃ site, Model.ProducerWake.Ev.bcast site ∈ h₂) ∨ Model.ProducerWake.Ev.flushReturned ∈ h₂ := by
  refine Classical.byContradiction fun hno => ?_
  obtain ⟨s₂, h2, hq, _⟩ := Proof.ProducerWake.isMonitor.snoc hacc
  obtain ⟨s₁, h1, _, h12⟩ := Proof.ProducerWake.isMonitor.split h2
  have h0 : (Model.ProducerWake.apply s₁ (.released id n bl fl)).flushNeed = true := by
    have hbl : ¬ bl > 0 := by omega
    simp only [Model.ProducerWake.apply, hbl, if_false, hzero, hfl, decide_true, Bool.and_self, if_true]
  have := Proof.ProducerWake.flushNeed_stays h0 (fun site hm => hno (Or.inl ⟨site, hm⟩)) (fun hm => hno (Or.inr hm)) h12
  exact Bool.false_ne_true ((Proof.ProducerWake.check_quiesce.1 hq).2.symm.trans this)

open Model.ProducerWake in
/-- A produce call that stopped blocking without being admitted (cancelled) at a moment when that made a
flusher's predicate true has broadcast before it returns: the accepted history has a Broadcast (or the record's
admission in the same critical section) between the two events. -/
theorem wake_cancelled_produce_broadcasts (h₁ h₂ h₃ : List Model.ProducerWake.Ev) (id bl n fl : Nat)
    (hacc : (Model.ProducerWake.run {} (h₁ ++ Model.ProducerWake.Ev.unblocked id bl n fl :: h₂ ++ Model.ProducerWake.Ev.returned id :: h₃)).isSome)
    (hneed : wakeNeeded n bl fl false = true)
    (hquiet : ∀ e ∈ h₂, match e with | .unblocked _ _ _ _ => False | _ => True) :
    (∃ site, Model.ProducerWake.Ev.bcast site ∈ h₂) ∨ Model.ProducerWake.Ev.admitted id ∈ h₂ := by
  refine Classical.byContradiction fun hno => ?_
  obtain ⟨s₂, h2, hret⟩ := Proof.ProducerWake.isMonitor.split_isSome hacc
  obtain ⟨s₁, _, _, h12⟩ := Proof.ProducerWake.isMonitor.split h2
  -- the tentative obligation for `id` survives `h₂`, so `returned id` is refused
  have h0 : (Model.ProducerWake.apply s₁ (.unblocked id bl n fl)).tentative = some id := by
    simp only [Model.ProducerWake.apply, hneed, if_true]
  have := Proof.ProducerWake.tentative_stays h0 (fun site hm => hno (Or.inl ⟨site, hm⟩)) (fun hm => hno (Or.inr hm))
    hquiet h12
  exact Proof.ProducerWake.check_returned.1 hret this

/-- Non-vacuity: the cancel path with a flusher waiting (broadcast before return), and the refused variant without it. -/
example : Model.ProducerWake.accepts [.released 1 1 1 1, .bcast 3, .unblocked 2 0 0 1, .bcast 1, .bcast 2, .returned 2, .quiesce] = true := by decide
example : Model.ProducerWake.accepts [.released 1 1 1 1, .bcast 3, .unblocked 2 0 0 1, .bcast 1, .returned 2] = true := by decide
example : Model.ProducerWake.accepts [.unblocked 2 0 0 1, .returned 2, .quiesce] = false := by decide
example : Model.ProducerWake.accepts [.released 1 0 0 1, .quiesce] = false := by decide

end Props.C03

/-- Non-vacuity of `wake_release_wakes_flusher`: a flusher that returns without a Broadcast covers the obligation, and
a history in which neither happens is refused at its quiescent point. -/
example : Model.ProducerWake.accepts [.released 1 0 0 1, .flushReturned, .quiesce] = true := by decide
example : Model.ProducerWake.accepts [.released 1 0 0 1, .quiesce] = false := by decide
example : Model.ProducerWake.accepts [.released 1 3 1 0, .quiesce] = false := by decide
