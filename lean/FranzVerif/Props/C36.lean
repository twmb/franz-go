import FranzVerif.Model.C36
import FranzVerif.Spec.C36
import FranzVerif.Proof.C36Serde
/-! C36 — property theorems: schema-registry serde header (pkg/sr ConfluentHeader) and Serde registry.

Property text: "For any registered schema ID and protobuf index path, Serde.Encode writes the Confluent wire header
(magic byte 0, big-endian ID, then the index with the single-zero shortcut) followed by the payload, and Serde.Decode or
DecodeNew of that output recovers the value through the registered decoder. Decoding arbitrary bytes with Serde or
ConfluentHeader returns an error for malformed headers or unregistered IDs and never panics."

`Model.C36` is the model of the Go code (tied to /repo by the differential run), `Spec.C36` the wire format written
independently. `DecodeIndex` caps its allocation by the remaining input (/repo a468db8): with `make([]int, l)` on the count
read from the input the clause "never panics, for any maxLength" is false for `maxLength ≤ 0` (finding
`decodeindex-panic-nonpositive-maxlength`; its witnesses are the regression examples below). The clause is proved at full
strength (`decodeIndex_no_panic`). -/
namespace Props.C36
open Model.C36 Proof.C36

/-- `AppendEncode` writes exactly the Confluent header: magic 0, big-endian id, index with the single-zero shortcut. -/
theorem header_encode_wire (pre : Bytes) (id : Int) (index : List Int) (h0 : 0 ≤ id) (h1 : id < 4294967296) :
    appendEncode pre id index = pre ++ Spec.C36.wireHeader id index :=
  wire_of_appendEncode pre id h0 h1 index

/-- Header round trip for every id < 2^32, every index path (any depth, any Go-int entries) and payload: `DecodeID`
recovers the id; for a non-empty path `DecodeIndex` recovers the path and leaves the payload, for every `maxLength` that
is non-positive (no bound) or at least the depth. -/
theorem header_roundtrip (id : Int) (index : List Int) (payload : Bytes) (maxLength : Int)
    (h0 : 0 ≤ id) (h1 : id < 4294967296) (hI : ∀ v ∈ index, I64 v)
    (hL : index.length < 9223372036854775808)
    (hm : maxLength ≤ 0 ∨ (index.length : Int) ≤ maxLength) :
    decodeID (appendEncode [] id index ++ payload) = .ok (id, encodeIndex index ++ payload) ∧
    (index = [] → encodeIndex index ++ payload = payload) ∧
    (index ≠ [] → decodeIndex (encodeIndex index ++ payload) maxLength = .ok (index, payload)) := by
  refine ⟨decodeID_appendEncode id h0 h1 index payload, ?_, ?_⟩
  · intro h; subst h; simp [encodeIndex]
  · intro hne; exact decodeIndex_encoded index maxLength payload hne hI hL hm

/-- Non-vacuity: id 2^32-1, path [0] (shortcut), a six-deep path with extreme entries. -/
example : decodeID ([0, 255, 255, 255, 255, 0, 7] : Bytes) = .ok (4294967295, [0, 7]) ∧
    decodeIndex ([0, 7] : Bytes) 1 = .ok ([0], [7]) ∧
    decodeIndex ([12, 0, 1, 126, 127, 128, 1, 255, 255, 255, 255, 255, 255, 255, 255, 255, 1, 9] : Bytes) 6
      = .ok ([0, -1, 63, -64, 64, -9223372036854775808], [9]) := by decide

/-- On every byte string `DecodeID` answers as the wire format says: never a panic, a value only for magic 0 · that id
big-endian · rest, an error only for fewer than five bytes or a wrong magic byte. -/
theorem decodeID_meets_spec (b : Bytes) : Spec.C36.decodeIDAllowed b (decodeID b) = true :=
  decodeID_spec b

/-- **Never panics**: for every byte string and every `maxLength` (negative, zero, positive). -/
theorem decodeIndex_no_panic (b : Bytes) (maxLength : Int) : decodeIndex b maxLength ≠ .panic := by
  rw [decodeIndex_eq]
  split
  · nofun
  split
  · nofun
  split
  · nofun
  split
  · nofun
  exact readN_no_panic _ _

/-- On every byte string and every `maxLength`, `DecodeIndex` answers as the wire format says: never a panic; the path at
the front of the input and the rest (within a positive `maxLength`); an error exactly for malformed input (truncated,
overlong varint, negative count) or a path longer than a positive `maxLength`. -/
theorem decodeIndex_meets_spec (b : Bytes) (maxLength : Int) :
    Spec.C36.decodeIndexAllowed b maxLength (decodeIndex b maxLength) = true := by
  have h := decodeIndex_toOption b maxLength
  cases hd : decodeIndex b maxLength with
  | panic => exact absurd hd (decodeIndex_no_panic b maxLength)
  | err e =>
    rw [hd] at h
    have := Option.filter_eq_none_iff.1 h.symm
    simp only [Spec.C36.decodeIndexAllowed]
    cases hr : Spec.C36.parseIndex b with
    | none => rfl
    | some r => simpa using this r hr
  | ok r =>
    rw [hd] at h
    simpa [Spec.C36.decodeIndexAllowed] using Option.filter_eq_some_iff.1 h.symm

example : decodeIndex ([4, 2, 4, 9] : Bytes) 3 = .ok ([1, 2], [9]) ∧ decodeIndex ([4, 2, 4, 9] : Bytes) 0 = .ok ([1, 2], [9]) ∧
    decodeIndex ([4, 2, 4, 9] : Bytes) (-7) = .ok ([1, 2], [9]) ∧ decodeIndex ([4, 2, 4, 9] : Bytes) 1 = .err .notRegistered := by decide

/-- Regression: the witnesses of the repaired defect (varint 2^62 = `80×9 01`, varint 2^40 = `80 80 80 80 80 80 10`, with
`maxLength` 0 / negative / positive, with and without following entries) are malformed input and give errors. -/
example :
    decodeIndex [128, 128, 128, 128, 128, 128, 128, 128, 128, 1] 0 = .err .eof ∧
    decodeIndex [128, 128, 128, 128, 128, 128, 128, 128, 128, 1] (-1) = .err .eof ∧
    decodeIndex [128, 128, 128, 128, 128, 128, 128, 128, 128, 1] 3 = .err .notRegistered ∧
    decodeIndex [128, 128, 128, 128, 128, 128, 16] (-9223372036854775808) = .err .eof ∧
    decodeIndex [128, 128, 128, 128, 128, 128, 16, 2, 129] 0 = .err .unexpectedEOF := by decide

/-- `Serde.Encode`/`AppendEncode`: for every history of valid registrations, a successful encode writes
prefix · Confluent header of the type's current registration · payload. -/
theorem serde_encode_wire (ops : List RegOp) (hv : ∀ o ∈ ops, ValidOp o) (pre : Bytes) (ty : Nat) (payload out : Bytes)
    (he : encode (build ops) pre ty payload = .ok out) :
    ∃ t, (build ops).types.lookup ty = some t ∧ t.ty = ty ∧ t.enc = true ∧
      out = pre ++ Spec.C36.wireHeader t.id32 t.index ++ payload := by
  obtain ⟨t, hl, henc, rfl⟩ := encode_ok _ pre ty payload out he
  obtain ⟨_, e2, _, e4, e5, _⟩ := (inv_build ops hv).types ty t hl
  exact ⟨t, hl, e2, henc, by rw [wire_of_appendEncode pre _ e4 e5]⟩

/-- **Serde round trip.** For every history of registrations (any length, any re-registrations; schema ids < 2^32,
Go-int index entries) whose resulting registry is `Consistent` (no id registered both with and without index), whatever
`Encode` produces for a value of a registered type is decoded by `Decode`/`DecodeNew` through the decoder of the very
registration that encoded it, which is handed exactly the payload (`ErrNotRegistered` if that registration has no decoder). -/
theorem serde_roundtrip (ops : List RegOp) (hv : ∀ o ∈ ops, ValidOp o) (hc : Consistent (build ops) = true)
    (ty : Nat) (payload out : Bytes) (he : encode (build ops) [] ty payload = .ok out) :
    ∃ t, (build ops).types.lookup ty = some t ∧ t.ty = ty ∧ out = Spec.C36.wireHeader t.id32 t.index ++ payload ∧
      decodeFind (build ops) out = if t.dec then .ok (t, payload) else .err .notRegistered :=
  roundtrip (build ops) (inv_build ops hv) hc ty payload out he

/-- Non-vacuity: a consistent registry with a plain id, a protobuf id with nested paths [1] and [1,2], and a re-registration;
type 2 (registered at id 7, path [1,2]; its header is 00 00000007 04 02 04) round-trips through decoder tag 12; type 0 was
displaced at id 1 by type 4 and can no longer be encoded. -/
def exOps : List RegOp :=
  [⟨1, 0, 10, [], true, true⟩, ⟨7, 1, 11, [1], true, true⟩, ⟨7, 2, 12, [1, 2], true, true⟩, ⟨7, 3, 13, [0], true, true⟩,
   ⟨1, 4, 14, [], true, true⟩]
example : Consistent (build exOps) = true ∧
    (build exOps).types.lookup 2 = some { exists_ := true, id32 := 7, enc := true, dec := true, ty := 2, tag := 12, index := [1, 2] } ∧
    (decodeFind (build exOps) [0, 0, 0, 0, 7, 4, 2, 4, 9, 9]) =
      .ok ({ exists_ := true, id32 := 7, enc := true, dec := true, ty := 2, tag := 12, index := [1, 2] }, [9, 9]) ∧
    (build exOps).types.lookup 0 = none := by decide

/-- The excluded mixed case is a real loss: id 1 registered without index (type 0) and with index [0] (type 1) —
the plain value's payload is read as an index. (Executed on the real code by the harness and reported.) -/
example : Consistent (build [⟨1, 0, 10, [], true, true⟩, ⟨1, 1, 11, [0], true, true⟩]) = false ∧
    decodeFind (build [⟨1, 0, 10, [], true, true⟩, ⟨1, 1, 11, [0], true, true⟩]) [0, 0, 0, 0, 1, 0, 5]
      = .ok ({ exists_ := true, id32 := 1, enc := true, dec := true, ty := 1, tag := 11, index := [0] }, [5]) := by decide

/-- `Serde.Decode`/`DecodeNew` never panic, on any bytes, for every registry. -/
theorem serde_decode_no_panic (s : Reg) (b : Bytes) : decodeFind s b ≠ .panic := by
  unfold decodeFind
  cases hid : decodeID b with
  | panic =>
    have := decodeID_spec b
    rw [hid] at this
    cases this
  | err e => simp
  | ok p =>
    simp only
    split
    · cases hdi : decodeIndex p.2 (mget s.ids p.1).depth with
      | panic => exact absurd hdi (decodeIndex_no_panic _ _)
      | err e => simp
      | ok q =>
        simp only
        cases hf : findWalk (mget s.ids p.1) q.1 with
        | panic => exact absurd hf (findWalk_no_panic _ _)
        | err e => simp
        | ok t' => exact finish_no_panic _ _
    · exact finish_no_panic _ _

/-- Malformed header (fewer than five bytes or wrong magic byte) ⇒ `ErrBadHeader`, for every registry. -/
theorem serde_malformed_header_error (s : Reg) (b : Bytes) (h : b.length < 5 ∨ b.head? ≠ some 0) :
    decodeFind s b = .err .badHeader := by
  have : decodeID b = .err .badHeader := by
    match b, h with
    | [], _ | [_], _ | [_, _], _ | [_, _, _], _ | [_, _, _, _], _ => rfl
    | m :: a :: b :: c :: d :: rest, h =>
      have : m ≠ 0 := by
        rcases h with h | h
        · simp at h; omega
        · simpa using h
      simp [decodeID, this]
  simp [decodeFind, this]

/-- An id nobody registered ⇒ `ErrNotRegistered`, whatever follows the id. -/
theorem serde_unregistered_id_error (ops : List RegOp) (b b1 : Bytes) (id : Int)
    (hid : decodeID b = .ok (id, b1)) (hun : ∀ o ∈ ops, o.id ≠ id) :
    decodeFind (build ops) b = .err .notRegistered := by
  have hz : mget (build ops).ids id = Node.zero := mget_foldl_unregistered ops id {} hun
  simp [decodeFind, hid, hz, Node.zero, Node.sub, finish, Node.d]

example : decodeFind (build exOps) [0, 0, 0, 0, 9, 1, 2] = .err .notRegistered ∧
    decodeFind (build exOps) [1, 0, 0, 0, 7, 0] = .err .badHeader ∧
    decodeFind (build exOps) [0, 0, 0, 0, 7, 128] = .err .unexpectedEOF := by decide

end Props.C36
