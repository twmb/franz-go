import FranzVerif.Proof.C26
import FranzVerif.Proof.C26Ex
import FranzVerif.Proof.C26P
/-! C26 — sticky balancing is optimal and keeps balanced assignments.

**Spec** (`Model.C26.Optimal ms plan`, from the property text, no algorithm in it): write `a ⟶ b` when `b` holds
a partition of a topic `a` subscribes to (`CanTake`: that partition could move from `b` to `a`). The plan is
optimally balanced when for every member `a` and every `b` reachable from `a` through `⟶` (a chain of moves
between members subscribed to the moved topics) `load b < load a + 2`: nothing can move, directly or through
a chain, from a member to one holding at least two fewer. The driver evaluates it on the engine's real
output with `optimalB` (a closure certificate per member; `optimalB_sound`), together with C25's `validPlan`
and the two stability checks (priors valid and optimal → plan = priors; rejoin with the plan → same plan).

**Model** (`Model.C26.step`): `parseMemberMetadata` exactly; everything after it as an acceptor over the
decision events the engine reports (drop / restick / assign / steal path / give up / done), which re-checks
the guard of every decision. The theorems quantify over ALL contexts (members, subscriptions, topics, priors:
any sizes) and ALL event sequences the acceptor accepts (any length); the differential run ties the real
engine to the acceptor: every generated input's real trace must be accepted and end in the returned plan.

What is proved and what is only checked per run:
* proved: every accepted trace that reaches `done` ends in a plan that is `Optimal` and valid; once the
  assignment phase is over validity is kept by every steal; from a valid state in which nobody can improve
  no plan-changing decision is accepted (stability).
* checked on every real trace, not proved: that the engine's own search agrees with the acceptor's guards —
  in particular `findSteal` returning "no path" only when there is none (the `giveup` guard recomputes
  reachability), and that drop/restick/assign leave a valid plan when balancing starts (`enter`). -/
namespace Props.C26
open Model.C25 Model.C26 Proof.C26

/-- The executable evaluation of the Spec used by the driver on the engine's real output is sound: a `1`
verdict means the returned plan is `Optimal`. -/
theorem optimalB_sound (ms : List Member) (plan : List Triple) (h : optimalB ms plan = true) : Optimal ms plan :=
  optimal_of_certs ms plan ((ms.map (·.id)).map fun a => (a, closurePlan ms plan a)) <|
    List.all_eq_true.2 fun a ha => List.any_eq_true.2 ⟨_, List.mem_map.2 ⟨a, ha, rfl⟩, by
      simpa [optimalB] using List.all_eq_true.1 h a ha⟩

/-- **Given-up stays stuck** (the heart of the optimality argument): a member `g` that cannot improve and
holds no more than `m` still cannot improve after ANY valid steal path from `x` (holding at least two more
than `m`) to `m` has been applied — steals only raise minima and reroute edges through members that already
reached `x`. Holds for every state, chain length and group size. -/
theorem given_up_stays_stuck (c : Ctx) (o : Own) (x m g : String) (chain : List (TP × String))
    (hok : chainOK c o x chain = true) (hend : chainEnd x chain = m) (hlv : level c o m + 2 ≤ level c o x)
    (hg : ¬ CanImprove c o g) (hgm : level c o g ≤ level c o m) : ¬ CanImprove c (applyChain o chain) g :=
  stuck_after_chain c o x m g chain hok hend hlv hg hgm

/-- **Optimality**: for every input and every event sequence, if the acceptor accepts the whole sequence and
it ends with `done` (phase 3), the plan of the final state is optimally balanced in the sense of the Spec. -/
theorem accepted_trace_optimal (c : Ctx) (es : List Ev) (s : St)
    (h : run c {} 0 es = .ok s) (hd : s.phase = 3) : Optimal c.members (planOf c s.own) :=
  (allStuck_iff_optimal c s.own).1 ((run_good c {} s 0 es h (good_init c)).fin hd)

/-- the hypotheses are satisfiable by a non-trivial trace: three members with uneven subscriptions (m0: t1, m1: t0+t1,
m2: t0), three assignments, then a steal path of TWO segments (m0 gives t1/0 to m1, m1 gives t0/0 to m2), then `done`;
the acceptor accepts all six events and the theorem yields optimality of the final plan. -/
example : run Ex.exCtx {} 0 Ex.exTrace = .ok { own := Ex.o5, phase := 3 } ∧ Optimal Ex.exCtx.members (planOf Ex.exCtx Ex.o5) :=
  ⟨Ex.ex_run, accepted_trace_optimal Ex.exCtx Ex.exTrace { own := Ex.o5, phase := 3 } Ex.ex_run rfl⟩

/-- a second one with a give-up: `a` consumes only t0 (3 partitions), `b` only t1 (1 partition); `b` gives up (the
acceptor recomputes that `b` reaches nobody), `done` is accepted with loads 3 and 1 — a spread of two that IS optimal. -/
example : run Ex.gCtx {} 0 Ex.gTrace = .ok { own := Ex.og, phase := 3, given := ["b"] } ∧
    Optimal Ex.gCtx.members (planOf Ex.gCtx Ex.og) ∧
    load (planOf Ex.gCtx Ex.og) "a" = 3 ∧ load (planOf Ex.gCtx Ex.og) "b" = 1 :=
  ⟨Ex.g_run, accepted_trace_optimal Ex.gCtx Ex.gTrace { own := Ex.og, phase := 3, given := ["b"] } Ex.g_run rfl,
   by rw [load_planOf]; exact Ex.g_levels.1, by rw [load_planOf]; exact Ex.g_levels.2⟩

/-- **Validity is kept**: once balancing has started (phase ≥ 2; entering it checks validity once), after any
number of accepted steals / give-ups the plan assigns only existing partitions to subscribers, assigns every
partition of every topic somebody subscribes to, and (being a function of the partition) assigns nothing twice. -/
theorem accepted_trace_valid (c : Ctx) (es : List Ev) (s : St) (h : run c {} 0 es = .ok s) (hd : 2 ≤ s.phase) :
    (∀ x ∈ planOf c s.own, subOf c.members x.1 x.2.1 = true ∧ x.2.2 < cnt c.topics x.2.1) ∧
    (∀ t i, c.wanted t = true → i < cnt c.topics t → ∃ m, (m, t, i) ∈ planOf c s.own) ∧
    (∀ m m' t i, (m, t, i) ∈ planOf c s.own → (m', t, i) ∈ planOf c s.own → m = m') := by
  have hi := (run_good c {} s 0 es h (good_init c)).inv hd
  refine ⟨fun x hx => ?_, fun t i hw hlt => ?_, fun m m' t i h1 h2 => ?_⟩
  · obtain ⟨h1, h2⟩ := hi.valid _ _ ((mem_planOf c s.own x).1 hx).2
    exact ⟨h2, of_decide_eq_true h1⟩
  · have hp : c.isPart (t, i) = true := decide_eq_true hlt
    obtain ⟨m, hm⟩ := Option.isSome_iff_exists.1 (hi.complete (t, i) hp hw)
    exact ⟨m, (mem_planOf c s.own _).2 ⟨hp, hm⟩⟩
  · exact Option.some.inj (((mem_planOf c s.own _).1 h1).2.symm.trans ((mem_planOf c s.own _).1 h2).2)

/-- the same in the vocabulary of C25: the plan of such a state satisfies C25's executable Spec `validPlan`
(every partition of every subscribed topic exactly once, to a subscriber, nothing else). -/
theorem accepted_trace_validPlan (c : Ctx) (es : List Ev) (s : St) (h : run c {} 0 es = .ok s) (hd : 2 ≤ s.phase) :
    validPlan (subsOf c.members) (cnt c.topics) (planOf c s.own) = true :=
  validPlan_planOf c s.own ((run_good c {} s 0 es h (good_init c)).inv hd).own_valid

/-- **Stability**: if the prior plan the engine parsed from the members' metadata is already valid and
optimally balanced for the current subscriptions, every accepted continuation — of any length — leaves every
partition where it is: no drop, restick, assignment or steal is accepted from such a state. -/
theorem optimal_start_unchanged (c : Ctx) (owns stl : List (String × TP)) (es : List Ev) (s : St)
    (h : run c {} 0 (.init owns stl :: es) = .ok s)
    (hv : ∀ p b, (initOwn c)[p]? = some b → c.isPart p = true ∧ c.sub b p.1 = true)
    (hc : ∀ p, c.isPart p = true → c.wanted p.1 = true → ((initOwn c)[p]?).isSome = true)
    (ho : Optimal c.members (planOf c (initOwn c))) :
    planOf c s.own = planOf c (initOwn c) := by
  simp only [run, step] at h
  split at h
  · cases h
  · rename_i s1 hs1
    split at hs1
    · cases hs1
      have := run_stable c _ s 1 es h (by simp) ⟨hv, hc⟩ ((allStuck_iff_optimal c _).2 ho)
      rw [this]
    · cases hs1

/-- **Stability as the property states it, on the members' own statements**: when the current assignments the
members list (`priorPlan`: every owned entry of every member, whatever their generations) are valid — every listed
partition exists and its holder subscribes to the topic, no partition is listed twice, every partition of a topic
somebody subscribes to is listed — and optimally balanced, every accepted trace leaves every partition where it
is: the final plan is the listed assignment (as a multiset of member/topic/partition triples). -/
theorem optimal_priors_unchanged (c : Ctx) (owns stl : List (String × TP)) (es : List Ev) (s : St)
    (h : run c {} 0 (.init owns stl :: es) = .ok s)
    (hin : ∀ x ∈ priorPlan c.members, c.isPart (x.2.1, x.2.2) = true ∧ c.sub x.1 x.2.1 = true)
    (hu : ((priorPlan c.members).map fun x => ((x.2.1, x.2.2) : TP)).Nodup)
    (hc : ∀ p, c.isPart p = true → c.wanted p.1 = true → ∃ m, (m, p.1, p.2) ∈ priorPlan c.members)
    (ho : Optimal c.members (priorPlan c.members)) :
    (planOf c s.own).Perm (priorPlan c.members) := by
  have hin1 : ∀ x ∈ priorPlan c.members, c.isPart (x.2.1, x.2.2) = true := fun x hx => (hin x hx).1
  have hperm := planOf_initOwn_perm c hin1 hu
  have := optimal_start_unchanged c owns stl es s h
    (fun p b hpb => hin _ ((initOwn_of_valid_priors c hin1 hu p b).1 hpb))
    (fun p hp hw => by
      obtain ⟨m, hm⟩ := hc p hp hw
      rw [(initOwn_of_valid_priors c hin1 hu p m).2 hm]; rfl)
    (optimal_of_perm c.members _ _ hperm.symm ho)
  rw [this]
  exact hperm

/-- the hypotheses about the priors are satisfiable by a non-trivial group: `a` (subscribed to t0 only) lists all
three partitions of t0, `b` (t1 only, an older generation) lists the one partition of t1 — valid, and optimal although
the loads differ by two. The third hypothesis (`hc`) is shown in its bounded form, over `c.parts` and `c.ids`, which
`decide` can evaluate and which implies it (`Proof.C26.mem_parts`). (The remaining hypothesis, an accepted trace
starting with `init`, is what every real run of the harness supplies; `Std.HashMap.fold` over a non-empty map does not
evaluate symbolically.) -/
example :
    let c : Ctx := { members := [{ id := "a", topics := ["t0"], gen := 3, owned := [("t0", [0, 1, 2])] },
                                 { id := "b", topics := ["t1"], gen := 2, owned := [("t1", [0])] }],
                     topics := [("t0", 3), ("t1", 1)] }
    (∀ x ∈ priorPlan c.members, c.isPart (x.2.1, x.2.2) = true ∧ c.sub x.1 x.2.1 = true) ∧
    ((priorPlan c.members).map fun x => ((x.2.1, x.2.2) : TP)).Nodup ∧
    (∀ p ∈ c.parts, c.wanted p.1 = true → ∃ m ∈ c.ids, (m, p.1, p.2) ∈ priorPlan c.members) ∧
    Optimal c.members (priorPlan c.members) := by
  refine ⟨by decide, by decide, by decide, ?_⟩
  exact optimal_of_certs _ _ [("a", ["a"]), ("b", ["b"])] (by decide)

/-- The same from any state of the assignment or balancing phase (not only the parsed one). -/
theorem optimal_state_unchanged (c : Ctx) (s s' : St) (i : Nat) (es : List Ev) (h : run c s i es = .ok s') (hph : 1 ≤ s.phase)
    (hv : ∀ p b, s.own[p]? = some b → c.isPart p = true ∧ c.sub b p.1 = true)
    (hc : ∀ p, c.isPart p = true → c.wanted p.1 = true → (s.own[p]?).isSome = true)
    (ho : Optimal c.members (planOf c s.own)) : s'.own = s.own :=
  run_stable c s s' i es h hph ⟨hv, hc⟩ ((allStuck_iff_optimal c _).2 ho)

/-- the hypotheses of the stability theorem are satisfiable by a non-trivial state and continuation: the state with
loads 3 and 1 above is valid and optimal, the continuation `giveup b, done` is accepted, and the plan is unchanged. -/
example : ∃ s', run Ex.gCtx { own := Ex.og, phase := 1 } 5 [.giveup "b", .done] = .ok s' ∧ s'.own = Ex.og := by
  obtain ⟨hv, hc⟩ := validB_spec Ex.gCtx Ex.og Ex.g_valid
  exact ⟨_, Ex.g_tail, optimal_state_unchanged Ex.gCtx _ _ 5 _ Ex.g_tail (by simp) hv hc
    (accepted_trace_optimal Ex.gCtx Ex.gTrace { own := Ex.og, phase := 3, given := ["b"] } Ex.g_run rfl)⟩

/-- The give-up guard is sound: whenever the acceptor lets `m` give up, no chain of moves from `m` reaches a
member holding at least two more (this is the fact `findSteal`'s "not found" must deliver on every real trace). -/
theorem giveup_guard_sound (c : Ctx) (o : Own) (m : String) (h : stuckB c o m = true) : ¬ CanImprove c o m :=
  stuckB_spec c o m h

end Props.C26
