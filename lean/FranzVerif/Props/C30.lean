import FranzVerif.Model.C30
import FranzVerif.Proof.C30
import FranzVerif.Proof.C30Ring
import FranzVerif.Proof.C30Proto
import FranzVerif.Proof.C30Spec
import FranzVerif.Proof.C30SpecRing
/-! C30 — "Work queues and work latches never lose or duplicate work".

Models: `Model.C30` (`workLoop` as a CAS automaton with one action per atomic Load/CAS/Store; `ring[T]` as a
monitor with one action per critical section, `cond.Wait` split into park / resume).  Every theorem below
quantifies over an arbitrary number of threads and an arbitrary action list (= every interleaving); nothing is
bounded.  The models are tied to the current source by the schedule-differential run (harness/cmd/c30: the
source files are copied and their sync primitives swapped for scheduler-controlled shims; the driver executes
`LS.step` / `QS.step` / `Ring.*` on the same schedule and compares every return value and the final contents).

Spec (evaluated by the driver on the implementation's event log, see `Driver/C30.lean`):
 latch — at any point at most one thread is between a `maybeBegin` that returned true and its `maybeFinish` that
         returned false (or its `hardFinish`); every completed `maybeBegin` not followed by a `hardFinish` is
         followed by a loop iteration;
 ring  — at most one worker (between `first = true` and `more = false`); the elements handed to workers are exactly
         the accepted elements, each once, in push order; a push blocks only while the bounded ring is full and
         alive; pushes linearised after `die` return dead; no thread stays blocked at the end. -/
namespace Props.C30
open Model.C30 Proof.C30

/-- Reachable latch states: `n` threads, any list of (thread, choice) actions. -/
def LReach (n : Nat) (as : List (Nat × Choice)) (s : LS) : Prop := (LS.init n).run as = some s

/-- **Never two workers.** With the usage protocol (`if maybeBegin() { go loop }`, the loop calls
    `maybeFinish`/`hardFinish`; no other caller), for any number of threads and any interleaving, the number of
    threads between a `maybeBegin` that returned true and the `maybeFinish` that returns false is 0 when the
    state is `unstarted` and exactly 1 otherwise. -/
theorem latch_workers_eq (n : Nat) (as : List (Nat × Choice)) (s : LS) (hp : protoOnly as) (h : LReach n as s) :
    s.workers = if s.st = .unstarted then 0 else 1 := by
  rw [workers_eq]
  exact (linv_run as hp (linv_init n) h).cnt

theorem latch_single_worker (n : Nat) (as : List (Nat × Choice)) (s : LS) (hp : protoOnly as) (h : LReach n as s) :
    s.workers ≤ 1 := by
  have := latch_workers_eq n as s hp h
  split at this <;> omega

/-- **No lost wake-up (safety form).** `pending` = some `maybeBegin` has completed and no loop iteration has
    started its work since (a `hardFinish` discards it: documented contract, the strand is moot or the caller
    re-triggers). Then a worker is at the top of an iteration, or the state is `continue` and the worker is inside
    `maybeFinish` — from where it can only return true (`latch_continue_is_answered`). -/
theorem latch_no_lost_wakeup (n : Nat) (as : List (Nat × Choice)) (s : LS) (hp : protoOnly as) (h : LReach n as s)
    (hpend : s.pending = true) :
    Loc.work ∈ s.pcs ∨ (s.st = .cont ∧ ∃ pc, Loc.fin pc ∈ s.pcs) := by
  rcases (linv_run as hp (linv_init n) h).pend hpend with hw | hc
  · obtain ⟨a, ha, hpa⟩ := List.countP_pos_iff.mp hw
    cases a <;> simp [pW] at hpa
    exact Or.inl ha
  · have hw := latch_workers_eq n as s hp h
    rw [hc, if_neg nofun] at hw
    obtain ⟨a, ha, hpa⟩ := List.countP_pos_iff.mp (Nat.lt_of_lt_of_eq Nat.one_pos hw.symm)
    cases a <;> simp [Loc.isWorker] at hpa
    · exact Or.inl ha
    · exact Or.inr ⟨hc, _, ha⟩

/-- The same without the `hardFinish` contract: if no `hardFinish` occurs in the run, a signal is never dropped
    (`pendingStrict` is not cleared by `hardFinish`). `latch_hardFinish_strands` shows the hypothesis is needed. -/
theorem latch_no_lost_wakeup_strict (n : Nat) (as : List (Nat × Choice)) (s : LS) (hp : protoOnly as) (hh : noHard as)
    (h : LReach n as s) (hpend : s.pendingStrict = true) :
    Loc.work ∈ s.pcs ∨ (s.st = .cont ∧ ∃ pc, Loc.fin pc ∈ s.pcs) := by
  have he := (run_inv strict_step as (fun a ha => ⟨hp a ha, hh a ha⟩) ⟨linv_init n, rfl⟩ h).2
  exact latch_no_lost_wakeup n as s hp h (by rw [← he]; exact hpend)

/-- Progress of a recorded signal: in state `continue` a worker inside `maybeFinish` reaches the top of the next
    iteration in at most two of its own steps, whatever `again` it passed … -/
theorem latch_continue_is_answered (c : Choice) :
    (∀ again, tstep .cont (.fin (.load again)) c = some (.cont, .fin .store, .none)) ∧
    (∀ st, tstep st (.fin .store) c = some (.working, .work, .finishRet true)) ∧
    tstep .cont (.fin .cas) c = some (.cont, .work, .finishRet true) := by
  refine ⟨fun again => ?_, fun st => ?_, ?_⟩ <;> simp [tstep, mfStep]

/-- … and nobody but the worker can take the state out of `continue` (protocol actions of threads outside the loop
    leave it alone), so the signal cannot be lost in between. -/
theorem latch_continue_is_stable (l : Loc) (c : Choice) (st' : WS) (l' : Loc) (ev : Ev)
    (hl : l.isWorker = false) (hc : c.isRaw = false) (hr : l.isRaw = false)
    (h : tstep .cont l c = some (st', l', ev)) : st' = .cont := by
  cases l <;> simp [Loc.isWorker, Loc.isRaw] at hl hr
  · cases c <;> simp [tstep, mbStep, Choice.isRaw] at h hc
    exact h.1.symm
  · rename_i pc; cases pc <;> simp [tstep, mbStep] at h <;> exact h.1.symm

/-- Deadlock freedom: the latch never blocks — every thread inside a call or a loop has an enabled action, and an
    idle thread can always signal. -/
theorem latch_never_blocks (st : WS) (l : Loc) : ∃ c, (tstep st l c).isSome = true := by
  cases l with
  | work => exact ⟨.work false, rfl⟩
  | idle | beg pc | fin pc | rawB pc | rawF pc => exact ⟨.begin, by simp only [tstep]; split <;> rfl⟩

/-- **Model ⊨ Spec.** The event log of every protocol run of the model — any number of threads, any interleaving —
    passes the executable Spec the driver evaluates on the implementation's logs: the single-worker scan always,
    and the no-lost-wake-up scan on every completed run (all threads back to idle). -/
theorem latch_model_satisfies_spec (n : Nat) (as : List (Nat × Choice)) (s : LS) (evs : List Spec.C30.LEv)
    (hp : protoOnly as) (hr : runEv (LS.init n) as = some (s, evs)) :
    Spec.C30.latchSingle evs = true ∧ ((∀ l ∈ s.pcs, l = Loc.idle) → Spec.C30.latchSpec evs = none) := by
  have h1 : Spec.C30.latchSingle evs = true := single_run as evs hp (linv_init n) hr
  refine ⟨h1, fun hidle => ?_⟩
  have hrun := run_of_runEv as evs hr
  have hpend : s.pending = false := by
    cases hpd : s.pending
    · rfl
    · rcases latch_no_lost_wakeup n as s hp hrun hpd with hw | ⟨_, pc, hf⟩
      · cases hidle _ hw
      · cases hidle _ hf
  have h2 : Spec.C30.latchNoLost evs = true := by
    apply noLost_of_not_pending
    have := pending_run as evs hr
    rw [hpend] at this
    exact this.symm
  simp [Spec.C30.latchSpec, h1, h2]

/-- non-vacuity: a completed 2-thread run with a re-loop and its log -/
example : ∃ s evs, runEv (LS.init 2) [(0, .begin), (0, .begin), (1, .begin), (1, .begin), (0, .work false), (0, .begin),
      (0, .begin), (0, .work false), (0, .begin), (0, .begin)] = some (s, evs) ∧ (∀ l ∈ s.pcs, l = Loc.idle) ∧
    evs = [.beginRet 0 true, .beginRet 1 false, .worked 0, .finishRet 0 true, .worked 0, .finishRet 0 false] :=
  ⟨_, _, rfl, by decide, by decide⟩

/-- Non-vacuity: three threads; 0 starts the loop, 1 signals while 0 is at the top of an iteration (state →
    continue); the iteration answers it (`pending = false`) and 0's `maybeFinish(false)`, one step in, finds
    `continue` and will re-loop. Second run: the signal arrives after the work, with 0 about to call
    `maybeFinish(false)`: pending, state `continue`, the worker inside `maybeFinish`. -/
example : ∃ s, LReach 3 [(0, .begin), (0, .begin), (1, .begin), (1, .begin), (0, .work false), (0, .begin)] s ∧
    s.st = .cont ∧ s.workers = 1 ∧ s.pending = false := ⟨_, rfl, by decide⟩
example : ∃ s, LReach 3 [(0, .begin), (0, .begin), (0, .work false), (1, .begin), (1, .begin)] s ∧
    s.st = .cont ∧ s.pending = true ∧ s.pcs = [.fin (.load false), .idle, .idle] := ⟨_, rfl, by decide⟩

/-- The `hardFinish` hypothesis is needed: with a `hardFinish` by the worker, a signal recorded before it is
    dropped — state `unstarted`, no worker, signal unanswered (the strand the source comment documents). -/
theorem latch_hardFinish_strands :
    ∃ s, LReach 2 [(0, .begin), (0, .begin), (1, .begin), (1, .begin), (0, .hard)] s ∧
      s.pendingStrict = true ∧ s.workers = 0 ∧ s.st = .unstarted := ⟨_, rfl, by decide⟩

/-- The protocol hypothesis is needed: a `hardFinish` from outside the loop lets a second worker start. -/
theorem latch_outside_hardFinish_two_workers :
    ∃ s, LReach 2 [(0, .begin), (0, .begin), (1, .rawHard), (1, .begin), (1, .begin)] s ∧ s.workers = 2 :=
  ⟨_, rfl, by decide⟩

/-! ## Ring: refinement of a FIFO queue -/

/-- Abstract FIFO queue (the Spec the ring refines). -/
structure AQ where
  q : List Nat := []
  dead : Bool := false

/-- abstract push: rejected iff dead; `first` iff the queue was empty -/
def AQ.push (a : AQ) (e : Nat) : AQ × Bool × Bool :=
  if a.dead then (a, false, true) else ({ a with q := a.q ++ [e] }, a.q.isEmpty, false)
/-- abstract dropPeek: drop the head, return the new head and whether there is one -/
def AQ.dropPeek (a : AQ) : AQ × Nat × Bool × Bool :=
  ({ a with q := a.q.tail }, a.q.tail.headD 0, !a.q.tail.isEmpty, a.dead)

/-- the abstraction function -/
def absQ (r : Ring) : AQ := { q := r.abs, dead := r.dead }

/-- the ring's representation invariant -/
abbrev RingWF := WF

/-- **Push refines FIFO append / blocks only while full / dead rejects.** From `Lock` or after a wake-up, for a
    well-formed ring whose `maxLen > 0` was set through `initMaxLen`, `doPush` never panics and
    (a) parks iff `wait` ∧ `maxLen > 0` ∧ `l ≥ maxLen` ∧ not dead, changing nothing else;
    (b) otherwise on a dead ring returns `(false, true)` and changes nothing;
    (c) otherwise returns `(first, false)` with `first` ⇔ the queue was empty, and the abstract queue gets the
        element appended — through `head/l/cap` arithmetic, including the grow path (`resize(max(2·cap, 8))`). -/
theorem ring_push_refines (r : Ring) (t e : Nat) (wait : Bool) (hwf : RingWF r) (hinit : r.maxLen > 0 → r.hasCond = true) :
    ((wait = true ∧ r.maxLen > 0 ∧ (r.l : Int) ≥ r.maxLen ∧ r.dead = false) ∧
        r.pushFrom t e wait = .ok ({ r with parked := r.parked ++ [t] }, .blocked)) ∨
    (¬ (wait = true ∧ r.maxLen > 0 ∧ (r.l : Int) ≥ r.maxLen ∧ r.dead = false) ∧
      ∃ r' first dead, r.pushFrom t e wait = .ok (r', .done first dead) ∧ RingWF r' ∧
        (absQ r', first, dead) = (absQ r).push e ∧ r'.parked = r.parked ∧ r'.woken = r.woken ∧
        r'.maxLen = r.maxLen ∧ r'.hasCond = r.hasCond) := by
  have hnw : (wait && r.needWait) = true ↔ (wait = true ∧ r.maxLen > 0 ∧ (r.l : Int) ≥ r.maxLen ∧ r.dead = false) := by
    simp [Ring.needWait, and_assoc]
  rcases pushFrom_cases r t e wait hwf hinit with ⟨h1, _, _, _, h⟩ | ⟨h1, hd, h⟩ | ⟨h1, hd, r', h, hb⟩
  · left; exact ⟨hnw.mp h1, h⟩
  · right
    refine ⟨fun hc => (by rw [hnw.mpr hc] at h1; cases h1), r, false, true, h, hwf, ?_, rfl, rfl, rfl, rfl⟩
    simp [AQ.push, absQ, hd]
  · right
    refine ⟨fun hc => (by rw [hnw.mpr hc] at h1; cases h1), r', _, false, h, hb.wf, ?_, hb.ctl.parked, hb.ctl.woken, hb.ctl.maxLen, hb.ctl.hasCond⟩
    simp only [AQ.push, absQ, hd, hb.abs, hb.ctl.dead, Bool.false_eq_true, if_false, abs_isEmpty r hwf]

/-- **dropPeek refines FIFO pop.** On a non-empty well-formed ring `dropPeek` never panics, removes the head of the
    abstract queue, returns the new head and `more` ⇔ the queue is still non-empty (through head/len arithmetic
    including the shrink path `resize(8)`), and its Signal wakes at most one parked pusher. -/
theorem ring_dropPeek_refines (r : Ring) (k : Nat) (hwf : RingWF r) (hne : 0 < r.l) :
    ∃ r' next more dead, r.dropPeek k = .ok (r', next, more, dead) ∧ RingWF r' ∧
      (absQ r', next, more, dead) = (absQ r).dropPeek ∧
      r'.parked = (afterSignal r k).parked ∧ r'.woken = (afterSignal r k).woken ∧
      r'.maxLen = r.maxLen ∧ r'.hasCond = r.hasCond := by
  obtain ⟨r', hd, hb⟩ := dropPeek_spec r k hwf hne
  obtain ⟨hm, hc, hdd⟩ := sameCtl_afterSignal hb.ctl
  refine ⟨r', _, _, _, hd, hb.wf, ?_, hb.ctl.parked, hb.ctl.woken, hm, hc⟩
  have e2 : decide (0 < r'.l) = !r'.abs.isEmpty := by
    rw [abs_isEmpty r' hb.wf]; cases r'.l <;> rfl
  simp only [AQ.dropPeek, absQ, hdd, ← hb.abs, e2]

/-- On an empty ring `dropPeek` changes nothing and reports `more = false`. -/
theorem ring_dropPeek_empty (r : Ring) (k : Nat) (h : r.l = 0) : r.dropPeek k = .ok (r, 0, false, r.dead) := by
  simp [Ring.dropPeek, h]

/-- **Resize (grow and shrink) keeps the contents**: for any target capacity that holds the elements, `resize`
    does not panic and the abstract queue is unchanged; the buffer is re-linearised at head 0. -/
theorem ring_resize_preserves (r : Ring) (c : Nat) (hwf : RingWF r) (hc : r.l ≤ c) (h8 : 8 ≤ c) :
    ∃ r', r.resize c = .ok r' ∧ RingWF r' ∧ r'.abs = r.abs ∧ r'.head = 0 ∧ r'.elems.length = c ∧ r'.l = r.l := by
  obtain ⟨r', h, hb, hlen, hh⟩ := resize_wf r c hwf hc h8
  exact ⟨r', h, hb.wf, hb.abs, hh, hlen, hb.l⟩

/-- **die**: marks the ring dead, keeps the contents, and wakes every parked pusher. -/
theorem ring_die_wakes (r : Ring) (hwf : RingWF r) (hc : CondInv r) :
    r.die.dead = true ∧ r.die.parked = [] ∧ r.die.abs = r.abs ∧ RingWF r.die ∧
      (∀ t, t ∈ r.parked → t ∈ r.die.woken) := by
  obtain ⟨h1, _, _, h4, h5, h6⟩ := die_inv r hwf hc
  refine ⟨h5, h6, h4, h1, ?_⟩
  intro t ht
  cases hcnd : r.hasCond
  · rw [hc.noCond hcnd] at ht; cases ht
  · simp [Ring.die, hcnd, Ring.broadcast, ht]

/-- non-vacuity: a wrapped ring (cap 8, head 6, 3 elements 7,8,9 stored at 6,7,0) is well formed, its abstraction
    reads through the wrap, and a push lands at index 1 -/
example : let r : Ring := { elems := [9,0,0,0,0,0,7,8], head := 6, l := 3 }
    RingWF r ∧ r.abs = [7,8,9] ∧ (r.pushTail 5).toOption.map (fun x => (x.1.elems, x.1.abs)) = some ([9,5,0,0,0,0,7,8], [7,8,9,5]) := by
  refine ⟨Or.inr ⟨by decide, by decide, by decide⟩, by decide, by decide⟩

/-- non-vacuity of the grow path with a wrapped buffer: 8 elements at head 5, the 9th push re-linearises into cap 16 -/
example : let r : Ring := { elems := [4,5,6,7,8,1,2,3], head := 5, l := 8 }
    RingWF r ∧ (r.pushTail 9).toOption.map (fun x => (x.1.elems, x.1.head, x.2.1)) = some ([1,2,3,4,5,6,7,8,9,0,0,0,0,0,0,0], 0, false) := by
  refine ⟨Or.inr ⟨by decide, by decide, by decide⟩, by decide⟩

/-! ## Ring + usage protocol (`if first { go worker(e) }` / `process; e, more, _ = dropPeek(); if more goto start`) -/

/-- **At most one worker; a worker exists iff the queue is non-empty.** Any number of threads, any interleaving of
    blocking pushes, forced pushes, resumes, dropPeeks, `die` and `empty`, from a fresh ring. -/
theorem queue_single_worker (r0 : Ring) (n : Nat) (s : QS) (h0 : freshRing r0) (h : QReach r0 n s) :
    s.workers ≤ 1 ∧ (s.workers = 1 ↔ s.r.abs ≠ []) := by
  have hI := qinv_reach h0 h
  have hw := hI.w
  have hlen := abs_length s.r (wf_len hI.wf)
  by_cases hz : s.r.l = 0
  · rw [if_pos hz] at hw
    have : s.r.abs = [] := abs_nil_of_l0 s.r hz
    simp [hw, this]
  · rw [if_neg hz] at hw
    refine ⟨by omega, fun _ => ?_, fun _ => hw⟩
    intro h; rw [h] at hlen; simp at hlen; omega

/-- **Exactly once, in push order.** `accepted` = elements whose push returned `dead = false`, in the order of the
    push critical sections; `handed` = elements given to workers, in order. At every reachable state
    `handed ++ (queue minus the element being processed) = accepted`; hence `handed` is a prefix of `accepted`
    (nothing duplicated, reordered or invented) and when the queue is empty everything accepted has been handed. -/
theorem queue_exactly_once_in_order (r0 : Ring) (n : Nat) (s : QS) (h0 : freshRing r0) (h : QReach r0 n s) :
    s.handed ++ s.r.abs.tail = s.accepted ∧ (s.r.abs = [] → s.handed = s.accepted) := by
  have hI := qinv_reach h0 h
  refine ⟨hI.q, fun he => ?_⟩
  have := hI.q; rw [he] at this; simpa using this

/-- **The Go code never panics** in any reachable state of the protocol (index, slice and divide-by-zero sites of
    `doPush`, `resize`, `dropPeek` are modelled as explicit errors). -/
theorem queue_never_panics (r0 : Ring) (n : Nat) (s : QS) (h0 : freshRing r0) (h : QReach r0 n s) (i : Nat) (a : QAct) :
    ∃ o, s.step i a = .ok o :=
  qstep_no_panic s i a (qinv_reach h0 h)

/-- **Blocked pushers are not forgotten.** If any pusher is parked then the ring is alive, bounded and full even
    counting the slots already promised to woken pushers (`l + |woken| ≥ maxLen`): every `dropPeek` that frees a
    slot while someone is parked moves a pusher to `woken`. A dead ring has no parked pusher. -/
theorem queue_no_lost_pusher_wakeup (r0 : Ring) (n : Nat) (s : QS) (h0 : freshRing r0) (h : QReach r0 n s) :
    (s.r.parked ≠ [] → s.r.dead = false ∧ s.r.hasCond = true ∧ (s.r.l : Int) + s.r.woken.length ≥ s.r.maxLen) ∧
    (s.r.dead = true → s.r.parked = []) := by
  have hc := (qinv_reach h0 h).cond
  refine ⟨fun hp => ⟨?_, ?_, hc.noLost hp⟩, hc.deadWakes⟩
  · cases hd : s.r.dead
    · rfl
    · exact absurd (hc.deadWakes hd) hp
  · cases hd : s.r.hasCond
    · exact absurd (hc.noCond hd) hp
    · rfl

/-- **Model ⊨ Spec.** For every protocol run of the model from a fresh ring — any number of threads, any
    interleaving of blocking/forced pushes, resumes, dropPeeks, die, empty — the executable Spec the driver evaluates
    on the implementation's logs replays the run's event log without error (FIFO order, `first` iff empty, dead
    rejects, blocks only while full, completes a blocking push only when not full, never two workers); and on a
    completed run (all threads idle) the whole `ringSpec` holds: everything accepted was handed exactly once in push
    order, the queue is empty, no worker and no blocked pusher remains. -/
theorem queue_model_satisfies_spec (r0 : Ring) (n : Nat) (as : List (Nat × QAct)) (s : QS) (evs : List Spec.C30.REv)
    (h0 : freshRing r0) (hr : qrunEv (QS.init r0 n) as = some (s, evs)) :
    (∃ σ, Spec.C30.ringSpec.go r0.maxLen true evs {} = .ok σ) ∧
    ((∀ l ∈ s.pcs, l = QLoc.idle) → Spec.C30.ringSpec r0.maxLen true evs [] = none) := by
  have h00 : absSt (QS.init r0 n) = {} := by
    rcases h0 with h | ⟨m, h⟩ <;> subst h <;>
      simp [absSt, QS.init, Ring.abs, Ring.initMaxLen]
  obtain ⟨hgo, hI⟩ := sim_run _ s as evs (qinv_init r0 n h0) hr
  rw [h00] at hgo
  have hgo' : Spec.C30.ringSpec.go r0.maxLen true evs {} = .ok (absSt s) := hgo
  refine ⟨⟨_, hgo'⟩, fun hidle => ?_⟩
  have hw0 : s.workers = 0 := by
    unfold QS.workers
    rw [List.countP_eq_zero]
    intro l hl; rw [hidle l hl]; simp
  have hl0 : s.r.l = 0 := by
    have := hI.w; rw [hw0] at this
    by_cases h : s.r.l = 0
    · exact h
    · rw [if_neg h] at this; cases this
  have habs : s.r.abs = [] := abs_nil_of_l0 s.r hl0
  have hha : s.handed = s.accepted := by
    have := hI.q; rw [habs] at this; simpa using this
  simp [Spec.C30.ringSpec, hgo', absSt, hha, habs, hl0]

/-- non-vacuity of the Spec theorem: the bounded run of the example below, completed, with its event log -/
example : ∃ s evs, qrunEv (QS.init (Ring.initMaxLen 2) 3) [(0, .push 1 true), (2, .push 2 true), (1, .push 3 true),
      (0, .dropPeek 0), (1, .resume), (2, .die), (0, .dropPeek 0), (0, .dropPeek 0), (2, .push 9 false)] = some (s, evs) ∧
    (∀ l ∈ s.pcs, l = QLoc.idle) ∧
    evs = [.push 0 1 true true true false, .handed 0 1, .push 2 2 true true false false, .blocked 1,
           .drop 0 true 2 true false, .handed 0 2, .push 1 3 true true false false, .die 2,
           .drop 0 true 3 true true, .handed 0 3, .drop 0 true 0 false true, .push 2 9 false true false true] :=
  ⟨_, _, rfl, by decide, by decide⟩

/-- non-vacuity: bounded ring (maxLen 2), thread 0 pushes and becomes the worker, thread 2 pushes, thread 1 blocks
    on the third push, the worker's dropPeek wakes it, it resumes and pushes; then `die`. -/
example : ∃ s, QReach (Ring.initMaxLen 2) 3 s ∧ s.accepted = [1, 2, 3] ∧ s.handed = [1, 2] ∧ s.workers = 1 ∧
    s.r.abs = [2, 3] ∧ s.r.dead = true := by
  have hr : ∃ s, (QS.init (Ring.initMaxLen 2) 3).run [(0, .push 1 true), (2, .push 2 true), (1, .push 3 true),
      (0, .dropPeek 0), (1, .resume), (2, .die)] = some s ∧ s.accepted = [1, 2, 3] ∧ s.handed = [1, 2] ∧ s.workers = 1 ∧
      s.r.abs = [2, 3] ∧ s.r.dead = true := ⟨_, rfl, by decide⟩
  obtain ⟨s, h, hp⟩ := hr
  exact ⟨s, qreach_run _ QReach.init h, hp⟩

end Props.C30
