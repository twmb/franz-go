import FranzVerif.Model.Producer
import FranzVerif.Proof.Producer
import FranzVerif.Proof.ProducerFacts
import FranzVerif.Model.Consumer
import FranzVerif.Proof.Consumer
import FranzVerif.Proof.ConsumerInv
import FranzVerif.Proof.ConsumerFacts
/-! C14 — buffered/unbuffered hooks pair up exactly once per record, with the promise's error (produce half,
about `Model.Producer`), and every fetched record passed to the unbuffered hook was passed to the buffered
hook before, all of them by the time the client is closed (fetch half, about `Model.Consumer`, the theorems
named `fetch_…` in the second `namespace Props.C14` block). -/
namespace Props.C14
open Model.Producer Proof.Producer

/-- Every record passed to the buffered hook is passed at most once to the unbuffered hook, never the
other way round, and the unbuffered hook's error is the error the promise receives. -/
theorem hooks_pair_at_most_once (c : Cfg) (h : List Ev) (s : St) (hacc : run c {} h = some s) (id : Id) :
    (hookBsOf id h).length ≤ 1 ∧ (hookUsOf id h).length ≤ 1 ∧
    ((hookUsOf id h).length = 1 → (hookBsOf id h).length = 1) ∧
    (∀ e, e ∈ promisesOf id h → hookUsOf id h = [e]) := by
  have hi := inv_of_run hacc
  cases hfd : find s.recs id with
  | none =>
    have hn := hi.recNone id hfd
    simp [hn.promisesOf, hn.hookUsOf, hn.hookBsOf]
  | some r =>
    have hr := hi.recSome id r hfd
    rw [hr.hprom, hr.hU, hr.hB]
    refine ⟨by split <;> simp, by cases r.hookU <;> simp, ?_, ?_⟩
    · intro hu
      have : r.hookU.isSome = true := by cases hh : r.hookU <;> simp [hh] at hu ⊢
      simp [hr.UB this]
    · intro e he
      have hp : r.promised = some e := by cases hh : r.promised <;> simp [hh] at he ⊢; exact he.symm
      rw [hr.promU (by simp [hp]), hp]; rfl

/-- At a quiescent point every record passed to the buffered hook has been passed exactly once to the
unbuffered hook, with exactly the error its promise received. -/
theorem hooks_pair_exactly_once_at_quiescence (c : Cfg) (h : List Ev) (n b : Nat) (s : St)
    (hacc : run c {} (h ++ [Ev.quiesce n b]) = some s) (id : Id) (hb : hookBsOf id h ≠ []) :
    (hookBsOf id h).length = 1 ∧ ∃ e, hookUsOf id h = [e] ∧ promisesOf id h = [e] := by
  obtain ⟨s₁, hi, hq⟩ := Proof.Producer.at_quiesce hacc
  cases hfd : find s₁.recs id with
  | none => exact absurd (hi.recNone id hfd).hookBsOf hb
  | some r =>
    have hr := hi.recSome id r hfd
    have hp := hq.promised hfd
    have hu := hq.hookU hfd
    obtain ⟨e, he⟩ := Option.isSome_iff_exists.1 hp
    have hue : r.hookU = some e := by rw [hr.promU hp, he]
    refine ⟨?_, e, ?_, ?_⟩
    · rw [hr.hB, hr.UB hu]; rfl
    · rw [hr.hU, hue]; rfl
    · rw [hr.hprom, he]; rfl

/-- Non-vacuity: an accepted history (a blocked Produce at the limit, a TryProduce failed with
ErrMaxBuffered, a Flush) that ends at a quiescent point; the hooks of record 3 pair up with its promise. -/
example : accepts { maxRecs := 1, maxBytes := 0, manual := false }
    [.call 1 .produce 3, .hookB 1, .admit 1 1 3 3, .ret 1,
     .call 2 .produce 2, .hookB 2, .block 2,
     .call 3 .try_ 1, .hookB 3, .ret 3, .hookU 3 ⟨.maxBuffered, 7⟩, .promise 3 ⟨.maxBuffered, 7⟩,
     .flushStart 1,
     .hookU 1 .ok, .promise 1 .ok, .release 1 0 0,
     .unblock 2, .admit 2 1 2 2, .ret 2, .hookU 2 .ok, .promise 2 .ok, .release 2 0 0,
     .flushEnd 1 true, .closeStart, .closeEnd, .quiesce 0 0] = true := by decide

end Props.C14

namespace Props.C14
open Model.Consumer Proof.Consumer

/-- A fetched record is passed to the unbuffered hook only after it was passed to the buffered hook: in
every accepted history, at every moment (for every prefix `p`), the multiset of `(partition, offset)`
pairs given to `OnFetchRecordUnbuffered` is included in the multiset given to `OnFetchRecordBuffered`. -/
theorem fetch_unbuffered_only_after_buffered (c : Cfg) (h : List Ev) (s : St) (hacc : run c {} h = some s)
    (p : List Ev) (hp : p <+: h) (x : Nat × Nat) :
    (unbufferedHooks p).count x ≤ (bufferedHooks p).count x := by
  obtain ⟨t, rfl⟩ := hp
  obtain ⟨s₁, h1, _⟩ := (isMonitor c).append_some hacc
  have := (inv_of_run h1).buf x
  omega

/-- At a quiescent point (client closed) the two hooks have paired up exactly — every record given to the
buffered hook was given to the unbuffered hook exactly as often — and the `BufferedFetchRecords` gauge
was observed and its last observed value is 0. -/
theorem fetch_hooks_pair_exactly_at_quiescence (c : Cfg) (h : List Ev) (s : St)
    (hacc : run c {} (h ++ [Ev.quiesce]) = some s) :
    (∀ x, (unbufferedHooks h).count x = (bufferedHooks h).count x) ∧ Ev.gauge 0 ∈ h ∧ lastGauge h = some 0 := by
  obtain ⟨s₁, _, hi, hq⟩ := at_quiesce hacc
  have hg : lastGauge h = some 0 := by rw [← hi.gauge]; exact hq.gauge
  refine ⟨fun x => ?_, mem_of_lastGauge hg, hg⟩
  have := hi.buf x
  rw [hq.buffered] at this
  simpa using this

/-- Non-vacuity: an accepted history where records are buffered by a fetch, some unbuffered by polls and
one (offset 2) unbuffered without being polled when the client is closed; gauge 0 at the end. -/
example : accepts { committed := false, keepCtl := false, start := 0 }
    [.produced 1 0 0 0, .produced 2 0 1 0, .produced 3 0 2 0, .incomplete,
     .hookBuf 0 0, .hookBuf 0 1, .hookBuf 0 2,
     .pollStart, .returned 0 0 1 false, .hookUnbuf 0 0 true, .returned 0 1 2 false, .hookUnbuf 0 1 true, .pollEnd,
     .hookUnbuf 0 2 false, .gauge 0, .quiesce] = true := by decide

/-- The monitor refuses an unbuffered hook without a buffered one, a record left buffered, and a non-zero gauge. -/
example : accepts { committed := false, keepCtl := false, start := 0 }
    [.hookBuf 0 0, .hookUnbuf 0 0 true, .hookUnbuf 0 0 true] = false := by decide
example : accepts { committed := false, keepCtl := false, start := 0 }
    [.hookBuf 0 0, .hookBuf 0 1, .hookUnbuf 0 0 true, .gauge 0, .quiesce] = false := by decide
example : accepts { committed := false, keepCtl := false, start := 0 }
    [.hookBuf 0 0, .hookUnbuf 0 0 true, .gauge 1, .quiesce] = false := by decide
example : accepts { committed := false, keepCtl := false, start := 0 }
    [.hookBuf 0 0, .hookUnbuf 0 0 true, .quiesce] = false := by decide

end Props.C14
