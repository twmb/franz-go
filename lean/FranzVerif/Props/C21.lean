import FranzVerif.Model.C21
import FranzVerif.Proof.C21
/-! C21 — property theorems: request versions are negotiated within all bounds.

Property text: *every request the client writes uses the highest version that is at most the client's
supported maximum, the broker's advertised maximum, the user's MaxVersions and any internal pin, and at
least the broker's advertised minimum and the user's MinVersions. When no such version exists, the
request fails with an error and is not written.*

`Spec.ok b o` (Model/C21.lean) is that sentence on one observation `o` (a written header version, or
nothing); `spec_scan_decides` shows its scan decides the quantified sentence over all integers.

FULL STATEMENT, for every input of the clamp and every ApiVersions table:

    Spec.ok (boundsOf i table) (clamp i).written = true

It is FALSE of the code as it is (`clamp_spec_full_false`): `handleReq` recognises "a table was loaded"
by `v.maxVersion(0) >= 0`, so when the broker's table lacks both the Produce key and the request's key
the request is written at the client/user maximum instead of failing. Proved instead:
`clamp_spec_partial` and the two `iff`s under `ProduceKnown`; `clamp_never_outside` unconditionally for
every bound the code does consult. The connection-setup requests (ApiVersions, SASLHandshake,
SASLAuthenticate) do not go through the clamp; `initApi_first_partial`, `saslHandshake_partial`,
`saslAuth_partial` say when they meet the sentence, and `setup_full_false` refutes it for each by a
decided witness. -/
namespace Props.C21
open Model.C21 Model.C21.Spec Proof.C21

/-- Well-formed input: versions are non-negative where the API guarantees it (`req.MaxVersion()`, the
literal pins of client.go, `SetMaxKeyVersion` which deletes on a negative value). -/
structure WF (i : In) : Prop where
  cmax : 0 ≤ i.cmax
  pin : ∀ p, i.pin = some p → p.pinMax = true → 0 ≤ p.max
  umax : ∀ vs, i.umax = some vs → (vs.lookup i.key).2 = true → 0 ≤ (vs.lookup i.key).1

/-- The stored `brokerVersions` is the loaded table, or the empty one when no ApiVersions was exchanged. -/
def Stored (i : In) (table : Option BrokerVersions) : Prop := i.bv = table.getD []

/-- The case the code handles as the property says: no table at all, or a table that has the Produce
key or the request's key (with a non-negative max). -/
def ProduceKnown (i : In) (table : Option BrokerVersions) : Prop :=
  table = none ∨ 0 ≤ i.bv.maxVersion 0 ∨ 0 ≤ i.bv.maxVersion i.key

/-- The executable Spec decides the quantified sentence. -/
theorem spec_scan_decides (b : Bounds) :
    (∀ v, Spec.ok b (some v) = true ↔ (Allowed b v ∧ ∀ w, Allowed b w → w ≤ v)) ∧
    (Spec.ok b none = true ↔ ∀ w, ¬ Allowed b w) :=
  ⟨fun v => isHighest_iff b v, noneAllowed_iff b⟩

theorem lookupShape (u : Option Versions) (k : Int) : LookupShape (u.map (fun vs => vs.lookup k)) := by
  intro x hx hb
  cases u with
  | none => cases hx
  | some vs =>
    simp only [Option.map_some, Option.some.injEq] at hx
    subst hx
    unfold Versions.lookup at hb ⊢
    cases hf : List.find? (fun e => e.1 == k) vs <;> simp [hf] at hb ⊢

theorem brokerRel (i : In) (table : Option BrokerVersions) (hs : Stored i table) :
    BrokerRel (specBroker table i.key) (i.bv.maxVersion 0) (i.bv.maxVersion i.key) (i.bv.minVersion i.key) := by
  unfold Stored at hs
  rw [hs]
  cases table with
  | none => simp [specBroker, BrokerRel, BrokerVersions.maxVersion, BrokerVersions.minVersion, BrokerVersions.find]
  | some tb =>
    simp only [specBroker, Option.getD_some, BrokerVersions.maxVersion, BrokerVersions.minVersion]
    cases tb.find i.key <;> simp [BrokerRel]

theorem WF.pinMax_nonneg {i : In} (wf : WF i) : ∀ a, pinMaxO i.pin = some a → 0 ≤ a := by
  intro a ha
  unfold pinMaxO at ha
  cases hp : i.pin with
  | none => rw [hp] at ha; cases ha
  | some p =>
    rw [hp] at ha
    simp only at ha
    split at ha
    · cases ha; exact wf.pin p hp (by assumption)
    · cases ha

theorem WF.umax_nonneg {i : In} (wf : WF i) :
    ∀ l, i.umax.map (fun vs => vs.lookup i.key) = some l → l.2 = true → 0 ≤ l.1 := by
  intro l hl hb
  cases hu : i.umax with
  | none => rw [hu] at hl; cases hl
  | some vs =>
    rw [hu] at hl
    cases hl
    exact wf.umax vs hu hb

theorem clamp_core (i : In) (table : Option BrokerVersions) (wf : WF i) (hs : Stored i table) (hp : ProduceKnown i table)
    (o : Option Int) : Spec.ok (boundsOf i table) o = true ↔ o = (clamp i).written :=
  core_spec wf.cmax wf.pinMax_nonneg wf.umax_nonneg (lookupShape i.umin i.key) (brokerRel i table hs) hp o

/-- **`result = ok v ↔ v is that maximum`** (partial: under `ProduceKnown`). -/
theorem clamp_ok_iff_partial (i : In) (table : Option BrokerVersions) (v : Int)
    (wf : WF i) (hs : Stored i table) (hp : ProduceKnown i table) :
    clamp i = .ok v ↔ (Allowed (boundsOf i table) v ∧ ∀ w, Allowed (boundsOf i table) w → w ≤ v) := by
  rw [← written_eq_some, ← clamp_core i table wf hs hp]
  exact isHighest_iff _ v

/-- **`result is an error ↔ the set is empty`** — which includes a key unknown to the broker's table or
to the user's MaxVersions (partial: under `ProduceKnown`). An error means nothing is written. -/
theorem clamp_err_iff_partial (i : In) (table : Option BrokerVersions)
    (wf : WF i) (hs : Stored i table) (hp : ProduceKnown i table) :
    (clamp i).written = none ↔ ∀ w, ¬ Allowed (boundsOf i table) w := by
  rw [eq_comm, ← clamp_core i table wf hs hp]
  exact noneAllowed_iff _

/-- The executable Spec holds on the clamp's observable outcome (partial: under `ProduceKnown`). -/
theorem clamp_spec_partial (i : In) (table : Option BrokerVersions)
    (wf : WF i) (hs : Stored i table) (hp : ProduceKnown i table) :
    Spec.ok (boundsOf i table) (clamp i).written = true :=
  (clamp_core i table wf hs hp _).2 rfl

/-- Non-vacuity: Metadata (client max 13), pinned max 9, broker [2,7], user max 8, user min 3 → v7;
the hypotheses hold and every bound is live. -/
def exampleIn : In :=
  { key := 3, cmax := 13, pin := some { pinMax := true, max := 9 }, bv := [⟨0, 0, 12⟩, ⟨3, 2, 7⟩],
    umax := some [(3, 8)], umin := some [(3, 3)] }
example : clamp exampleIn = .ok 7 ∧ ProduceKnown exampleIn (some exampleIn.bv)
    ∧ Spec.ok (boundsOf exampleIn (some exampleIn.bv)) (some 7) = true
    ∧ Spec.ok (boundsOf exampleIn (some exampleIn.bv)) (some 6) = false :=
  ⟨by decide, Or.inr (Or.inl (by decide)), by decide, by decide⟩

/-- **The full statement is false of the code**: a table that lacks both the Produce key and the request's
key (a KRaft controller does not advertise Produce) is taken for "no ApiVersions", and the request is
written at the client's maximum although the broker does not know the key. -/
theorem clamp_spec_full_false :
    ∃ (i : In) (table : Option BrokerVersions), WF i ∧ Stored i table ∧
      Spec.ok (boundsOf i table) (clamp i).written = false ∧ clamp i = .ok 13 := by
  refine ⟨{ key := 3, cmax := 13, bv := [⟨18, 0, 4⟩], umax := none, umin := none }, some [⟨18, 0, 4⟩],
    ⟨by decide, fun p h => (by cases h), fun vs h => (by cases h)⟩, rfl, by decide, by decide⟩

/-- **Never a version outside a bound the code consults** (no `ProduceKnown` needed): a version that
goes on to be written is within the client's range, under every pinned / non-negative advertised /
user maximum and over every pinned / non-negative advertised / user minimum, and the user's
MaxVersions has the key. -/
theorem clamp_never_outside (i : In) (v : Int) (wf : WF i) (h : clamp i = .ok v) :
    0 ≤ v ∧ v ≤ i.cmax
    ∧ (∀ a, pinMaxO i.pin = some a → v ≤ a) ∧ (∀ a, pinMinO i.pin = some a → a ≤ v)
    ∧ (∀ e, i.bv.find i.key = some e → 0 ≤ e.max → v ≤ e.max)
    ∧ (∀ e, i.bv.find i.key = some e → 0 ≤ e.min → e.min ≤ v)
    ∧ (∀ vs, i.umax = some vs → (vs.lookup i.key).2 = true ∧ v ≤ (vs.lookup i.key).1)
    ∧ (∀ vs, i.umin = some vs → (vs.lookup i.key).1 ≤ v) := by
  have hpos := fun hunk => hiOf_nonneg (bmax := i.bv.maxVersion i.key) wf.cmax wf.pinMax_nonneg hunk wf.umax_nonneg
  obtain ⟨⟨⟨hunk, _⟩, hle⟩, hv⟩ := (clampCore_ok hpos).1 h
  have h0 : 0 ≤ v := hv ▸ hpos hunk
  obtain ⟨⟨⟨u1, u2⟩, u3⟩, u4⟩ := le_hiOf.1 (Int.le_of_eq hv)
  obtain ⟨⟨l1, l2⟩, l3⟩ := (loOf_le h0).1 (hv ▸ hle)
  refine ⟨h0, u1, u2, l1, ?_, ?_, ?_, ?_⟩
  · intro e he
    rw [forall_nonNegO, BrokerVersions.maxVersion, he] at u3
    exact u3
  · intro e he
    rw [forall_nonNegO, BrokerVersions.minVersion, he] at l2
    exact l2
  · intro vs hvs
    rw [hvs] at hunk u4
    simp only [Option.map_some, unknownKey, Bool.not_eq_eq_eq_not, Bool.not_false] at hunk
    exact ⟨hunk, u4 _ rfl⟩
  · intro vs hvs
    rw [hvs] at l3
    exact l3 _ rfl

/-- Which error, in the order of the code's checks: a key the user's MaxVersions does not have is
`errUnknownRequestKey` whatever the broker says. -/
theorem clamp_unknown_key_iff (i : In) :
    clamp i = .errUnknownRequestKey ↔ ∃ vs, i.umax = some vs ∧ vs.hasKey i.key = false := by
  rw [clamp, clampCore_unknown_iff]
  cases i.umax <;> simp [unknownKey, Versions.hasKey]

/-- **Loading picks, per key, the advertised `[min,max]`**: with distinct keys in the response, every
element is found under its key with exactly its range; a key that is not in the response reads −1/−1. -/
theorem load_picks_advertised (resp : List ApiKey) (hnd : (resp.map (·.key)).Nodup) :
    (∀ e ∈ resp, (load resp).maxVersion e.key = e.max ∧ (load resp).minVersion e.key = e.min) ∧
    (∀ k, k ∉ resp.map (·.key) → (load resp).maxVersion k = -1 ∧ (load resp).minVersion k = -1) := by
  constructor
  · intro e he
    have : BrokerVersions.find (load resp) e.key = some e := by
      rw [find_load]
      have hrev : (resp.reverse.map (·.key)).Nodup := by
        rw [List.map_reverse]; exact List.pairwise_reverse.2 (hnd.imp Ne.symm)
      exact List.find?_of_nodup_map (·.key) hrev (List.mem_reverse.2 he)
    simp [BrokerVersions.maxVersion, BrokerVersions.minVersion, this]
  · intro k hk
    have : BrokerVersions.find (load resp) k = none := by
      rw [find_load, List.find?_eq_none]
      intro x hx
      have hx' := List.mem_reverse.1 hx
      simp only [beq_iff_eq]
      intro hxk
      exact hk (hxk ▸ List.mem_map_of_mem hx')
    simp [BrokerVersions.maxVersion, BrokerVersions.minVersion, this]

/-- In general (repeated keys) the last element with a key wins, as with the Go map writes. -/
theorem load_last_wins (resp : List ApiKey) (k : Int) :
    BrokerVersions.find (load resp) k = resp.reverse.find? (fun e => e.key == k) := find_load resp k

example : (load [⟨3, 0, 9⟩, ⟨0, 3, 11⟩, ⟨3, 1, 12⟩]).maxVersion 3 = 12 ∧ (load [⟨3, 0, 9⟩, ⟨0, 3, 11⟩]).minVersion 0 = 3
    ∧ (load [⟨3, 0, 9⟩]).maxVersion 18 = -1 := by decide

/-! ### connection setup: requests that do not go through the clamp -/

/-- FULL STATEMENT for the first ApiVersions request of a connection (nothing is known of the broker yet):
its version is the highest one within the client's codec (4) and the user's bounds for key 18. FALSE
(`setup_full_false`): the user's max is taken as it is, also above 4, and MinVersions is not read.
Partial: with the user's max for key 18 unset or within `0..4`, and no MinVersions. -/
theorem initApi_first_partial (umax : Option Versions)
    (hiss : issuesApiVersions umax = true)
    (hu : ∀ vs, umax = some vs → 0 ≤ (vs.lookup 18).1 ∧ (vs.lookup 18).1 ≤ 4) :
    IsMax { cmax := 4, broker := .noApi, umax := specUser umax 18, umin := .unset } (initApiFirst umax) := by
  unfold IsMax Allowed allowed specUser specUserL initApiFirst atMost atLeast inBroker overUser
  cases umax with
  | none =>
    simp only [Option.map_none, underUser, Bool.and_true, Bool.and_eq_true, decide_eq_true_eq]
    exact ⟨by omega, fun w hw => hw.2⟩
  | some vs =>
    have h := hu vs rfl
    unfold issuesApiVersions Versions.hasKey at hiss
    simp only at hiss
    rcases hl : vs.lookup 18 with ⟨m, b⟩
    rw [hl] at hiss h
    simp only at hiss h
    subst hiss
    simp only [Option.map_some, hl, if_true, underUser, Bool.and_true, Bool.and_eq_true, decide_eq_true_eq, true_and]
    have hm : m ≥ 0 := h.1
    simp only [hm, if_true]
    exact ⟨⟨⟨trivial, h.2⟩, Int.le_refl _⟩, fun w hw => hw.2⟩

/-- FULL STATEMENT for SASLHandshake: highest version within the client's codec (1), the advertised range
and the user's bounds for key 17. FALSE (`setup_full_false`): the version is the advertised max, whatever
the codec and the user say. Partial: advertised max within the codec, no user bounds on the key. -/
theorem saslHandshake_partial (bv : BrokerVersions) (e : ApiKey) (hf : bv.find 17 = some e)
    (h0 : 0 ≤ e.max) (h1 : e.max ≤ 1) (hmin : e.min ≤ e.max) :
    saslHandshakeVersion bv = some e.max ∧
    IsMax { cmax := 1, broker := .range e.min e.max, umax := .unset, umin := .unset } e.max :=
  ⟨by simp [saslHandshakeVersion, BrokerVersions.maxVersion, hf, h0], isMax_advertised h0 h1 hmin⟩

/-- Same for SASLAuthenticate (codec max 2), sent when the handshake went out at v1. -/
theorem saslAuth_partial (bv : BrokerVersions) (e17 e : ApiKey) (hf17 : bv.find 17 = some e17) (h17 : e17.max = 1)
    (hf : bv.find 36 = some e) (h0 : 0 ≤ e.max) (h1 : e.max ≤ 2) (hmin : e.min ≤ e.max) :
    saslAuthVersion bv = some e.max ∧
    IsMax { cmax := 2, broker := .range e.min e.max, umax := .unset, umin := .unset } e.max :=
  ⟨by simp [saslAuthVersion, saslHandshakeVersion, BrokerVersions.maxVersion, hf, hf17, h17], isMax_advertised h0 h1 hmin⟩

/-- **The full statement is false for each connection-setup request** (decided witnesses):
ApiVersions v6 with a user max of 6 for key 18 (codec max 4); SASLHandshake v3 when the broker advertises
0..3 (codec max 1), and v1 although the user's MaxVersions says 0; SASLAuthenticate at version −1 when
the broker advertises the handshake at v1 and no SASLAuthenticate key. -/
theorem setup_full_false :
    (initApiFirst (some [(18, 6)]) = 6 ∧
      Spec.ok { cmax := 4, broker := .noApi, umax := .val 6, umin := .unset } (some 6) = false) ∧
    (saslHandshakeVersion [⟨17, 0, 3⟩] = some 3 ∧
      Spec.ok { cmax := 1, broker := .range 0 3, umax := .unset, umin := .unset } (some 3) = false) ∧
    (saslHandshakeVersion [⟨17, 0, 1⟩] = some 1 ∧
      Spec.ok { cmax := 1, broker := .range 0 1, umax := .val 0, umin := .unset } (some 1) = false) ∧
    (saslAuthVersion [⟨17, 0, 1⟩] = some (-1) ∧
      Spec.ok { cmax := 2, broker := .missing, umax := .unset, umin := .unset } (some (-1)) = false) := by
  decide

/-- The KIP-511 downgrade loop against a broker that refuses versions above its advertised max: the
versions written strictly decrease, so the loop ends. -/
theorem initApiChain_decreasing (adv18 : Option ApiKey) (fuel : Nat) (v : Int) :
    List.Pairwise (fun a b => b < a) (initApiChain adv18 fuel v).1 ∧ ∀ x ∈ (initApiChain adv18 fuel v).1, x ≤ v := by
  induction fuel generalizing v with
  | zero => simp [initApiChain]
  | succ n ih =>
    unfold initApiChain
    cases hr : scriptRefuses adv18 v with
    | none => simp
    | some r =>
      simp only
      by_cases hv : v = 0
      · simp [hv]
      · simp only [hv, if_false]
        by_cases hc : r ≥ 0 ∧ r < v
        · simp only [hc, and_self, if_true]
          have := ih r
          refine ⟨List.pairwise_cons.2 ⟨fun x hx => ?_, this.1⟩, fun x hx => ?_⟩
          · have := this.2 x hx; omega
          · rcases List.mem_cons.1 hx with rfl | hx'
            · omega
            · have := this.2 x hx'; omega
        · simp [hc]

/-! ### one broker object, several connections: the MOST RECENT advertisement governs

The broker's advertised range is re-read on every new connection (`brokerCxn.init` → `requestAPIVersions`
→ `storeVersions`), and the table is kept per broker object, not per connection: a request is negotiated
against the table of the latest completed ApiVersions exchange on ANY connection of its broker object
(`handleReqs` serialises the connects and clamps of one object). `latestTable` (Proof/C21.lean) reads that
table off the events alone.

FULL STATEMENT, for every configuration and every sequence of connects (each answered with an arbitrary key
table) and requests of one broker object: every request is negotiated against the latest successfully
received table — `Spec.traceOk (obsRun umax umin none evs) = true`. Proved: `request_uses_latest_table`
(the outcome of every request, for all sequences), `written_within_latest_advertised` and
`absent_key_fails_on_latest` (unconditional range / missing-key statements), `never_nil_versions`, and
`trace_spec_partial` — the executable Spec on the whole history — under the same `ProduceKnown` restriction
as the single-table theorems (every received table has a usable Produce entry); without it the full
statement is false already for one connection (`clamp_spec_full_false`). -/

/-- **Every request is clamped against the table of the latest successful ApiVersions exchange of its broker
object**, for every sequence of connects and requests, whatever was advertised before: the outcome of a run
splits into the outcomes before the request, the clamp on `load t` for the latest table `t` (the nil
dereference when there never was one), and the outcomes after. -/
theorem request_uses_latest_table (umax umin : Option Versions) (hiss : issuesApiVersions umax = true)
    (pre post : List Ev) (r : Req) :
    runEvs umax umin none (pre ++ .request r :: post) =
      runEvs umax umin none pre ++
        (match latestTable pre.reverse with
          | some t => EvOut.clamped (clamp (r.toIn (load t) umax umin))
          | none => EvOut.nilVersions) ::
        runEvs umax umin (storedAfter umax none pre) post := by
  rw [runEvs_append, storedAfter_latest umax hiss none pre]
  cases latestTable pre.reverse <;> rfl

/-- A client pinned before 0.10 (its MaxVersions has no ApiVersions key) never looks at what a broker would
advertise: every request after the first connect is clamped against the empty table. -/
theorem request_without_apiversions (umax umin : Option Versions) (hiss : issuesApiVersions umax = false)
    (resp : List ApiKey) (mid post : List Ev) (r : Req) :
    runEvs umax umin none (.connect resp :: mid ++ .request r :: post) =
      runEvs umax umin none (.connect resp :: mid) ++
        EvOut.clamped (clamp (r.toIn BrokerVersions.empty umax umin)) ::
        runEvs umax umin (storedAfter umax none (.connect resp :: mid)) post := by
  have h1 : storedAfter umax none (.connect resp :: mid) = some BrokerVersions.empty := by
    rw [storedAfter, stepStored_connect, if_neg (by simp [hiss])]
    exact storedAfter_noApi umax hiss mid
  show runEvs umax umin none ((Ev.connect resp :: mid) ++ Ev.request r :: post) = _
  rw [runEvs_append, h1]
  rfl

/-- **A written version lies within the range of the MOST RECENT advertisement** (unconditionally, for every
sequence): if the request after `pre` is written with version `v`, there is a latest table, and `v` respects
its (last) entry for the key — at most a non-negative advertised max, at least a non-negative advertised min. -/
theorem written_within_latest_advertised (umax umin : Option Versions) (hiss : issuesApiVersions umax = true)
    (pre post : List Ev) (r : Req) (v : Int) (wf : ∀ bv, WF (r.toIn bv umax umin))
    (h : runEvs umax umin none (pre ++ .request r :: post) =
          runEvs umax umin none pre ++ EvOut.clamped (.ok v) :: runEvs umax umin (storedAfter umax none pre) post) :
    ∃ t, latestTable pre.reverse = some t ∧
      ∀ e, t.reverse.find? (fun e => e.key == r.key) = some e → (0 ≤ e.max → v ≤ e.max) ∧ (0 ≤ e.min → e.min ≤ v) := by
  rw [request_uses_latest_table umax umin hiss] at h
  have h := (List.cons.inj (List.append_cancel_left h)).1
  cases hl : latestTable pre.reverse with
  | none => rw [hl] at h; cases h
  | some t =>
    rw [hl] at h
    simp only [EvOut.clamped.injEq] at h
    refine ⟨t, rfl, fun e he => ?_⟩
    have hn := clamp_never_outside (r.toIn (load t) umax umin) v (wf _) h
    have hf : (r.toIn (load t) umax umin).bv.find (r.toIn (load t) umax umin).key = some e := by
      simp only [Req.toIn, find_load]; exact he
    exact ⟨hn.2.2.2.2.1 e hf, hn.2.2.2.2.2.1 e hf⟩

/-- **A key absent from the most recent advertisement fails and nothing is written** (given that table has a
usable Produce entry — the code's test for "a table was loaded"): `errBrokerTooOld`, or `errUnknownRequestKey`
when the user's MaxVersions lacks the key too. -/
theorem absent_key_fails_on_latest (umax umin : Option Versions) (hiss : issuesApiVersions umax = true)
    (pre : List Ev) (r : Req) (t : List ApiKey) (hl : latestTable pre.reverse = some t)
    (habs : t.reverse.find? (fun e => e.key == r.key) = none)
    (hprod : 0 ≤ (load t).maxVersion 0) :
    stepOut umax umin (storedAfter umax none pre) (.request r) = .clamped .errBrokerTooOld ∨
    stepOut umax umin (storedAfter umax none pre) (.request r) = .clamped .errUnknownRequestKey := by
  rw [storedAfter_latest umax hiss none pre, hl]
  have hf : (load t).maxVersion r.key = -1 := by
    simp [BrokerVersions.maxVersion, find_load, habs]
  show EvOut.clamped (clampCore ..) = _ ∨ EvOut.clamped (clampCore ..) = _
  cases hunk : unknownKey (umax.map (fun vs => vs.lookup r.key))
  · exact .inl (congrArg _ (clampCore_tooOld hunk ⟨hprod, by rw [Req.toIn, hf]; decide⟩))
  · exact .inr (congrArg _ (clampCore_unknown hunk))

/-- **The clamp never dereferences a nil table**: once some connection's `init` succeeded — which
`loadConnection` guarantees before `handleReq` reaches `b.loadVersions()` — no later request meets an
empty cell, whatever happens in between. -/
theorem never_nil_versions (umax umin : Option Versions) (pre1 pre2 : List Ev) (resp : List ApiKey) (r : Req)
    (hok : (initCxn umax (storedAfter umax none pre1) resp).2 = true) :
    stepOut umax umin (storedAfter umax none (pre1 ++ .connect resp :: pre2)) (.request r) ≠ .nilVersions := by
  have hs : (storedAfter umax none (pre1 ++ .connect resp :: pre2)).isSome = true := by
    rw [storedAfter_append, storedAfter]
    exact storedAfter_isSome umax _ pre2 (initCxn_ok_isSome umax _ resp hok)
  cases hst : storedAfter umax none (pre1 ++ .connect resp :: pre2) with
  | none => rw [hst] at hs; cases hs
  | some bv => simp [stepOut]

/-- The invariant that ties the stored cell to the most recent advertisement the broker side has seen: the cell holds
that table, loaded, and it has a usable Produce entry; when nothing was advertised the cell is empty or holds the empty
table of a client that issues no ApiVersions. -/
def CellInv (s : StoredV) : Option (List ApiKey) → Prop
  | some t => s = some (load t) ∧ 0 ≤ (load t).maxVersion 0
  | none => s = none ∨ s = some BrokerVersions.empty

/-- what the broker side sees of a request is judged by the Spec on the outcome's wire view -/
theorem traceOk_request (umax umin : Option Versions) (seenRev : List Obs) (r : Req) (o : Out) :
    Spec.traceOkFrom seenRev (obsOf umax umin (.request r) (.clamped o)) =
      Spec.ok { cmax := r.cmax, pinMax := pinMaxO r.pin, pinMin := pinMinO r.pin, broker := Spec.brokerAt seenRev r.key,
                umax := specUser umax r.key, umin := specUser umin r.key } o.written := by
  cases o <;> exact Bool.and_true _

theorem latestAdv_request (umax umin : Option Versions) (seenRev : List Obs) (r : Req) (o : EvOut) :
    latestAdv ((obsOf umax umin (.request r) o).reverse ++ seenRev) = latestAdv seenRev := by
  cases o with
  | clamped o => cases o <;> rfl
  | _ => rfl

/-- One step of a broker object: what it shows the broker side is accepted by the Spec, and the invariant goes on. -/
theorem step_spec (umax umin : Option Versions) (e : Ev) (s : StoredV) (seenRev : List Obs)
    (hinv : CellInv s (latestAdv seenRev))
    (wf : ∀ r, e = .request r → ∀ bv, WF (r.toIn bv umax umin))
    (hp : ∀ resp, e = .connect resp → resp.isEmpty = false → 0 ≤ (load resp).maxVersion 0) :
    Spec.traceOkFrom seenRev (obsOf umax umin e (stepOut umax umin s e)) = true ∧
      CellInv (stepStored umax s e) (latestAdv ((obsOf umax umin e (stepOut umax umin s e)).reverse ++ seenRev)) := by
  cases e with
  | connect resp =>
    rw [obsOf_connect, stepStored_connect]
    cases issuesApiVersions umax with
    | true =>
      cases hre : resp.isEmpty with
      -- `init` fails before anything is stored; nothing is seen
      | true => exact ⟨rfl, hinv⟩
      | false => exact ⟨rfl, rfl, hp resp rfl hre⟩
    | false =>
      -- nothing is seen; an empty cell gets the empty table, which the invariant admits only when nothing was advertised
      refine ⟨rfl, ?_⟩
      show CellInv (some (s.getD BrokerVersions.empty)) (latestAdv seenRev)
      generalize latestAdv seenRev = a at hinv
      cases a with
      | none => rcases hinv with rfl | rfl <;> exact .inr rfl
      | some t => rw [hinv.1]; exact ⟨rfl, hinv.2⟩
  | request r =>
    refine ⟨?_, by rw [latestAdv_request]; exact hinv⟩
    cases s with
    | none => rfl
    | some bv =>
      -- the table `clamp_spec_partial` wants: none, or the most recent advertisement, loaded
      rw [stepOut, traceOk_request, Spec.brokerAt]
      generalize latestAdv seenRev = a at hinv
      cases a with
      | none =>
        obtain rfl : bv = BrokerVersions.empty := Option.some.inj (hinv.resolve_left nofun)
        exact clamp_spec_partial (r.toIn _ umax umin) none (wf r rfl _) rfl (.inl rfl)
      | some t =>
        obtain rfl : bv = load t := Option.some.inj hinv.1
        have h := clamp_spec_partial (r.toIn _ umax umin) (some (load t)) (wf r rfl _) rfl (.inr (.inl hinv.2))
        rwa [boundsOf, specBroker_load] at h

theorem trace_spec_from (umax umin : Option Versions) (evs : List Ev) (s : StoredV) (seenRev : List Obs)
    (hinv : CellInv s (latestAdv seenRev))
    (wf : ∀ r, Ev.request r ∈ evs → ∀ bv, WF (r.toIn bv umax umin))
    (hp : ∀ resp, Ev.connect resp ∈ evs → resp.isEmpty = false → 0 ≤ (load resp).maxVersion 0) :
    Spec.traceOkFrom seenRev (obsRun umax umin s evs) = true := by
  induction evs generalizing s seenRev with
  | nil => rfl
  | cons e es ih =>
    obtain ⟨h1, h2⟩ := step_spec umax umin e s seenRev hinv (fun r hr => wf r (hr ▸ List.mem_cons_self))
      (fun resp hr => hp resp (hr ▸ List.mem_cons_self))
    rw [obsRun, traceOkFrom_append, Bool.and_eq_true]
    exact ⟨h1, ih _ _ h2 (fun r hr => wf r (List.mem_cons_of_mem _ hr)) (fun resp hr => hp resp (List.mem_cons_of_mem _ hr))⟩

/-- **The executable Spec holds on the whole history of a broker object** — every written request carries the
highest version within all bounds with the broker's range read from the MOST RECENT ApiVersions response of
the object, every failed request had no such version — for every configuration and every sequence of
connects (arbitrary tables) and requests (partial: every received table has a usable Produce entry, as in
`clamp_spec_partial`). -/
theorem trace_spec_partial (umax umin : Option Versions) (evs : List Ev)
    (wf : ∀ r, Ev.request r ∈ evs → ∀ bv, WF (r.toIn bv umax umin))
    (hp : ∀ resp, Ev.connect resp ∈ evs → resp.isEmpty = false → 0 ≤ (load resp).maxVersion 0) :
    Spec.traceOk (obsRun umax umin none evs) = true := by
  exact trace_spec_from umax umin evs none [] (.inl rfl) wf hp

/-- Non-vacuity: a rolling downgrade between two connections of one broker object. Metadata (client max 13):
the first connection advertises 0..9, the request goes out at v9; the broker comes back older, a second
connection (any class) advertises 0..5 and no DescribeCluster; Metadata now goes out at v5 — also on the
old connection — and DescribeCluster fails. The hypotheses of `trace_spec_partial` hold, the Spec accepts
this history and rejects the one in which the first table keeps being used (v9 after the downgrade, or
DescribeCluster still written). -/
def downgradeEvs : List Ev :=
  [.connect [⟨0, 0, 12⟩, ⟨3, 0, 9⟩, ⟨60, 0, 1⟩], .request { key := 3, cmax := 13 }, .request { key := 60, cmax := 2 },
   .connect [⟨0, 0, 7⟩, ⟨3, 0, 5⟩], .request { key := 3, cmax := 13 }, .request { key := 60, cmax := 2 }]
example :
    runEvs none none none downgradeEvs =
      [.connected, .clamped (.ok 9), .clamped (.ok 1), .connected, .clamped (.ok 5), .clamped .errBrokerTooOld]
    ∧ Spec.traceOk (obsRun none none none downgradeEvs) = true
    ∧ Spec.traceOk [.adv [⟨0, 0, 12⟩, ⟨3, 0, 9⟩, ⟨60, 0, 1⟩], .wrote 3 13 none none .unset .unset 9,
        .adv [⟨0, 0, 7⟩, ⟨3, 0, 5⟩], .wrote 3 13 none none .unset .unset 9] = false
    ∧ Spec.traceOk [.adv [⟨0, 0, 12⟩, ⟨3, 0, 9⟩, ⟨60, 0, 1⟩], .adv [⟨0, 0, 7⟩, ⟨3, 0, 5⟩],
        .wrote 60 2 none none .unset .unset 1] = false
    ∧ Spec.traceOk [.adv [⟨0, 0, 7⟩, ⟨3, 0, 5⟩], .failed 3 13 none none .unset .unset,
        .adv [⟨0, 0, 12⟩, ⟨3, 0, 9⟩], .failed 3 13 none none .unset .unset] = false := by
  decide

end Props.C21
