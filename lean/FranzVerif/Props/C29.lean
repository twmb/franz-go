import FranzVerif.Gen.C29
import FranzVerif.Model.C29
import FranzVerif.Model.C29Client
import FranzVerif.Proof.C29Win
import FranzVerif.Proof.C29Client
import FranzVerif.Proof.C29Arrival
/-! C29 — property theorems (sequence numbers wrap modulo 2^31 in the client and in kfake).

`Gen.C29.incrementSequence`, `Gen.C29K.kfakeSeqMod` and `Gen.C29S` (every write to a sequence field in
pkg/kgo, with the value written) are regenerated from /repo on every run, so `client_incSeq`,
`kfake_modulus`, `client_sites_*` and `client_all_histories` are statements about the source text of that run. -/
namespace Props.C29
open Model.C29 Proof.C29W

/-- Client: for every `0 ≤ s < 2^31`, `1 ≤ n < 2^31`, `incrementSequence s n = (s+n) mod 2^31`. -/
theorem client_incSeq (s n : BitVec 32) (hs : s.toNat < 2147483648) (hn1 : 1 ≤ n.toNat) (hn : n.toNat < 2147483648) :
    (Gen.C29.incrementSequence s n).toNat = (s.toNat + n.toNat) % 2147483648 :=
  Proof.C29C.incSeq_toNat s n hs hn1 hn

/-- The client result stays a valid sequence number. -/
theorem client_incSeq_range (s n : BitVec 32) (hs : s.toNat < 2147483648) (hn1 : 1 ≤ n.toNat) (hn : n.toNat < 2147483648) :
    (Gen.C29.incrementSequence s n).toNat < 2147483648 := by
  rw [client_incSeq s n hs hn1 hn]; omega

/-- kfake: the modulus found at both `next := … % K` sites of `pushAndValidate` is 2^31. -/
theorem kfake_modulus : Gen.C29K.kfakeSeqMod = seqMod ∧ Gen.C29K.kfakeSeqModSites = 2 := by
  decide

/-- With that modulus Go's truncated `%` is the mathematical one on sequence numbers. -/
theorem goNext_eq_next (first n : Int) (hf : 0 ≤ first) (hn : 0 ≤ n) :
    goNext Gen.C29K.kfakeSeqMod first n = next first n := by
  have hm : Gen.C29K.kfakeSeqMod = seqMod := kfake_modulus.1
  unfold goNext next
  rw [hm, Int.tmod_eq_emod_of_nonneg (by omega)]

/-- kfake's push with the source's modulus. -/
abbrev kpush := push Gen.C29K.kfakeSeqMod

/-- Same epoch, not a retry, expected sequence ⇒ accepted, and the next expected sequence is `(s+n) mod 2^31`. -/
theorem kfake_accepts_next (s : Win) (epoch first n base : Int) (hseen : s.seen = true) (he : epoch = s.epoch)
    (hf : 0 ≤ first) (hn : 0 ≤ n)
    (hnodup : findDup s.entries s.count first (next first n) = none) (hexp : first = s.nextSeq) :
    (kpush s epoch first n base).2 = .accept ∧ (kpush s epoch first n base).1.nextSeq = next first n := by
  rw [kpush, push_same_epoch base hseen he (goNext_eq_next first n hf hn), hnodup]
  simp only [ne_eq, hexp, not_true, if_false, and_self]

/-- Same epoch, not a retry, any other sequence ⇒ OUT_OF_ORDER_SEQUENCE_NUMBER and no state change. -/
theorem kfake_rejects_other (s : Win) (epoch first n base : Int) (hseen : s.seen = true) (he : epoch = s.epoch)
    (hf : 0 ≤ first) (hn : 0 ≤ n)
    (hnodup : findDup s.entries s.count first (next first n) = none) (hexp : first ≠ s.nextSeq) :
    kpush s epoch first n base = (s, .reject) := by
  rw [kpush, push_same_epoch base hseen he (goNext_eq_next first n hf hn), hnodup]
  exact if_pos hexp

/-- A `dup` answer always carries the offset of a recorded batch with the same `(first, next)` pair, and changes nothing. -/
theorem kfake_dup_sound (s : Win) (epoch first n base off : Int) (hf : 0 ≤ first) (hn : 0 ≤ n)
    (h : (kpush s epoch first n base).2 = .dup off) :
    (∃ e ∈ s.entries.take s.count, e.first = first ∧ e.nxt = next first n ∧ e.offset = off)
      ∧ (kpush s epoch first n base).1 = s := by
  by_cases hc : (!s.seen || epoch != s.epoch) = true
  · -- a new epoch is accepted or rejected, never answered `dup`
    simp only [kpush, push, hc, if_true] at h
    split at h <;> cases h
  · obtain ⟨hseen, he⟩ := same_epoch_of hc
    rw [kpush, push_same_epoch base hseen he (goNext_eq_next first n hf hn)] at h ⊢
    cases hd : findDup s.entries s.count first (next first n) with
    | none => rw [hd] at h; dsimp only at h; split at h <;> cases h
    | some o =>
      rw [hd] at h
      cases h
      exact ⟨findDup_eq_some hd, rfl⟩

/-- Completeness of the retry answer: if a batch with this `(first, next)` is recorded in the window
(same epoch), the push is answered `dup` with the offset of such a batch. -/
theorem kfake_dup_complete (s : Win) (epoch first n base : Int) (hseen : s.seen = true) (he : epoch = s.epoch)
    (hf : 0 ≤ first) (hn : 0 ≤ n)
    (hrec : ∃ e ∈ s.entries.take s.count, e.first = first ∧ e.nxt = next first n) :
    ∃ off, (kpush s epoch first n base).2 = .dup off ∧
      ∃ e ∈ s.entries.take s.count, e.first = first ∧ e.nxt = next first n ∧ e.offset = off :=
  push_dup_complete base hseen he (goNext_eq_next first n hf hn) hrec

/-- New epoch (or first batch ever): accepted iff the window was never used or the sequence restarts at 0. -/
theorem kfake_new_epoch (s : Win) (epoch first n base : Int) (hne : s.seen = false ∨ epoch ≠ s.epoch)
    (hf : 0 ≤ first) (hn : 0 ≤ n) :
    ((kpush s epoch first n base).2 = .accept ↔ (s.seen = false ∨ first = 0)) ∧
    ((kpush s epoch first n base).2 = .accept → (kpush s epoch first n base).1.nextSeq = next first n) ∧
    ((kpush s epoch first n base).2 ≠ .accept → kpush s epoch first n base = (s, .reject)) := by
  have hg := goNext_eq_next first n hf hn
  have hc : (!s.seen || epoch != s.epoch) = true := by
    rcases hne with h | h <;> simp [h]
  simp only [kpush, push, hc, if_true]
  by_cases h1 : s.seen = true <;> by_cases h2 : first = 0 <;> simp [h1, h2, hg] <;> (subst h2; exact hg)

/-! ### Window invariant and refinement to the abstract "last five accepted batches" spec -/

theorem wf_init : WF ({} : Win) := by simp [WF]

/-- One step of the refinement: the code's answer is allowed by the property, the buffer shape is
preserved, and the abstract state moves as the property says. -/
theorem kfake_refines_step (s : Win) (hwf : WF s) (o : Op) (hv : o.valid) :
    (abs s).allows o.epoch o.first o.n (kpush s o.epoch o.first o.n o.base).2 = true ∧
    WF (kpush s o.epoch o.first o.n o.base).1 ∧
    abs (kpush s o.epoch o.first o.n o.base).1
      = (abs s).step o.epoch o.first o.n o.base (kpush s o.epoch o.first o.n o.base).2 := by
  obtain ⟨hf, hn⟩ := hv
  have hg := goNext_eq_next o.first o.n hf hn
  by_cases hc : (!s.seen || o.epoch != s.epoch) = true
  · -- new epoch / first batch
    by_cases h1 : (s.seen && o.first != 0) = true
    · simp [kpush, push, hc, h1, abs, Spec.allows, Spec.step, hwf]
    · simp [kpush, push, hc, h1, abs, Spec.allows, Spec.step, hg, WF, recent, List.range, List.range.loop]
  · -- same epoch
    obtain ⟨hseen, hep⟩ := same_epoch_of hc
    rw [kpush, push_same_epoch o.base hseen hep hg]
    cases hd : findDup s.entries s.count o.first (next o.first o.n) with
    | some off =>
      refine ⟨?_, hwf, by simp [Spec.step]⟩
      obtain ⟨e, he, h1, h2, ho⟩ := findDup_eq_some hd
      have hm := (recent_mem s hwf e).2 he
      have hfil : e ∈ (recent s).filter (fun e => e.first == o.first && e.nxt == next o.first o.n) := by
        simp [List.mem_filter, hm, h1, h2]
      simp only [Spec.allows, abs, hseen, hep, List.isEmpty_eq_false_iff_exists_mem.2 ⟨e, hfil⟩]
      simp
      exact ⟨e, hm, ⟨h1, h2⟩, ho⟩
    | none =>
      have hnomatch : (recent s).filter (fun e => e.first == o.first && e.nxt == next o.first o.n) = [] := by
        rw [List.filter_eq_nil_iff]
        intro e he
        simpa using findDup_eq_none hd e ((recent_mem s hwf e).1 he)
      by_cases hx : o.first = s.nextSeq
      · rw [if_neg (fun h => h hx)]
        refine ⟨by simp only [Spec.allows, abs, hseen, hep, hnomatch]; simp [hx], ?_, ?_⟩
        · exact wf_accept s hwf _ _
        · simp only [abs, recent_accept s hwf]
          simp [Spec.step, hseen, hep]
      · rw [if_pos hx]
        exact ⟨by simp only [Spec.allows, abs, hseen, hep, hnomatch]; simp [hx], hwf, by simp [Spec.step]⟩

/-- **Every history.** For any sequence of pushes (any length, any sequence numbers and batch
sizes), the answers of kfake's window are exactly what the property allows: the correctly wrapped
next batch is accepted, a retry of one of the last five accepted batches is answered with its
original offset, anything else is rejected. -/
theorem kfake_all_histories (ops : List Op) (hv : ∀ o ∈ ops, o.valid) (s : Win) (hwf : WF s) :
    specAccepts (abs s) ops (runWin Gen.C29K.kfakeSeqMod s ops) = true := by
  induction ops generalizing s with
  | nil => simp [runWin, specAccepts]
  | cons o os ih =>
    have h := kfake_refines_step s hwf o (hv o (by simp))
    simp only [runWin, specAccepts, Bool.and_eq_true]
    refine ⟨h.1, ?_⟩
    rw [← h.2.2]
    exact ih (fun o' ho' => hv o' (by simp [ho'])) _ h.2.1

/-- Non-vacuity: a window sitting at the wrap boundary accepts the wrapped batch (next = 1),
answers its retry with the original offset, and rejects a skipped sequence. -/
example :
    runWin seqMod {} [⟨0, 2147483646, 1, 100⟩, ⟨0, 2147483647, 2, 101⟩, ⟨0, 2147483647, 2, 103⟩, ⟨0, 1, 1, 103⟩, ⟨0, 3, 1, 104⟩]
      = [.accept, .accept, .dup 101, .accept, .reject] := by decide


/-! ### The client's USES of sequence arithmetic (every write to `recBuf.seq`, `recBuf.batch0Seq`, `seqRecBatch.seq`) -/

section Client
open Model.C29C

/-- Every write to a sequence field found in pkg/kgo has one of the allowed forms:
`incrementSequence(field, n)`, a copy of a sequence field, the literal 0 under `needSeqReset`.
(A plain `+` / `+=` / `++` shows up with form `plain-add` and breaks this.) -/
theorem client_sites_allowed :
    Gen.C29S.sites.all (fun s => s.form == "inc" || s.form == "copy" || s.form == "zero-at-reset") = true := by
  decide

/-- The writes are exactly the six the client model accounts for (a new write site, or one that
disappeared, has to be modelled before the theorems below say anything about the code). -/
theorem client_sites_known :
    Gen.C29S.sites.map (·.key) =
      ["createReq_seq", "finishBatch_batch0Seq", "resetBatchDrainIdx_seq", "tryAddBatch_seq", "tryAddBatch_batch0Seq",
       "addBatch_seqRecBatch_seq"] :=
  rfl

/-- **Every schedule.** For a partition on which `s` records were already produced (any `0 ≤ s < 2^31`,
in particular just below the wrap) and any sequence of client operations — buffering batches, draining
them into requests, success answers, REWINDS (`resetBatchDrainIdx`, i.e. NOT_LEADER / cut connection /
sink migration), producer-id failures — everything the client model puts on the wire is accepted by
the chain monitor: no FirstSequence is negative, a new batch starts at `(last.first + last.n) mod 2^31`
(across the wrap too), a re-sent batch repeats its original `(FirstSequence, NumRecords)` exactly, and
sequences restart at 0 only with a new epoch after the producer id was failed.
The model's writes are the regenerated `Gen.C29S` functions. -/
theorem client_all_histories (s : BitVec 32) (hs : s.toNat < 2147483648) (ops : List Model.C29C.Op) :
    chainOk ((RecBuf.init s).wire ops) = true :=
  Proof.C29C.inv_wire ops _ _ (Proof.C29C.inv_init s hs)

/-- What acceptance by the monitor means, 1: every FirstSequence of an accepted history is in `[0, 2^31)`
and every batch has between 1 and 2^31-1 records. -/
theorem accepted_nonneg (es : List Ev) (m m' : Mon) (h : m.run es = some m') (e f n : Int) (hmem : Ev.batch e f n ∈ es) :
    0 ≤ f ∧ f < 2147483648 ∧ 1 ≤ n ∧ n < 2147483648 := by
  obtain ⟨h₁, h₂, rfl⟩ := List.append_of_mem hmem
  obtain ⟨m1, m2, -, hs, -⟩ := Proof.C29C.monRun.split h
  exact (Proof.C29C.step_batch_eq_some.1 hs).1

/-- newest-first list of `(first, n)` in which every batch starts where its predecessor ended, modulo 2^31 -/
def Linked : List (Int × Int) → Prop
  | [] => True
  | [_] => True
  | b :: a :: rest => b.1 = (a.1 + a.2) % 2147483648 ∧ Linked (a :: rest)

/-- monitor states reachable from the empty one -/
def MonWF (m : Mon) : Prop :=
  Linked m.chain ∧ (m.started = true → ∃ hd tl, m.chain = hd :: tl ∧ m.nextSeq = (hd.1 + hd.2) % 2147483648)

theorem monWF_step (m m' : Mon) (ev : Ev) (hw : MonWF m) (h : m.step ev = some m') : MonWF m' := by
  cases ev with
  | reset => cases h; exact hw
  | batch e f n =>
    obtain ⟨-, ⟨-, rfl⟩ | ⟨hst, -, rfl, rfl⟩ | ⟨-, -, -, -, rfl⟩⟩ := Proof.C29C.step_batch_eq_some.1 h
    · exact ⟨trivial, fun _ => ⟨(f, n), [], rfl, rfl⟩⟩
    · obtain ⟨hd, tl, hc, hn⟩ := hw.2 hst
      refine ⟨?_, fun _ => ⟨(m.nextSeq, n), m.chain, rfl, rfl⟩⟩
      show Linked ((m.nextSeq, n) :: m.chain)
      rw [hc]
      exact ⟨hn, hc ▸ hw.1⟩
    · exact hw

/-- What acceptance means, 2: after any accepted history the batches of the current epoch, in the order
of their first transmission, form one chain `first_{i+1} = (first_i + n_i) mod 2^31` — across the wrap. -/
theorem accepted_chain (es : List Ev) (m : Mon) (h : Mon.run {} es = some m) : Linked m.chain :=
  (Proof.C29C.monRun.inv_state (fun m ev m' => monWF_step m m' ev) (s₀ := {}) ⟨trivial, nofun⟩ h).1

/-- What acceptance means, 3: under an unchanged epoch an accepted batch that does not continue the
chain is a re-send: it carries the `(FirstSequence, NumRecords)` of a batch sent before, unchanged. -/
theorem accepted_resend_exact (m m' : Mon) (e f n : Int) (hst : m.started = true) (he : e = m.epoch)
    (hf : f ≠ m.nextSeq) (h : m.step (.batch e f n) = some m') : (f, n) ∈ m.chain ∧ m' = m := by
  obtain ⟨-, ⟨hs | ⟨-, he', -⟩, -⟩ | ⟨-, -, hf', -⟩ | ⟨-, -, -, hc, hm⟩⟩ := Proof.C29C.step_batch_eq_some.1 h
  · rw [hst] at hs; cases hs
  · exact absurd he he'
  · exact absurd hf' hf
  · exact ⟨hc, hm⟩

/-- What acceptance means, 4: the epoch changes only after a genuine reason, and then restarts at 0. -/
theorem accepted_new_epoch (m m' : Mon) (e f n : Int) (hst : m.started = true) (he : e ≠ m.epoch)
    (h : m.step (.batch e f n) = some m') : m.allow = true ∧ f = 0 := by
  obtain ⟨-, ⟨hs | ⟨-, -, ha, hf⟩, -⟩ | ⟨-, he', -⟩ | ⟨-, he', -⟩⟩ := Proof.C29C.step_batch_eq_some.1 h
  · rw [hst] at hs; cases hs
  · exact ⟨ha, hf⟩
  · exact absurd he' he
  · exact absurd he' he

/-- Non-vacuity (client model, across the wrap): a partition at 2^31-3; a batch of 5 crosses the wrap
and is acknowledged, a batch of 3 is sent, the leader moves (rewind), the batch is re-sent with its
original first sequence 2, then a batch of 1 continues at 5. -/
example :
    (RecBuf.init 2147483645#32).wire [.buffer 5#32, .drain, .finish, .buffer 3#32, .drain, .rewind, .drain, .finish, .buffer 1#32, .drain]
      = [.batch 0 2147483645 5, .batch 0 2 3, .batch 0 2 3, .batch 0 5 1] := by decide

/-- Non-vacuity (monitor): that history is accepted; the history of a client whose `batch0Seq` was advanced
with a plain `+` (re-send at 2 - 2^31) is not; nor is a re-send with a changed record count, nor a silent
epoch bump. -/
example : chainOk [.batch 0 2147483645 5, .batch 0 2 3, .batch 0 2 3, .batch 0 5 1] = true := by decide
example : chainOk [.batch 0 2147483645 5, .batch 0 2 3, .batch 0 (-2147483646) 3] = false := by decide
example : chainOk [.batch 0 2147483645 5, .batch 0 2 3, .batch 0 2 2] = false := by decide
example : chainOk [.batch 0 2147483645 5, .batch 1 0 3] = false := by decide
example : chainOk [.batch 0 2147483645 5, .reset, .batch 1 0 3, .batch 1 3 1] = true := by decide

/-- The arrival monitor never refuses what the write-order monitor accepts, and then nothing is left aside: on such
histories the two coincide (step from a started state; the first batch; whole histories). -/
theorem lmon_step_generalises (m m' : Mon) (ev : Ev) (hst : m.started = true) (h : m.step ev = some m') :
    (LMon.ofMon m).step ev = some (LMon.ofMon m') ∧ m'.started = true := by
  cases ev with
  | reset => cases h; exact ⟨rfl, hst⟩
  | batch e f n =>
    obtain ⟨hr, h⟩ := Proof.C29C.step_batch_eq_some.1 h
    simp only [LMon.step, LMon.ofMon, (Proof.C29C.guard_eq_false f n).2 hr, hst, Bool.false_eq_true, if_false,
      Bool.not_true]
    rcases h with ⟨hs | ⟨-, he, ha, rfl⟩, rfl⟩ | ⟨-, rfl, rfl, rfl⟩ | ⟨-, rfl, hf, hc, rfl⟩
    · rw [hst] at hs; cases hs
    · simp [he, ha, LMon.sameEpoch, LMon.absorb]
    · simp [LMon.sameEpoch, LMon.absorb, hst]
    · simp [LMon.sameEpoch, hf, hc, hst]

theorem lmon_generalises_from (es : List Ev) (m m' : Mon) (hst : m.started = true) (h : m.run es = some m') :
    (LMon.ofMon m).run es = some (LMon.ofMon m') ∧ (LMon.ofMon m').done = true := by
  induction es generalizing m with
  | nil => cases h; exact ⟨rfl, rfl⟩
  | cons e es ih =>
    obtain ⟨m1, hs, h⟩ := Proof.C29C.monRun.cons_some h
    obtain ⟨h1, h2⟩ := lmon_step_generalises m m1 e hst hs
    simp only [LMon.run, h1]
    exact ih m1 h2 h

/-- Whole histories: a history the write-order monitor accepts, read as an arrival order by the arrival monitor started at
the first batch's sequence, is accepted with nothing left aside. -/
theorem lmon_generalises (e f n : Int) (es : List Ev) (m' : Mon) (h : Mon.run {} (.batch e f n :: es) = some m') :
    (LMon.init f).run (.batch e f n :: es) = some (LMon.ofMon m') ∧ (LMon.ofMon m').done = true := by
  obtain ⟨m1, hs, h⟩ := Proof.C29C.monRun.cons_some h
  obtain ⟨hr, ⟨-, rfl⟩ | ⟨⟨⟩, -⟩ | ⟨⟨⟩, -⟩⟩ := Proof.C29C.step_batch_eq_some.1 hs
  have h1 : (LMon.init f).step (.batch e f n) = some (LMon.ofMon ⟨true, e, Model.C29C.next f n, [(f, n)], false⟩) := by
    simp [LMon.step, LMon.init, (Proof.C29C.guard_eq_false f n).2 hr, LMon.sameEpoch, LMon.absorb, LMon.ofMon]
  simp only [LMon.run, h1]
  exact lmon_generalises_from es _ m' rfl h

/-- the recorded arrival order of sweep seed 23 (`scen 2147483613 …`): 45+5 arrives, 68+5 arrives before 50+18 ever
did, then the re-sends; the numbering is one chain and nothing is left aside. Two batches with one first sequence, or
a batch that the chain never reaches, are still refused. -/
example : (((LMon.init 31).run [.batch 0 31 14, .batch 0 45 5, .batch 0 68 5, .batch 0 45 5, .batch 0 50 18, .batch 0 68 5, .batch 0 73 15]).map
    (fun m => (m.done, m.nextSeq))) = some (true, 88) := by decide
example : ((LMon.init 31).run [.batch 0 31 14, .batch 0 45 5, .batch 0 68 5, .batch 0 68 4]).isSome = false := by decide
example : (((LMon.init 31).run [.batch 0 31 14, .batch 0 45 5, .batch 0 68 5, .batch 0 50 17]).map (·.done)) = some false := by decide
/-- the first batch written (31+14) never arrives at first, nor does the first batch of the new epoch (0+3) -/
example : (((LMon.init 31).run [.batch 0 45 5, .batch 0 31 14, .reset, .batch 1 3 2, .batch 1 0 3]).map (fun m => (m.done, m.nextSeq))) = some (true, 5) := by decide

/-- a `.reset` seen before the first batch arrives stays pending: `1:0+1` (lost), reset, `1:1+1`, `2:0+1` -/
example : (((LMon.init 0).run [.reset, .batch 1 1 1, .batch 2 0 1]).map (fun m => (m.epoch, m.nextSeq))) = some (2, 1) := by decide

/-- **Soundness of the arrival monitor with respect to losses** (`Proof.C29Arrival`): a write order that `Mon` accepts, whose
epochs follow the `.reset` events (`Stamped`: every batch carries the current value of an epoch counter that every `.reset`
moves up — without this the statement is false, `Proof.C29Arrival.counterexample_reset_inside_epoch`, `…_epoch_reused`) and
which holds fewer than 2^31 records (`…counterexample_wrap`), is never refused by `LMon` in ANY view `sub` of it in which
an arbitrary set of batches, the first one included, is lost. -/
theorem lmon_sound_under_loss (e f n : Int) (es sub : List Ev) (m : Mon)
    (hacc : Mon.run {} (.batch e f n :: es) = some m) (hthin : Proof.C29Arrival.Thin (.batch e f n :: es) sub)
    (hst : Proof.C29Arrival.Stamped e (.batch e f n :: es))
    (hsum : Proof.C29Arrival.total (.batch e f n :: es) < 2147483648) :
    ((LMon.init f).run sub).isSome = true :=
  Proof.C29Arrival.arrival_never_refuses e f n es sub m hacc hthin hst hsum

/-- The same for the client model: for every schedule of client operations with fewer than 2^31 records written in all,
whatever subset of the written batches arrives, the arrival monitor (started at any sequence) does not refuse. -/
theorem client_lossy_histories (s : BitVec 32) (hs : s.toNat < 2147483648) (ops : List Model.C29C.Op) (sub : List Ev)
    (start : Int) (hthin : Proof.C29Arrival.Thin ((RecBuf.init s).wire ops) sub)
    (hsum : Proof.C29Arrival.total ((RecBuf.init s).wire ops) < 2147483648) :
    ((LMon.init start).run sub).isSome = true := by
  obtain ⟨m, hm⟩ := Option.isSome_iff_exists.1 (client_all_histories s hs ops)
  obtain ⟨l, hl, -⟩ := Proof.C29Arrival.arrival_sound start _ _ sub m hm hthin
    (Proof.C29Arrival.wire_stamped ops (RecBuf.init s)) hsum
  rw [hl]; rfl

end Client

end Props.C29
