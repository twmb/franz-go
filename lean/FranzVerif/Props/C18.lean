import FranzVerif.Model.C18
import FranzVerif.Proof.C18Buffer
import FranzVerif.Proof.C18Request
import FranzVerif.Proof.C18RT
/-! C18 — property theorems: produce requests encode the batched records within size limits.

The model (`Model.C18`) transcribes `pkg/kgo/sink.go`; it is tied to the code by the differential run
(`harness/cmd/c18` ↔ `Driver/C18.lean`: byte-for-byte equality of every written request, of every
accounting number, for Produce v0–v13, every compressor). The theorems below hold for *all* record sets,
configurations and compressors (CRCs and the compressor are parameters), under the model's no-overflow
convention (lengths below 2^31).

State of the code: /repo with the repairs e8757ce (`tryAddBatch` accounts the per-partition and per-topic tag
sections of flexible requests, the growth of the compact topics-array length, and a topic id while the version
is unknown) and c322dee (`tryBuffer` sizes a record as a message for the message-set versions). Without the first the
request bound is false for v9–v13 (the request at the end of this file; regression `corpus/C18/001…`), without the second
the batch bound is false for message sets (`corpus/C18/002…`).

What is proved:
* record and batch lengths: the accounted `wireLength` is exactly what `appendTo` writes (uncompressed), an upper
  bound with any compressor (`record_bytes_exact`, `batch_length_exact`, `batch_length_le`, `message_set_length_le`);
* batch bound: record batches (`batch_bound`: buffered with the version unknown or ≥ 3, written at any version ≥ 3)
  and message sets (`message_set_bound`: buffered with the version unknown or equal to the written version 0–2);
  a record is rejected only when it does not fit an empty batch (`reject_only_oversized`), and a record whose
  one-record batch would reach the limit is rejected (`oversized_rejected`, `oversized_with_headers_rejected`);
  records are arbitrary `Rec`s — any key, value and *any list of headers*; no theorem assumes an empty header list,
  and `batch_bound_counts_headers` states the batch bound directly in key + value + header bytes;
* request accounting: `createReq`'s running `wireLength` is `base + reqAcct` and at most the limit (`createReq_accounting`);
* **request bound, every version 0–13**, version known to the sink (`request_bound`, `request_bound_any_order`,
  `request_length_le`), with the exact written length for v3–v13 without compressor (`request_length_exact`);
* request bound while the version is still unknown (`request_bound_version_unknown`), written at any version; for
  flexible written versions under `FlexFit` (every topic fits the estimate `max(2+lt+4, 16+4+1)` of d9ff59f) and
  fewer than 16383 topics or `FlexSpare`;
* decode ∘ encode for Produce v3–v13 without compressor (`decode_encode_request`, `decoded_records_are_buffered`).

What is not proved, and why:
 (a) the round trip with a compressor and for message sets (v0–v2): checked on every differential case by the same
     reference decoder evaluated on the implementation's bytes;
 (b) version unknown, v9–v12 written, a topic whose name and partition count need more than 5 bytes of compact
     lengths (with legal names: 2^21-1 or more partitions of one 127+-byte-named topic in the first request): the
     estimate `2+lt+4` is then one byte short per such topic. Not run on the real code: two such topics (the base
     length has one to three bytes of slack) need 4.2 million partition buffers. (The corner of the estimate `2+lt+4`
     alone — 127+ partitions of 2 MiB batches under a short name, v13: accounted 532697885, written 532697886 — is what
     /repo d9ff59f repairs; it is a regression case of the thorough tier, `reqlen`.)
 (c) the sink's known version differing from the written one (a transactional producer whose KIP-890-part-2 flag
     changes after the first response, or a v13 sink that later meets a topic without id, which caps the request at
     v12): outside the model's assumption `sink version ∈ {-1, written version}`; the real code under-accounts there
     (18 bytes per topic accounted, a name of 16+ bytes written). Listed finding
     `request-over-limit-when-written-version-differs-from-sink-version`, replay `corpus/C18/003…`.
 (d) a batch buffered at a known version ≥ 3 and written as a message set is never size-checked as a message set.
     Listed finding `batch-over-max-when-written-version-differs-from-sink-version`, same corpus file. -/
namespace Props.C18
open Model.C18 Proof.C18
open Spec.C17 (lenU zz)

/-- The records of a batch that satisfies the accounting invariant serialise to exactly
`wireLength - recordBatchOverhead` bytes: every record takes `VarintLen(lengthField) + lengthField`. -/
theorem record_bytes_exact (b : Batch) (h : BatchInv b) :
    ((recordsFrom 0 b.records).length : Int) = b.wireLength - recordBatchOverhead := by
  rw [recordsFrom_length 0 b.records h.ok, h.wire]; omega

/-- Every batch that `bufferRecord` builds (any records, any version knowledge, any limit) satisfies the
accounting invariant and holds at least one record; under record-batch accounting it is, without its length
prefix, strictly below the limit it was buffered against. -/
theorem buffered_batches (pv m : Int) (rs : List Rec) :
    ∀ b ∈ (bufferAll pv m [] rs).1, BatchInv b ∧ b.records ≠ [] ∧ (V2Acct pv → batchLength b + 1 ≤ m) :=
  bufferAll_pred _ pv m (fun r b b' hb h =>
    ⟨tryBuffer_inv b b' r pv m (hb.elim (· ▸ inv_new) (·.1)) h,
     by rw [(tryBuffer_some h).1]; simp [appendRecord],
     fun hpv => tryBuffer_bound b b' r pv m hpv h⟩) rs [] (by simp)

/-- non-vacuity: the empty batch satisfies the invariant, and `wBatches` below is a buffered one-record batch -/
example : BatchInv newRecordBatch := inv_new

/-- Exact batch length, no compressor, Produce v3+: `appendTo` writes `wireLength` bytes for v3–v8 and
`flexibleWireLength` bytes for v9+ — the number `tryAddBatch` accounts for the batch. -/
theorem batch_length_exact (crc : Bytes → Nat) (b : PartBatch) (v pid ep : Int) (tx : Bool) (hv : 3 ≤ v)
    (h : BatchInv b.batch) :
    ((batchAppendTo crc none b v pid ep tx).length : Int) = bwl v b.batch :=
  (batchAppendTo_bwl crc none b v pid ep tx hv h).2 rfl

/-- With any compressor the written batch is at most the accounted length. -/
theorem batch_length_le (crc : Bytes → Nat) (comp : Option Compressor) (b : PartBatch) (v pid ep : Int) (tx : Bool)
    (hv : 3 ≤ v) (h : BatchInv b.batch) :
    ((batchAppendTo crc comp b v pid ep tx).length : Int) ≤ bwl v b.batch :=
  (batchAppendTo_bwl crc comp b v pid ep tx hv h).1

/-- **Batch bound** (record batches): every batch buffered for `topic` while the produce version is unknown or
at least 3, written at any version ≥ 3 with any compressor, is — as a record batch, i.e. without the length
prefix of the partition — strictly smaller than `ProducerBatchMaxBytes`. (The bound against the smaller
`maxRecordBatchBytesForTopic`, which also takes `BrokerMaxWriteBytes` into account, is `buffered_batches`.) -/
theorem batch_bound (c : Cfg) (topic : Bytes) (pv : Int) (rs : List Rec) (hpv : V2Acct pv)
    (crc : Bytes → Nat) (comp : Option Compressor) (part seq v pid ep : Int) (tx : Bool) :
    ∀ b ∈ (bufferAll pv (maxRecordBatchBytesForTopic c topic) [] rs).1,
      ((batchBody crc comp ⟨part, seq, b⟩ v pid ep tx).length : Int) < c.maxRecordBatchBytes := by
  intro b hb
  have hB := buffered_batches pv (maxRecordBatchBytesForTopic c topic) rs b hb
  have hlen := batchBody_length crc comp ⟨part, seq, b⟩ v pid ep tx hB.1
  have hm := maxRecordBatchBytesForTopic_le c topic
  have := hB.2.2 hpv
  simp only at hlen
  omega

/-- What the code does with a record that is too large: `bufferRecord` fails it (MESSAGE_TOO_LARGE) only when
it does not fit a *new, empty* batch under the accounting in force; it is never written. -/
theorem reject_only_oversized (bs : List Batch) (r : Rec) (pv m : Int) (h : (bufferRecord bs r pv m).2 = false) :
    (wireLengthForProduceVersion newRecordBatch pv).1
      + recordWireLengthFor pv r (numsWireLength (calculateRecordNumbers newRecordBatch r).1) > m := by
  exact tryBuffer_none ((bufferRecord_rejects bs r pv m).1 h).1

/-- **The batch bound counts header bytes.** `Rec.headers` is an arbitrary list in every theorem of this file; this
corollary spells the dependence out. Every batch buffered while the produce version is unknown or at least 3 holds
strictly less than `ProducerBatchMaxBytes - 61` bytes of user data, where user data is every record's key, value
*and the key and value of each of its headers* (`userSum`), plus 7 bytes of framing per record. A `tryBuffer` that
sized the incoming record as a message (`messageSet1Length`: key + value + 38, no headers) while the version is
unknown would falsify exactly this (and `batch_bound`): the proof needs `recordWireLengthFor ≥` the record's
record-batch length (`rwl_ge`). -/
theorem batch_bound_counts_headers (c : Cfg) (topic : Bytes) (pv : Int) (rs : List Rec) (hpv : V2Acct pv) :
    ∀ b ∈ (bufferAll pv (maxRecordBatchBytesForTopic c topic) [] rs).1,
      (61 : Int) + userSum b.records + 7 * b.records.length < c.maxRecordBatchBytes := by
  intro b hb
  have hB := buffered_batches pv (maxRecordBatchBytesForTopic c topic) rs b hb
  have hu := userSum_le_wireSum 0 b.records hB.1.ok
  have hw := hB.1.batchLength
  have hm := maxRecordBatchBytesForTopic_le c topic
  have := hB.2.2 hpv
  omega

/-- **A record that is too large on its own is failed, headers included** (the converse of `reject_only_oversized`
under record-batch accounting): when the one-record batch of `r` — 61 bytes of batch header plus the record with
all its headers — would not be strictly smaller than the limit, `bufferRecord` does not buffer `r` (the code fails
it with MESSAGE_TOO_LARGE), whatever batches the partition already holds. -/
theorem oversized_rejected (bs : List Batch) (r : Rec) (pv m : Int) (hpv : V2Acct pv) (hbs : ∀ b ∈ bs, BatchInv b)
    (h : m < recordBatchOverhead - 4 + numsWireLength (calculateRecordNumbers newRecordBatch r).1 + 1) :
    (bufferRecord bs r pv m).2 = false := by
  have hno : ∀ b, BatchInv b → tryBuffer b r pv m = none := fun b hb => by
    cases hn : tryBuffer b r pv m with
    | none => rfl
    | some b' => have := tryBuffer_fits_new _ _ r pv m hpv hb hn; omega
  exact (bufferRecord_rejects bs r pv m).2
    ⟨hno _ inv_new, fun last hl => hno last (hbs last (List.mem_of_mem_head? hl))⟩

/-- the same in user bytes: a record whose key, value and header bytes exceed the limit minus 69 is failed
(61 bytes of batch header, 7 of record framing, and the bound is strict) -/
theorem oversized_with_headers_rejected (bs : List Batch) (r : Rec) (pv m : Int) (hpv : V2Acct pv)
    (hbs : ∀ b ∈ bs, BatchInv b) (h : m < 69 + (userBytes r : Int)) : (bufferRecord bs r pv m).2 = false := by
  have := numsWireLength_new_ge r
  exact oversized_rejected bs r pv m hpv hbs (by simp only [recordBatchOverhead]; omega)

/-- a record with a one-byte header key and a 100-byte header value, nil key and value -/
def hRec : Rec := { ts := 0, key := none, value := none, headers := [⟨[0x68#8], some (List.replicate 100 0#8)⟩] }

/-- non-vacuity, with headers: while the version is unknown `hRec` is failed against a limit of 150 although as a
message (headers dropped) it would fit an empty batch — the record "that fits only if its headers are ignored" -/
example : (bufferRecord [] hRec (-1) 150).2 = false ∧ recordBatchOverhead + messageSet1Length hRec ≤ 150 := by
  refine ⟨oversized_with_headers_rejected [] hRec (-1) 150 (Or.inl (by omega)) (by simp) ?_, ?_⟩
  · simp [userBytes, headersBytes, hRec, blen]
  · simp [recordBatchOverhead, messageSet1Length, messageSet0Length, hRec, blen]

/-- `createReq`'s size accounting, for every set of partition buffers and every rotation: the request's
`wireLength` is the base length plus the closed form `reqAcct` (per partition: 4 + the batch length at the known
version + 1 tag byte when flexible or unknown; per topic: its name or id, the partition-array length, 1 tag byte
when flexible, a topic id's worth while unknown; the growth of the compact topics-array length), and a request
that holds a batch was admitted, i.e. that number is at most `BrokerMaxWriteBytes`. -/
theorem createReq_accounting (c : Cfg) (pv : Int) (start : Nat) (rbs : List RecBuf) :
    (createReq c pv start rbs).1.wireLength = baseProduceRequestLength c + reqAcct pv (createReq c pv start rbs).1.batches
      ∧ ((createReq c pv start rbs).1.batches ≠ [] → (createReq c pv start rbs).1.wireLength ≤ c.maxBrokerWriteBytes) :=
  createReq_pred (fun p => p.wireLength = baseProduceRequestLength c + reqAcct pv p.batches ∧
      (p.batches ≠ [] → p.wireLength ≤ c.maxBrokerWriteBytes)) c pv start rbs
    ⟨by simp [reqAcct_nil], by simp⟩
    fun p p' _ _ _ _ hp h => ⟨tryAddBatch_acct hp.1 h, fun _ => (tryAddBatch_some h).2.1⟩

/-- What is written against what is accounted, every version 0–13 known to the sink, any compressor, any order of
topics and partitions: `written ≤ accounted`, and `written + 1 ≤ accounted` for the flexible versions. -/
theorem request_length_le (e : Env) (c : Cfg) (v corr pid ep : Int) (ts : List TopicBatches)
    (h0 : 0 ≤ v) (htxn : blen c.txnId ≤ 16382) (h : TopicsInv ts) :
    ((appendRequest e c v corr pid ep ts).length : Int) + (if v ≥ 9 then 1 else 0)
      ≤ baseProduceRequestLength c + reqAcct v ts :=
  (appendRequest_length e c v corr pid ep ts h0 (fun _ => htxn) h).1

/-- **Request bound, every produce version 0–13** (the sink knows the version it writes at): whatever
`createReq` admits, from any partition buffers whose batches were built by `bufferRecord`, serialises — with any
compressor, any client id, any transactional id the configuration accepts (at most 16382 bytes) — to at most
`BrokerMaxWriteBytes` bytes on the wire, length prefix included. -/
theorem request_bound (e : Env) (c : Cfg) (v : Int) (start : Nat) (rbs : List RecBuf) (corr pid ep : Int)
    (h0 : 0 ≤ v) (htxn : blen c.txnId ≤ 16382) (hr : ∀ rb ∈ rbs, RbInv rb) (hne : (createReq c v start rbs).1.batches ≠ []) :
    ((appendRequest e c v corr pid ep (createReq c v start rbs).1.batches).length : Int) ≤ c.maxBrokerWriteBytes := by
  have ha := createReq_accounting c v start rbs
  have hl := request_length_le e c v corr pid ep _ h0 htxn (createReq_topicsInv c v start rbs hr)
  have := ha.2 hne
  omega

/-- The same bound for *any* order of topics and partitions (Go map iteration) with the same closed-form
accounting — the accounting is a sum over topics and partitions plus a function of the number of topics. -/
theorem request_bound_any_order (e : Env) (c : Cfg) (v corr pid ep : Int) (ts : List TopicBatches)
    (h0 : 0 ≤ v) (htxn : blen c.txnId ≤ 16382) (h : TopicsInv ts)
    (hadm : baseProduceRequestLength c + reqAcct v ts ≤ c.maxBrokerWriteBytes) :
    ((appendRequest e c v corr pid ep ts).length : Int) ≤ c.maxBrokerWriteBytes := by
  have hl := request_length_le e c v corr pid ep ts h0 htxn h
  omega

/-- Exact length without compressor: Produce v3–v8 write exactly the accounted length; the flexible versions
(no transactional id) exactly two bytes less (the 4-byte topics-array slot of the base length holds a 1-byte
compact length, the 2-byte transactional-id slot a 1-byte null, and the header's tag byte is not accounted). -/
theorem request_length_exact (e : Env) (c : Cfg) (v corr pid ep : Int) (ts : List TopicBatches)
    (hv : 3 ≤ v) (hc : e.comp = none) (htxn : v ≥ 9 → c.txnId = none) (h : TopicsInv ts) :
    ((appendRequest e c v corr pid ep ts).length : Int) + (if v ≥ 9 then 2 else 0)
      = baseProduceRequestLength c + reqAcct v ts :=
  (appendRequest_length e c v corr pid ep ts (by omega) (fun h9 => by rw [htxn h9]; decide) h).2 hv hc htxn

/-- **Request bound while the sink does not know the produce version yet** (`produceVersion = -1`, the first
request to a broker), written at any version 0–13, any compressor. For a non-flexible written version there is no
further condition. For a flexible one (9–13): the transactional id is at most 16382 bytes (config validation);
every topic fits its estimate `max(2+lt+4, 16+4+1)` (`FlexFit`: at v13, the compact partition count takes at most
4 bytes, i.e. fewer than 2^28-1 partitions of the topic in the request, which `BrokerMaxWriteBytes ≤ 2^30` makes
unavoidable; at v9–v12, the compact lengths of the topic name and of the partition count take at most 5 bytes
together — e.g. a name below 16383 bytes and fewer than 2^21-1 partitions, or a name of at most 126 bytes and
fewer than 2^28-1 partitions); and the request holds fewer than 16383 topics, or every topic fits with a byte to
spare (`FlexSpare`). With legal Kafka topic names (≤ 249 bytes) the only excluded requests are v9–v12 requests
with 2^21-1 or more partitions of one 127+-byte-named topic — at least 150 MB of a single topic's batches in the
first request to a broker. -/
theorem request_bound_version_unknown (e : Env) (c : Cfg) (v : Int) (start : Nat) (rbs : List RecBuf) (corr pid ep : Int)
    (h0 : 0 ≤ v) (hr : ∀ rb ∈ rbs, RbInv rb) (hne : (createReq c (-1) start rbs).1.batches ≠ [])
    (hs : v ≥ 9 → blen c.txnId ≤ 16382 ∧ FlexFit v (createReq c (-1) start rbs).1.batches
      ∧ ((createReq c (-1) start rbs).1.batches.length < 16383 ∨ FlexSpare v (createReq c (-1) start rbs).1.batches)) :
    ((appendRequest e c v corr pid ep (createReq c (-1) start rbs).1.batches).length : Int) ≤ c.maxBrokerWriteBytes := by
  have ha := createReq_accounting c (-1) start rbs
  have hl := appendRequest_le_unknown e c v corr pid ep _ h0 (createReq_topicsInv c (-1) start rbs hr) hs
  have := ha.2 hne
  omega

/-- the side conditions of `request_bound_version_unknown` are met by ordinary requests: at v13 any topic with at
most 2^21-2 partitions in the request has a byte to spare -/
example (t : TopicBatches) (h : t.parts.length < 2097151) : 1 ≤ flexSlack 13 t := by
  have := uvarintLen_le 3 (n := 1 + t.parts.length) (by omega) (by omega)
  have hu := uvarlen_eq t.parts.length
  simp only [flexSlack, show (13 : Int) ≥ 13 from by omega, if_true] at hu ⊢
  omega

/-- A message set (Produce v0–v2) is at most the length `tryAddBatch` accounts for it, with any compressor. -/
theorem message_set_length_le (crc : Bytes → Nat) (comp : Option Compressor) (b : PartBatch) (v : Int)
    (h0 : 0 ≤ v) (h3 : v < 3) (h : BatchInv b.batch) (hne : b.batch.records ≠ []) :
    ((appendToAsMessageSet crc comp b v).length : Int) ≤ bwl v b.batch :=
  appendToAsMessageSet_le crc comp b v h0 h3 h hne

/-- **Batch bound, message sets** (Produce v0–v2): every batch buffered for `topic` while the produce version is
unknown, or known to be the message-set version it is then written at, is written — with any compressor — as a
message set (without the partition's length prefix) strictly smaller than `ProducerBatchMaxBytes`. (A batch
buffered at a known version ≥ 3 and then written as a message set is outside the statement: its message-set size
was never checked; the sink's version does not change once known.) -/
theorem message_set_bound (c : Cfg) (topic : Bytes) (pv v : Int) (rs : List Rec) (h0 : 0 ≤ v) (h3 : v < 3)
    (hpv : pv < 0 ∨ pv = v) (crc : Bytes → Nat) (comp : Option Compressor) (part seq : Int) :
    ∀ b ∈ (bufferAll pv (maxRecordBatchBytesForTopic c topic) [] rs).1,
      ((appendToAsMessageSet crc comp ⟨part, seq, b⟩ v).length : Int) - 4 < c.maxRecordBatchBytes := by
  intro b hb
  have hB := buffered_batches pv (maxRecordBatchBytesForTopic c topic) rs b hb
  have hms := bufferAll_msBound pv (maxRecordBatchBytesForTopic c topic) rs b hb v h0 h3 hpv
  have hlen := appendToAsMessageSet_le crc comp ⟨part, seq, b⟩ v h0 h3 hB.1 hB.2.1
  have hm := maxRecordBatchBytesForTopic_le c topic
  simp only at hlen
  omega

open Proof.C18RT in
/-- **Round trip, Produce v3–v13, no compressor.** For every configuration, version 3–13, correlation id,
producer id/epoch, CRC function (any function into 32 bits) and every list of topics with their partition batches
(in any order) whose numbers fit their wire fields (`ReqWF`: no int16/int32/int64 overflow, 16-byte topic ids,
batches satisfying the accounting invariant), the independent strict reference decoder `Spec.C18.requests`
accepts the frame the client writes and returns exactly: the header fields, ids, acks and timeout, and per topic
and per partition, in the written order, one batch with magic 2, the configured producer id and epoch, the
partition's sequence (0 when not idempotent), the transactional bit iff a transactional id is configured, codec 0,
`firstTimestamp`, `firstTimestamp + maxTimestampDelta`, and the buffered records in order, each with timestamp
`firstTimestamp + tsDelta`, key, value and headers. Acceptance includes the checks of every length field, the CRC
over attributes…end, base offset 0, leader epoch -1, offset deltas 0..n-1, `lastOffsetDelta = n-1`, empty tag
sections and nothing trailing. -/
theorem decode_encode_request (crc crc32 : Model.C18.Bytes → Nat) (hcrc : ∀ x, crc x < 4294967296) (c : Cfg) (v corr pid ep : Int)
    (ts : List TopicBatches) (h : ReqWF c v corr pid ep ts)
    (hlen : (appendRequest (env0 crc crc32) c v corr pid ep ts).length < 2147483648) :
    Spec.C18.requests crc crc32 false [] [appendRequest (env0 crc crc32) c v corr pid ep ts] =
      .ok [dReq crc (appendRequest (env0 crc crc32) c v corr pid ep ts).length c v corr pid ep ts] := by
  have e := R_request hcrc c v corr pid ep ts [] h hlen
  simp only [R, run2, List.append_nil] at e
  simp [Spec.C18.requests, Spec.C18.requestsP, e]
  rfl

open Proof.C18RT in
/-- The decoded records of a buffered batch are the buffered records themselves: `firstTimestamp + tsDelta` is each
record's own timestamp, `firstTimestamp` is the first record's, and the written `maxTimestamp` is the largest of them. -/
theorem decoded_records_are_buffered (pv m : Int) (rs : List Rec) :
    ∀ b ∈ (bufferAll pv m [] rs).1,
      (b.records.map (dRec b.firstTimestamp) =
        b.records.map (fun pr => (⟨some pr.r.ts, pr.r.key, pr.r.value, pr.r.headers.map dHeader⟩ : Spec.C18.DRec)))
      ∧ (∀ pr ∈ b.records, pr.r.ts ≤ b.firstTimestamp + b.maxTimestampDelta)
      ∧ (∃ pr ∈ b.records, pr.r.ts = b.firstTimestamp + b.maxTimestampDelta) := by
  intro b hb
  have ht := bufferAll_tsInv pv m rs b hb
  have hB := buffered_batches pv m rs b hb
  refine ⟨?_, ?_, ?_⟩
  · apply List.map_congr_left
    intro pr hpr
    simp [dRec, ht.delta pr hpr]
  · intro pr hpr
    have := ht.delta pr hpr; have := ht.le pr hpr; omega
  · obtain ⟨pr, hpr, hq⟩ := ht.attained hB.2.1
    exact ⟨pr, hpr, by have := ht.delta pr hpr; omega⟩

/-! A concrete request (the counterexample to the flexible request bound without the repair e8757ce): both partitions
of `wRbs` written at v13 take 1025 bytes against `wCfg.maxBrokerWriteBytes = 1024`; `createReq wCfg 13 0 wRbs` admits
the first only (accounted 537, written 535). -/

def wVal : Bytes := List.replicate 413 0#8
private theorem wVal_length : wVal.length = 413 := List.length_replicate ..
def wId : Bytes := List.replicate 16 1#8
private theorem wId_length : wId.length = 16 := List.length_replicate ..
/-- one record: nil key, 413-byte value, no headers -/
def wRec : Rec := { ts := 0, key := none, value := some wVal, headers := [] }
def wBatches : List Batch := (bufferAll 13 1000 [] [wRec]).1
def wCfg : Cfg :=
  { clientId := some [0x6b#8, 0x67#8, 0x6f#8], txnId := none, acks := -1, timeoutMs := 10000,
    maxBrokerWriteBytes := 1024, maxRecordBatchBytes := 1000 }
/-- two partitions of topic "t" (id 01…01), each with that one-record batch -/
def wRbs : List RecBuf :=
  [⟨[0x74#8], wId, 0, 0, wBatches⟩, ⟨[0x74#8], wId, 1, 0, wBatches⟩]
def wEnv : Env := { crc32c := fun _ => 0, crc32 := fun _ => 0, comp := none }

def wBatch : Batch :=
  { wireLength := 487, v1wireLength := 451, firstTimestamp := 0, maxTimestampDelta := 0, records := [⟨wRec, 420, 0⟩] }

private theorem wBatches_eq : wBatches = [wBatch] := by
  simp [wBatches, wBatch, bufferAll, bufferRecord, tryBuffer, newRecordBatch, recordBatchOverhead, calculateRecordNumbers,
    wireLengthForProduceVersion, flexibleWireLength, batchLength, uvar32, uvarintLen, varintLen, numsWireLength, appendRecord,
    messageSet1Length, messageSet0Length, wRec, blen, headersLen, zz, lenU_zero, lenU_62, lenU_826, lenU_840, wVal_length, recordWireLengthFor]

open Proof.C18RT in
/-- non-vacuity of `decode_encode_request`: the two-partition v13 request defined above satisfies
`ReqWF` (so the written 1025-byte frame decodes to its two one-record batches) -/
example : ReqWF wCfg 13 7 5 0 [{ topic := [0x74#8], topicID := wId, parts := [⟨0, 0, wBatch⟩, ⟨1, 0, wBatch⟩] }] := by
  have hB := buffered_batches 13 1000 [wRec] wBatch (by
    have : wBatches = [wBatch] := wBatches_eq
    simp only [wBatches] at this; rw [this]; simp)
  have hok : Proof.C18.RecOK ⟨wRec, 420, 0⟩ 0 := by
    have := hB.1.ok; simp only [wBatch, Proof.C18.AllOK] at this; exact this.1
  have hpr : PRecOK ⟨wRec, 420, 0⟩ 0 :=
    { len := .of_lt (show 420 < 2147483648 by omega)
      tsd := LenOK.of_lt (n := 0) (by omega)
      idx := .of_lt (by omega)
      key := .of_lt (by simp [wRec, blen])
      value := .of_lt (by simp [wRec, blen, wVal_length])
      nh := .of_lt (by simp [wRec])
      hdrs := by simp [wRec]
      ok := hok }
  have hbw : BatchWF wBatch 5 0 (if (5 : Int) < 0 then 0 else 0) :=
    { inv := hB.1, recs := ⟨hpr, trivial⟩, ft := I64_iff.2 (by simp [wBatch]), mt := I64_iff.2 (by simp [wBatch]),
      pid := I64_iff.2 (by omega), ep := I16_iff.2 (by omega), seq := I32_iff.2 (by simp),
      ne := by simp [wBatch], wl := by simp [wBatch], n := by simp [wBatch] }
  exact
    { v3 := by omega, v13 := by omega, corr := I32_iff.2 (by omega), cid := by simp [wCfg, blen], txn := by simp [wCfg, blen],
      acks := I16_iff.2 (by simp [wCfg]), timeout := I32_iff.2 (by simp [wCfg]), nt := by simp,
      topics := by
        intro t ht
        simp only [List.mem_cons, List.not_mem_nil, or_false] at ht
        subst ht
        exact { id := wId_length, name := by simp, np := by simp,
                parts := ⟨⟨I32_iff.2 (by simp), hbw⟩, ⟨I32_iff.2 (by simp), hbw⟩, trivial⟩ } }

end Props.C18
