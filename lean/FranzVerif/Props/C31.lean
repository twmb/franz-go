import FranzVerif.Proof.C31Gate
import FranzVerif.Proof.C31GateLive
import FranzVerif.Proof.C31GateTerm
import FranzVerif.Proof.C31GateObs
import FranzVerif.Proof.C31Mx
import FranzVerif.Proof.C31Rw
/-! C31 — property theorems: the poll/rebalance gate of `consumer.go` and the channel `Mutex`/`RWMutex`
of `synctest_mutex.go`.

Every theorem quantifies over all thread programs (any number of threads, any length) and all
interleavings: `Sys.Reach` is the closure of the initial state under arbitrary actions of arbitrary
threads. The automata are in `Model/C31.lean`; the harness runs the copied source on the same schedules
and compares traces, the driver evaluates `Spec/C31.lean` on the implementation's trace. -/
namespace Props.C31
open Model.C31

section Gate
open Gate

/-- **Exclusion (counter level, full strength).** Whenever some thread has been admitted to a rebalance
section and has not finished leaving it (`rUnlock`: decided to enter, `xLock`: inside, `xUnlock`: leaving),
the poller half of `pollWaitState` is zero: a rebalance section is entered and occupied only with zero
outstanding pollers. No hypothesis on the clients. -/
theorem gate_rebalance_only_with_zero_pollers {progs : List (List Op)} {s : St Sh Th}
    (hr : sys.Reach (init progs) s) (hin : cnt ins s.ths > 0) : s.sh.pollers = 0 :=
  (reach_inv hr).excl hin

/-- While a rebalance is inside no poll can be admitted: a poller arriving at its `Lock`, or re-checking
after a wake-up, parks again and the poller count stays zero. -/
theorem gate_no_poll_admitted_during_rebalance {progs : List (List Op)} {s s' : St Sh Th} {i : Nat} {ev : String}
    (hr : sys.Reach (init progs) s) (hin : cnt ins s.ths > 0) (hs : sys.step s i = some (s', ev)) :
    s'.sh.pollers = 0 := by
  obtain ⟨sh, ths⟩ := s
  obtain ⟨pre, t, post, sh', t', b, rfl, h3, rfl⟩ := sys.step_decomp hs
  replace h3 : Step sh t sh' t' b := Step.of_stepT h3
  obtain ⟨mu, reb, -, excl, -, -⟩ := reach_inv hr
  simp only [cnt_mid, cnt_cons] at mu reb excl hin
  have h0 := excl hin
  have hle := ins_le (pre ++ post)
  -- a poller that passes `Lock` finds the rebalance count non-zero: a thread in the section is counted or holds the mutex
  cases h3 <;> simp only [hold, rcount, ins] at mu reb hin ⊢ <;> omega

/-- **Counters never underflow** (including the AllowRebalance-then-late-release case): no subtraction
on `pollWaitState` ever wraps, and the rebalance half equals the number of rebalancers between their
`+= 1<<32` and their `-= 1<<32`. (`unaddPoller` is guarded by `> 0` in the code; `unaddRebalance` is not,
its safety is this theorem.) -/
theorem gate_counters_never_underflow {progs : List (List Op)} {s : St Sh Th}
    (hr : sys.Reach (init progs) s) : s.sh.corrupt = false ∧ s.sh.rebal = cnt rcount s.ths :=
  ⟨(reach_inv hr).cor, (reach_inv hr).reb⟩

/-- The gate's own mutex is held by exactly the threads inside a critical section: at most one. -/
theorem gate_mutex_exclusive {progs : List (List Op)} {s : St Sh Th}
    (hr : sys.Reach (init progs) s) : cnt hold s.ths ≤ 1 := by
  have := (reach_inv hr).mu; have := muN_le s.sh; omega

/-
Full sentence of the property: "polls wait while a rebalance is pending", i.e.
  ∀ reachable s, a rebalance registered (cnt rcount s.ths > 0) → a poller at its `Lock` that acts parks.
This is FALSE when a poll is already outstanding (documented: "You can poll many times before calling
AllowRebalance"): see `gate_polls_wait_unconditional_false`. What holds is the version with the
hypothesis "no poll outstanding" (poller count zero); what is missing is exactly the case pollers > 0.
-/
/-- **Polls wait while a rebalance is pending — partial**: with no poll outstanding, a poller arriving at
`waitAndAddPoller` while a rebalance is registered does not pass: it parks, and the count stays zero. -/
theorem gate_polls_wait_partial {progs : List (List Op)} {s s' : St Sh Th} {i : Nat} {ev : String} {q : Bool} {prog : List Op}
    (hr : sys.Reach (init progs) s) (hpend : cnt rcount s.ths > 0) (hnone : s.sh.pollers = 0)
    (hi : s.ths[i]? = some ⟨.pLock q, prog⟩) (hs : sys.step s i = some (s', ev)) :
    s'.ths[i]? = some ⟨.pPark q, prog⟩ ∧ s'.sh.pollers = 0 := by
  have hreb := (reach_inv hr).reb
  obtain ⟨sh', t', b, h3, h4, h5⟩ := sys.step_at hs hi
  replace h3 : Step s.sh ⟨.pLock q, prog⟩ sh' t' b := Step.of_stepT h3
  cases h3 with
  | lockPark => exact ⟨h5, h4 ▸ hnone⟩
  | lockEnter _ _ h => omega

/-- After a wake-up the poller re-checks only the rebalance count: it parks again whenever a rebalance
is registered, whatever the poller count. -/
theorem gate_woken_poll_waits {progs : List (List Op)} {s s' : St Sh Th} {i : Nat} {ev : String} {q : Bool} {prog : List Op}
    (hr : sys.Reach (init progs) s) (hpend : cnt rcount s.ths > 0)
    (hi : s.ths[i]? = some ⟨.pWake q, prog⟩) (hs : sys.step s i = some (s', ev)) :
    s'.ths[i]? = some ⟨.pPark q, prog⟩ ∧ s'.sh.pollers = s.sh.pollers := by
  have hreb := (reach_inv hr).reb
  obtain ⟨sh', t', b, h3, h4, h5⟩ := sys.step_at hs hi
  replace h3 : Step s.sh ⟨.pWake q, prog⟩ sh' t' b := Step.of_stepT h3
  cases h3 with
  | wakePark => exact ⟨h5, by rw [h4]⟩
  | wakeEnter _ _ h => omega

/-- Witness for the unconditional reading: two pollers and one rebalance. Thread 0 polls and keeps records,
the rebalance registers and parks, thread 1 then polls: it is admitted although a rebalance is pending. -/
def twoPollers : List (List Op) := [[.P, .A], [.P, .A], [.R]]
def twoPollersSched : List Nat := [0, 0, 2, 2]

/-- The unconditional sentence "polls wait while a rebalance is pending" does not hold of the code. -/
theorem gate_polls_wait_unconditional_false :
    ¬ (∀ (progs : List (List Op)) (s s' : St Sh Th) (i : Nat) (ev : String) (q : Bool) (prog : List Op),
        sys.Reach (init progs) s → cnt rcount s.ths > 0 → s.ths[i]? = some ⟨.pLock q, prog⟩ →
        sys.step s i = some (s', ev) → s'.ths[i]? = some ⟨.pPark q, prog⟩) := by
  intro h
  have he : sys.exec (init twoPollers) twoPollersSched =
      some ⟨{ pollers := 1, rebal := 1, out := 1 }, [⟨.aLock, []⟩, ⟨.pLock false, [.A]⟩, ⟨.rWait true, []⟩]⟩ := by decide
  have hr := sys.reach_of_exec twoPollersSched _ Sys.Reach.init he
  have hs : sys.step ⟨{ pollers := 1, rebal := 1, out := 1 }, [⟨.aLock, []⟩, ⟨.pLock false, [.A]⟩, ⟨.rWait true, []⟩]⟩ 1 =
      some (⟨{ mu := true, pollers := 2, rebal := 1, out := 1 }, [⟨.aLock, []⟩, ⟨.pUnlock false, [.A]⟩, ⟨.rWait true, []⟩]⟩, "") := by decide
  have := h _ _ _ 1 _ false [.A] hr (by decide) (by decide) hs
  simp at this

/-- No lost wake-up: a poller is parked and un-notified only while a rebalance is registered, a rebalancer
only while the poller count is non-zero (every decrement of either half broadcasts). -/
theorem gate_no_lost_wakeup {progs : List (List Op)} {s : St Sh Th} (hr : sys.Reach (init progs) s) :
    (cnt pwp s.ths > 0 → s.sh.rebal > 0) ∧ (cnt rwp s.ths > 0 → s.sh.pollers > 0) :=
  ⟨(reach_inv hr).pw, (reach_inv hr).rw⟩

/-- Non-vacuity: a reachable state where a rebalancer is inside while a poller is parked waiting for it. -/
example : ∃ s, sys.Reach (init [[.P, .A], [.R]]) s ∧ cnt ins s.ths > 0 ∧ cnt pwp s.ths > 0 := by
  refine ⟨_, sys.reach_of_exec [1, 1, 0, 0] _ Sys.Reach.init (by decide : sys.exec (init [[.P, .A], [.R]]) [1, 1, 0, 0] = some
    ⟨{ rebal := 1 }, [⟨.pWait false, [.A]⟩, ⟨.xLock, []⟩]⟩), by decide, by decide⟩

/-
Observable level. The property sentence "a rebalance's revocation never runs while a poll that returned
records is outstanding (until AllowRebalance)", with `out` = number of polls outstanding by the observable
bookkeeping (returns of `waitAndAddPoller`, of a poll's own `unaddPoller`, of `AllowRebalance`) and
`insObs` = rebalancers between the return of `waitAndAddRebalance` and the return of `unaddRebalance`:
  ∀ reachable s, cnt insObs s.ths > 0 → s.sh.out = 0.
This full statement is FALSE of the code (`gate_revocation_exclusion_unconditional_false`): an
`AllowRebalance` that returns while another thread is inside its fill lets that thread's later
`unaddPoller` release a different poll's count (finding `late-release-steals-poll`). Proved: the
`…_partial` version under the hypothesis naming exactly that class, `viol = false` (no `AllowRebalance`
returned while some thread was between the return of `waitAndAddPoller` and the return of its `unaddPoller`).
The counter-level statement `gate_rebalance_only_with_zero_pollers` holds without any hypothesis.
-/
/-- **No revocation while a poll is outstanding — partial** (observable level). -/
theorem gate_no_revocation_while_poll_outstanding_partial {progs : List (List Op)} {s : St Sh Th}
    (hr : sys.Reach (init progs) s) (hv : s.sh.viol = false) (hin : cnt insObs s.ths > 0) :
    s.sh.out = 0 ∧ cnt fl s.ths = 0 := by
  have h := ((reach_cinv hr).2 hv).H (by have := (obs_le s.ths).2; omega)
  exact ⟨h.1, h.2.1⟩

/-- Under the same hypothesis the observable bookkeeping and the counter agree whenever the gate's mutex is free. -/
theorem gate_counter_matches_observable_partial {progs : List (List Op)} {s : St Sh Th}
    (hr : sys.Reach (init progs) s) (hv : s.sh.viol = false) (hmu : s.sh.mu = false) :
    s.sh.pollers = s.sh.out := by
  obtain ⟨hg, ho⟩ := reach_cinv hr
  have hO := (ho hv).O
  have := hg.mu; simp [muN, hmu] at this
  have := (obs_le s.ths).1
  have := hO (by omega)
  omega

/-- The late release: thread 0's fill finds nothing, thread 1 allows and polls again (keeps records), thread 0's
deferred `unaddPoller` lands, the rebalance enters. -/
def stealProgs : List (List Op) := [[.Q], [.A, .P], [.R]]
def stealSched : List Nat := [0, 0, 1, 1, 1, 1, 0, 0, 2, 2]

/-- The unconditional observable-level sentence does not hold of the code. -/
theorem gate_revocation_exclusion_unconditional_false :
    ¬ (∀ (progs : List (List Op)) (s : St Sh Th), sys.Reach (init progs) s → cnt insObs s.ths > 0 → s.sh.out = 0) := by
  intro h
  have he : sys.exec (init stealProgs) stealSched =
      some ⟨{ rebal := 1, out := 1, viol := true, ep := 1 }, [⟨.done, []⟩, ⟨.done, []⟩, ⟨.xLock, []⟩]⟩ := by decide
  have := h _ _ (sys.reach_of_exec stealSched _ Sys.Reach.init he) (by decide)
  simp at this

/-- **Deadlock freedom** under the client contract (`Contract`: every thread either polls/allows — and
every poll that keeps records is followed by an `AllowRebalance` of the same thread — or only rebalances):
unless every thread has finished, some thread can act. Together with `gate_every_run_finite` every
maximal execution ends with all threads finished. Without the contract the statement is false
(`P ; R` with no `AllowRebalance` blocks the rebalance forever: documented, `Close` "will hang"). -/
theorem gate_deadlock_free {progs : List (List Op)} (hc : Contract progs) {s : St Sh Th}
    (hr : sys.Reach (init progs) s) (hnd : sys.allDone s = false) : ∃ i, (sys.step s i).isSome :=
  deadlock_free (reach_inv hr) (reach_dinv hc hr) hnd

/-- Every action decreases the pair (straight-line actions left, actions left inside wait loops)
lexicographically — for any programs, contract or not. -/
theorem gate_step_decreases {s s' : St Sh Th} {i : Nat} {ev : String} (hs : sys.step s i = some (s', ev)) :
    M s' < M s ∨ (M s' = M s ∧ L s' < L s) := by
  obtain ⟨pre, t, post, sh', t', b, h1, h3, rfl⟩ := sys.step_decomp hs
  simp only [M, L, h1, cnt_append, cnt_cons, cnt_wakeAll main]
  rcases (Step.of_stepT h3).decrease with h | ⟨h, hb, hl⟩
  · left; omega
  · right; subst hb
    simp only [Sys.wakeAll_false]
    omega

/-- **Well-founded measure**: there is no infinite execution of the gate (a wait loop iterates only when
another thread broadcast, and every broadcast is straight-line progress of its thread). -/
theorem gate_every_run_finite (f : Nat → St Sh Th)
    (h : ∀ n, ∃ i ev, sys.step (f n) i = some (f (n + 1), ev)) : False :=
  no_lex_descent M L f fun n => by
    obtain ⟨i, ev, hs⟩ := h n
    exact gate_step_decreases hs

example : Contract [[.P, .Q, .A], [.Q, .A, .P, .P, .A], [.R, .R], []] := by
  intro p hp; simp at hp; rcases hp with rfl | rfl | rfl | rfl <;> decide

/-- The contract is needed: a kept poll that is never allowed blocks the rebalance for ever. -/
example : ∃ s, sys.Reach (init [[.P], [.R]]) s ∧ sys.allDone s = false ∧ ∀ i, sys.step s i = none := by
  refine ⟨_, sys.reach_of_exec [0, 0, 1, 1] _ Sys.Reach.init (by decide : sys.exec (init [[.P], [.R]]) [0, 0, 1, 1] = some
    ⟨{ pollers := 1, rebal := 1, out := 1 }, [⟨.done, []⟩, ⟨.rWait true, []⟩]⟩), by decide, ?_⟩
  intro i
  match i with
  | 0 => decide
  | 1 => decide
  | n + 2 => simp [Sys.step]

end Gate

section Mx
open Mx

/-- **Mutual exclusion**: for lock/unlock-balanced clients the token count plus the number of holders is
one; in particular at most one thread is between `Lock`/successful `TryLock` and `Unlock`. -/
theorem mutex_mutual_exclusion {progs : List (List Op)} (hb : Balanced progs) {s : St Sh Th}
    (hr : sys.Reach (init progs) s) : s.sh.ch + cnt holds s.ths = 1 ∧ cnt holds s.ths ≤ 1 := by
  have := (reach_inv hb hr).tok; exact ⟨this, by omega⟩

/-- `TryLock` never blocks, and it succeeds exactly when no thread holds the mutex. -/
theorem mutex_trylock_never_blocks {progs : List (List Op)} (hb : Balanced progs) {s : St Sh Th}
    (hr : sys.Reach (init progs) s) (prog : List Op) :
    ∃ r, stepT s.sh ⟨.tryl, prog⟩ = some r ∧ (r.2.1.pc = .unlock true ↔ cnt holds s.ths = 0) := by
  have h := (reach_inv hb hr).tok
  simp only [stepT]
  split
  · rename_i h0; refine ⟨_, rfl, ?_⟩
    constructor
    · intro hp; cases prog with
      | nil => simp [start] at hp
      | cons o r => cases o <;> simp [start] at hp
    · intro hc; omega
  · rename_i h0; exact ⟨_, rfl, by simp; omega⟩

/-- Balanced clients never hit `panic("sync: unlock of unlocked mutex")`. -/
theorem mutex_unlock_never_panics {progs : List (List Op)} (hb : Balanced progs) {s : St Sh Th}
    (hr : sys.Reach (init progs) s) {t : Th} (hm : t ∈ s.ths) {own : Bool} (hp : t.pc = .unlock own) : s.sh.ch = 0 := by
  obtain ⟨h1, h2⟩ := reach_inv hb hr
  have hown : own = true := by
    cases own with
    | true => rfl
    | false =>
      have : 0 < cnt unbal s.ths := cnt_pos_of_mem hm (by simp [unbal, hp])
      omega
  subst hown
  have : 0 < cnt holds s.ths := cnt_pos_of_mem hm (by simp [holds, hp])
  omega

/-- **Deadlock freedom**: unless every thread has finished, some thread can act. -/
theorem mutex_deadlock_free {progs : List (List Op)} (hb : Balanced progs) {s : St Sh Th}
    (hr : sys.Reach (init progs) s) (hnd : sys.allDone s = false) : ∃ i, (sys.step s i).isSome :=
  deadlock_free (reach_inv hb hr) hnd

example : Balanced [[.L, .T], [.T, .L], [.L]] := by unfold Balanced; decide

end Mx

section Rw
open Rw

/-- **Writers alone**: at most one writer is inside, and while a writer is inside `readerCount = 0`,
no reader is inside, and no other thread holds the gate token. -/
theorem rwmutex_writer_excludes_everyone {progs : List (List Op)} (hb : Balanced progs) {s : St Sh Th}
    (hr : sys.Reach (init progs) s) :
    cnt wIn s.ths ≤ 1 ∧ (cnt wIn s.ths > 0 → cnt rIn s.ths = 0 ∧ s.sh.rc = 0 ∧ s.sh.gate = 0 ∧ cnt gh s.ths = 1) := by
  obtain ⟨⟨g1, -, g3, -, -⟩, ⟨-, -, g8, -⟩⟩ := reach_inv hb hr
  obtain ⟨w1, w2⟩ := wIn_le s.ths
  refine ⟨by omega, fun h => ?_⟩
  have hrc := g8 (by omega)
  have := rIn_le s.ths
  refine ⟨by omega, hrc, by omega, by omega⟩

/-- **`readerCount` = number of readers inside**: the field equals the number of threads between their
`readerCount++` and their `readerCount--`; every reader inside its section is among them; it is never negative. -/
theorem rwmutex_readerCount_counts_readers {progs : List (List Op)} (hb : Balanced progs) {s : St Sh Th}
    (hr : sys.Reach (init progs) s) : s.sh.rc = (cnt rcn s.ths : Nat) ∧ cnt rIn s.ths ≤ cnt rcn s.ths ∧ 0 ≤ s.sh.rc := by
  have := (reach_inv hb hr).1.rc
  exact ⟨this, rIn_le s.ths, by omega⟩

/-- **A stale `writerSignal` never admits a writer with readers present**: whenever a writer is past its
drain and a signal is buffered, `readerCount = 0`; whenever a reader is about to post the signal the count is 0. -/
theorem rwmutex_stale_signal_harmless {progs : List (List Op)} (hb : Balanced progs) {s : St Sh Th}
    (hr : sys.Reach (init progs) s) :
    (cnt wd s.ths > 0 → s.sh.sig = 1 → s.sh.rc = 0) ∧ (cnt r2 s.ths > 0 → s.sh.rc = 0) ∧ s.sh.sig ≤ 1 :=
  ⟨(reach_inv hb hr).2.i4, (reach_inv hb hr).2.i5, (reach_inv hb hr).1.sig1⟩

/-- The token discipline: `gate` and `mu` hold one token each, shared with their holders. -/
theorem rwmutex_tokens {progs : List (List Op)} (hb : Balanced progs) {s : St Sh Th}
    (hr : sys.Reach (init progs) s) : s.sh.gate + cnt gh s.ths = 1 ∧ s.sh.mu + cnt mh s.ths = 1 :=
  ⟨(reach_inv hb hr).1.gate, (reach_inv hb hr).1.mu⟩

/-- **No lost wake-up for the writer**: a writer that saw readers and waits for the signal with none
buffered still has a counted reader or a reader about to post the signal. -/
theorem rwmutex_writer_wakeup_pending {progs : List (List Op)} (hb : Balanced progs) {s : St Sh Th}
    (hr : sys.Reach (init progs) s) (hw : cnt w5 s.ths > 0) (h0 : s.sh.sig = 0) : s.sh.rc > 0 ∨ cnt r2 s.ths > 0 :=
  (reach_inv hb hr).2.i7 hw h0

/-- **`TryLock`/`TryRLock` never block on the gate or the signal**: their first action and the drain are
`select … default` (always enabled); giving the gate back after a failed `TryLock`, and after any reader
entry, is enabled because the thread itself holds the token. They wait only for the inner mutex,
whose holders are always enabled (`rwmutex_deadlock_free`). -/
theorem rwmutex_try_never_blocks {progs : List (List Op)} (hb : Balanced progs) {s : St Sh Th}
    (hr : sys.Reach (init progs) s) (prog : List Op) :
    (stepT s.sh ⟨.trl1, prog⟩).isSome ∧ (stepT s.sh ⟨.twl1, prog⟩).isSome ∧ (stepT s.sh ⟨.twl2, prog⟩).isSome ∧
    (∀ t ∈ s.ths, (t.pc = .twl5 ∨ (∃ y, t.pc = .rl4 y)) → s.sh.gate = 0) := by
  have g1 := (reach_inv hb hr).1.gate
  refine ⟨(enabled_iff _ _).2 trivial, (enabled_iff _ _).2 trivial, (enabled_iff _ _).2 trivial, ?_⟩
  intro t hm hp
  have : 0 < cnt gh s.ths := cnt_pos_of_mem hm (by
    obtain ⟨pc, p⟩ := t
    rcases hp with h | ⟨y, h⟩ <;> (simp at h; subst h; simp [gh]))
  omega

/-- **`TryLock` succeeds only when allowed**: it returns true only having read `readerCount = 0` while
holding the gate (so `rwmutex_writer_excludes_everyone` applies), and `TryRLock`/`TryLock` return false
at their first action exactly when the gate token is taken. -/
theorem rwmutex_try_fails_only_when_gate_taken (sh : Sh) (prog : List Op) :
    ((∃ r, stepT sh ⟨.trl1, prog⟩ = some r ∧ r.2.2.2 = ":tr0") ↔ sh.gate = 0) ∧
    ((∃ r, stepT sh ⟨.twl1, prog⟩ = some r ∧ r.2.2.2 = ":tw0") ↔ sh.gate = 0) := by
  constructor <;> (simp only [stepT]; split <;> simp_all)

/-- Balanced clients never reach a `panic` of `RUnlock`/`Unlock`/the inner `Mutex.Unlock`. -/
theorem rwmutex_never_panics {progs : List (List Op)} (hb : Balanced progs) {s : St Sh Th}
    (hr : sys.Reach (init progs) s) {t : Th} (hm : t ∈ s.ths) :
    t.pc ≠ .ruP ∧ (mh t = 1 → s.sh.mu = 0) ∧ (∀ own, t.pc = .wu own → s.sh.gate = 0) := by
  obtain ⟨⟨g1, g2, -, g4, -⟩, -⟩ := reach_inv hb hr
  refine ⟨?_, ?_, ?_⟩
  · intro h
    have : 0 < cnt unbal s.ths := cnt_pos_of_mem hm (by simp only [unbal, h]; omega)
    omega
  · intro h
    have : 0 < cnt mh s.ths := cnt_pos_of_mem hm (by omega)
    omega
  · intro own h
    cases own with
    | false =>
      have : 0 < cnt unbal s.ths := cnt_pos_of_mem hm (by simp only [unbal, h]; omega)
      omega
    | true =>
      have : 0 < cnt gh s.ths := cnt_pos_of_mem hm (by obtain ⟨pc, p⟩ := t; simp at h; subst h; simp [gh])
      omega

/-- **Deadlock freedom** for lock/unlock-balanced clients: unless every thread has finished, some thread can act. -/
theorem rwmutex_deadlock_free {progs : List (List Op)} (hb : Balanced progs) {s : St Sh Th}
    (hr : sys.Reach (init progs) s) (hnd : sys.allDone s = false) : ∃ i, (sys.step s i).isSome :=
  deadlock_free (reach_inv hb hr) hnd

/-- Non-vacuity, and "readers share": two readers inside at once while a writer waits at the gate. -/
example : ∃ s, sys.Reach (init [[.R], [.R], [.W]]) s ∧ cnt rIn s.ths = 2 ∧ s.sh.rc = 2 := by
  refine ⟨_, sys.reach_of_exec [0, 0, 0, 0, 1, 1, 1, 1] _ Sys.Reach.init
    (by decide : sys.exec (init [[.R], [.R], [.W]]) [0, 0, 0, 0, 1, 1, 1, 1] = some
      ⟨{ rc := 2 }, [⟨.rsec, []⟩, ⟨.rsec, []⟩, ⟨.wl1, []⟩]⟩), by decide, by decide⟩

/-- Non-vacuity of the stale-signal case: a signal is buffered although no writer ever waited for it. -/
example : ∃ s, sys.Reach (init [[.R], [.W]]) s ∧ s.sh.sig = 1 ∧ cnt wd s.ths = 0 := by
  refine ⟨_, sys.reach_of_exec [0, 0, 0, 0, 0, 0, 0, 0] _ Sys.Reach.init
    (by decide : sys.exec (init [[.R], [.W]]) [0, 0, 0, 0, 0, 0, 0, 0] = some
      ⟨{ sig := 1 }, [⟨.done, []⟩, ⟨.wl1, []⟩]⟩), by decide, by decide⟩

example : Balanced [[.R, .TW], [.W, .TR], [.R]] := by
  intro p hp; simp at hp; rcases hp with rfl | rfl | rfl <;> decide

end Rw

end Props.C31
