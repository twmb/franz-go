import FranzVerif.Model.Conn
import FranzVerif.Proof.C22Frame
import FranzVerif.Proof.Conn
import FranzVerif.Proof.ConnInv
import FranzVerif.Proof.ConnSasl
/-! C22 — responses are matched to their requests; hostile bytes are safe.

Two layers. (1) Theorems over ALL histories the connection monitor `Model.Conn` accepts (every interleaving of
issue / wire / frame / outcome events, every byte stream, every disconnect point); the tie is the history
correspondence of the `conn` scenarios (real kgo client × scripted peer in synctest bubbles). (2) Theorems about
`Model.C22Frame.parseFrame`, the Lean model of `readConn` / `parseReadSize` / `readResponse` / `SkipTags`, tied to
the code by the error-class comparison of the same scenarios.

The vocabulary includes KIP-368 re-authentication (SASL scenarios: requests in flight across the session expiry,
requests PARKED behind them, then a disconnect / read timeout / cancellation / clean drain): `exactly_one_outcome`
holds over all of it, and `failed_request_never_written_later`, `parked_request_written_only_after_reauthentication`,
`written_at_most_once`, `delivered_request_written_exactly_once` say what may happen to a parked request: failed by
the disconnect and never replayed, or replayed exactly once after the re-authentication.

The last clause of the property, "never … waits beyond the configured timeouts", as a parser statement: the work
per response is linear in the bytes received, `parseFrame_steps_linear` (every header kind). It was FALSE before the
repair of C22.tag-count-unbounded-loop (/repo 994d56c): `unrepaired_tag_loop_not_linear` keeps the 13-byte witness
that needed 4294967308 steps against the loop as it was (`parseFrameUnrepaired`). -/
namespace Props.C22
open Model.Conn Model.C22Frame Proof.Conn Proof.C22Frame

/-- Every issued request has exactly one outcome (a response or an error) once the scenario is quiescent: never
zero, never two. -/
theorem exactly_one_outcome (h : List Ev) (s : St) (hacc : run {} (h ++ [Ev.quiesce]) = some s)
    (i t : Nat) (hi : Ev.issue i t ∈ h) : (outIds h).count i = 1 := by
  obtain ⟨s₁, hr, hchk, inv, _⟩ := accepted_at (h₂ := []) (by rw [hacc]; rfl)
  have hmem : i ∈ s₁.issued.map (·.1) := by
    rw [inv.issued, List.mem_reverse]
    exact List.mem_filterMap.2 ⟨_, hi, rfl⟩
  obtain ⟨x, hx, hxi⟩ := List.mem_map.1 hmem
  have hin := hasOut_iff_mem.1 (hxi ▸ check_quiesce hchk x hx)
  rw [inv.outs, List.mem_reverse] at hin
  rw [(outIds_nodup hr).count, if_pos hin]

/-- A payload is delivered only to a request that was written on a connection, whose correlation id the accepted
frame carries, and only if every older request on that connection was itself answered by a frame that passed all
checks (it is the oldest outstanding request and the connection has not died). -/
theorem delivery_matches_correlation_id (h₁ h₂ : List Ev) (i : Nat) (f : Int) (t : Nat)
    (hacc : (run {} (h₁ ++ Ev.ok i f t :: h₂)).isSome) :
    ∃ s w before after rest body, run {} h₁ = some s ∧ w ∈ s.waiters ∧ w.id = i ∧
      fifoOf s w.c = before ++ w :: after ∧
      DeliversAll s.maxRead (closedOf s w.c) before (streamOf s w.c) rest ∧
      (parseFrame s.maxRead w.corr w.flex (closedOf s w.c) rest).res = .deliver body ∧
      u32? (rest.drop 4) = some w.corr := by
  obtain ⟨s, hr, hchk, _⟩ := accepted_at hacc
  obtain ⟨_, body, he⟩ := check_ok hchk
  obtain ⟨w0, _, _, hl⟩ := expectOf_deliver he
  obtain ⟨before, w, after, rest, hf, hw, hd, hp⟩ := lookup_simulate_deliver _ _ hl
  obtain ⟨hwmem, hc⟩ := mem_fifoOf.1 (show w ∈ fifoOf s w0.c by rw [hf]; simp)
  rw [← hc] at hf hd hp
  exact ⟨s, w, before, after, rest, body, hr, hwmem, hw, hf, hd, hp, deliver_carries_corr hp⟩

/-- After the connection died nothing is delivered: once a frame is refused for (or the stream ends before) the
oldest outstanding request, no request written behind it on that connection ever gets a response. -/
theorem nothing_delivered_behind_a_refused_frame (h₁ h₂ : List Ev) (i : Nat) (f : Int) (t : Nat)
    (hacc : (run {} (h₁ ++ Ev.ok i f t :: h₂)).isSome) :
    ∃ s, run {} h₁ = some s ∧
      ∀ c before w' after rest, fifoOf s c = before ++ w' :: after →
        DeliversAll s.maxRead (closedOf s c) before (streamOf s c) rest →
        (∀ b, (parseFrame s.maxRead w'.corr w'.flex (closedOf s c) rest).res ≠ .deliver b) →
        ∀ x ∈ after, x.id ≠ i := by
  obtain ⟨s, hr, hchk, inv, _⟩ := accepted_at hacc
  refine ⟨s, hr, ?_⟩
  intro c before w' after rest hf hd hfail x hx hxi
  obtain ⟨_, body, he⟩ := check_ok hchk
  obtain ⟨hxw, hxc⟩ := mem_fifoOf.1 (show x ∈ fifoOf s c by rw [hf]; simp [hx])
  have hnd : ((fifoOf s c).map (·.id)).Nodup :=
    inv.waitersNodup.sublist (List.Sublist.map _ List.filter_sublist)
  rw [← hxi, expectOf_of_mem inv.waitersNodup hxw, hxc, hf, lookup_simulate_behind hd hfail (hf ▸ hnd) hx] at he
  cases he

/-- A request that was failed (or answered) is never replayed: no request reaches the wire at a later time than its
outcome. In particular a request parked for a pending re-authentication and failed by the death of its connection
(`die` → `failParked`) is not written afterwards (the replay of `handleReauthDrain` must not see it). -/
theorem failed_request_never_written_later (h₁ h₂ : List Ev) (w : Waiter)
    (hacc : (run {} (h₁ ++ Ev.written w :: h₂)).isSome) (t : Nat)
    (hout : (∃ cls, Ev.err w.id cls t ∈ h₁) ∨ (∃ f, Ev.ok w.id f t ∈ h₁)) : w.tw ≤ t := by
  obtain ⟨s, hr, hchk, inv, sinv⟩ := accepted_at hacc
  obtain ⟨b, hb⟩ : ∃ b, (w.id, b, t) ∈ s.outs := by
    rcases hout with ⟨cls, he⟩ | ⟨f, he⟩
    · exact sinv.outsMem _ he w.id t rfl
    · exact sinv.outsMem _ he w.id t rfl
  obtain ⟨h1, h2⟩ := outTime_of_mem inv.outsNodup hb
  exact Nat.le_of_not_lt (h2 ▸ (check_written.1 hchk).notAfterOutcome h1)

/-- A parked request reaches the wire only on a connection that completed an authentication after the request was
(last) parked: the history before the write contains a parking, then the peer's successful SASLAuthenticate answer
on that very connection, and no parking of the request between that answer and the write. -/
theorem parked_request_written_only_after_reauthentication (h₁ h₂ : List Ev) (w : Waiter) (tp : Nat)
    (hacc : (run {} (h₁ ++ Ev.written w :: h₂)).isSome) (hp : Ev.park w.id tp ∈ h₁) :
    ∃ a b c tp' n l t, h₁ = a ++ Ev.park w.id tp' :: b ++ Ev.authEnd w.c n l t :: c ∧ c.any (isPark w.id) = false := by
  obtain ⟨s, hr, hchk, _, sinv⟩ := accepted_at hacc
  exact sinv.ready _ _ (List.contains_iff_mem.1
    ((check_written.1 hchk).ready (List.contains_iff_mem.2 (sinv.parkedMem _ _ hp))))

/-- No request is written twice (a parked request is replayed at most once). -/
theorem written_at_most_once (h : List Ev) (hacc : (run {} h).isSome) (i : Nat) : (writtenIds h).count i ≤ 1 := by
  obtain ⟨s, hr⟩ := Option.isSome_iff_exists.1 hacc
  exact List.nodup_iff_count.1 (writtenIds_nodup hr) i

/-- A request that gets a response (so it was not failed: e.g. a parked request after a clean drain) was written
exactly once. -/
theorem delivered_request_written_exactly_once (h : List Ev) (hacc : (run {} h).isSome) (i : Nat) (f : Int) (t : Nat)
    (hok : Ev.ok i f t ∈ h) : (writtenIds h).count i = 1 := by
  obtain ⟨s, hr⟩ := Option.isSome_iff_exists.1 hacc
  obtain ⟨h₁, h₂, s₁, rfl, hr₁, hchk⟩ := isMonitor.check_of_mem hr hok
  obtain ⟨_, _, he⟩ := check_ok hchk
  obtain ⟨w, hw, hwi, _⟩ := expectOf_deliver he
  rw [(writtenIds_nodup hr).count, if_pos]
  rw [writtenIds_append, ← (sinv_of_run hr₁).waiters]
  exact List.mem_append_left _ (List.mem_map.2 ⟨w, hw, hwi⟩)

/-- `parseFrame` never panics, for arbitrary bytes, limits, correlation ids and header kinds: the negative-size,
size-limit and length checks guard `make`, `buf[4:]` and `Uint32(buf)`. -/
theorem parseFrame_never_panics (maxRead corr : Nat) (flex closed : Bool) (stream : Bytes) :
    (parseFrame maxRead corr flex closed stream).res ≠ .panic := by
  rcases parseFrameWith_cases skipLoop maxRead corr flex closed stream with ⟨_, h, _⟩ | ⟨n, body, _, h⟩
  · exact h
  · rw [parseFrame, h]
    split
    · dsimp only
      split <;> nofun
    · nofun

/-- A response is accepted for the request with correlation id `corr` only if the frame carries exactly that id. -/
theorem accepted_frame_carries_correlation_id (maxRead corr : Nat) (flex closed : Bool) (stream body : Bytes)
    (h : (parseFrame maxRead corr flex closed stream).res = .deliver body) : u32? (stream.drop 4) = some corr :=
  deliver_carries_corr h

/-- Linear work for every header kind: at most two steps per byte of the stream (bytes read plus tag-loop
iterations; an iteration that leaves the reader valid consumes at least two bytes, the first failing one is the last). -/
theorem parseFrame_steps_linear (maxRead corr : Nat) (flex closed : Bool) (stream : Bytes) :
    (parseFrame maxRead corr flex closed stream).steps ≤ 2 * stream.length + 1 := by
  rcases parseFrameWith_cases skipLoop maxRead corr flex closed stream with ⟨h, _⟩ | ⟨n, body, ha, h⟩
  · exact Nat.le_trans h (by omega)
  · have hn := ha.complete
    have hb := ha.long
    rw [parseFrame, h]
    split
    · have hit := skipLoop_iters (rdUvarint ⟨body, false⟩).1 (rdUvarint ⟨body, false⟩).2
      have hlen : _ ≤ body.length := rdUvarint_length_le ⟨body, false⟩
      show 4 + n + _ ≤ _
      omega
    · show 4 + n ≤ _
      omega

/-- a 9-byte response (13 bytes with the size prefix): correlation id 1 and a flexible-header tag count of 2³²−1 -/
def tagWitness : Bytes := [0, 0, 0, 9, 0, 0, 0, 1, 0xff, 0xff, 0xff, 0xff, 0x0f]

/-- the repaired loop gives up after the first iteration (14 steps: 13 bytes and one iteration) and refuses the frame -/
theorem tagWitness_steps : (parseFrame 4096 1 true true tagWitness).steps = 14 := by decide
theorem tagWitness_refused : (parseFrame 4096 1 true true tagWitness).res = .short := by decide

/-- Whatever the tag loop, the witness enters it with a count of 2³²−1 and nothing left to read. -/
theorem tagWitness_steps_with (loop : Nat → Rd → Rd × Nat) :
    (parseFrameWith loop 4096 1 true true tagWitness).steps = 4 + 9 + (loop 4294967295 ⟨[], false⟩).2 := by rfl

/-- Record of the repaired defect: with the loop as it was (`num > 0` only) the step count was NOT linear in the
input, the tag loop ran as often as the input said: 4294967308 steps for the 13-byte witness. -/
theorem unrepaired_tag_loop_not_linear :
    ¬ ∀ stream : Bytes, (parseFrameUnrepaired 4096 1 true true stream).steps ≤ 16 * stream.length + 16 := by
  intro h
  have h1 := h tagWitness
  unfold parseFrameUnrepaired at h1
  rw [tagWitness_steps_with, skipLoopUnbounded_iters] at h1
  simp [tagWitness] at h1

/-- Two pipelined requests on connection 0 (correlation ids 1 and 2 after the handshake's 0), answered in order;
request 7's payload is frame 1, request 8's is frame 2. -/
example : accepts
    [.cfg 4096 1000 true false false false, .issue 7 0, .issue 8 0, .hsReq 0 0, .hsFrame 0 [0, 0, 0, 5, 0, 0, 0, 0, 9],
     .written ⟨0, 1, 7, false, 0⟩, .written ⟨0, 2, 8, false, 0⟩,
     .frame ⟨0, 1, [0, 0, 0, 5, 0, 0, 0, 1, 42], [0, 0, 0, 5, 0, 0, 0, 1, 42]⟩,
     .frame ⟨0, 2, [0, 0, 0, 5, 0, 0, 0, 2, 43], [0, 0, 0, 5, 0, 0, 0, 2, 43]⟩,
     .ok 8 2 1, .ok 7 1 1, .cpu 20, .quiesce] = true := by decide

/-- Swapped correlation ids: the first frame carries id 2; a delivery to either request is refused, errors are accepted. -/
example : accepts
    [.issue 7 0, .issue 8 0, .hsReq 0 0, .hsFrame 0 [0, 0, 0, 5, 0, 0, 0, 0, 9],
     .written ⟨0, 1, 7, false, 0⟩, .written ⟨0, 2, 8, false, 0⟩,
     .frame ⟨0, 1, [0, 0, 0, 5, 0, 0, 0, 2, 42], [0, 0, 0, 5, 0, 0, 0, 2, 42]⟩,
     .ok 8 1 1] = false := by decide
example : accepts
    [.issue 7 0, .issue 8 0, .hsReq 0 0, .hsFrame 0 [0, 0, 0, 5, 0, 0, 0, 0, 9],
     .written ⟨0, 1, 7, false, 0⟩, .written ⟨0, 2, 8, false, 0⟩,
     .frame ⟨0, 1, [0, 0, 0, 5, 0, 0, 0, 2, 42], [0, 0, 0, 5, 0, 0, 0, 2, 42]⟩,
     .ok 7 1 1] = false := by decide
example : accepts
    [.cfg 4096 1000 false false false false, .issue 7 0, .issue 8 0, .hsReq 0 0, .hsFrame 0 [0, 0, 0, 5, 0, 0, 0, 0, 9],
     .written ⟨0, 1, 7, false, 0⟩, .written ⟨0, 2, 8, false, 0⟩,
     .frame ⟨0, 1, [0, 0, 0, 5, 0, 0, 0, 2, 42], [0, 0, 0, 5, 0, 0, 0, 2, 42]⟩,
     .err 7 .mismatch 1, .err 8 .dead 1, .quiesce] = true := by decide

/-- A second outcome, a missing outcome, a delivery behind a negative size prefix, a wait beyond the timeout (1000 ms
and the monitor's 5 ms of slack): refused; a timeout on time is accepted. -/
example : accepts [.issue 7 0, .err 7 .dial 1, .err 7 .dial 1] = false := by decide
example : accepts [.issue 7 0, .quiesce] = false := by decide
example : accepts
    [.issue 7 0, .issue 8 0, .hsReq 0 0, .hsFrame 0 [0, 0, 0, 5, 0, 0, 0, 0, 9],
     .written ⟨0, 1, 7, false, 0⟩, .written ⟨0, 2, 8, false, 0⟩,
     .frame ⟨0, 1, [128, 0, 0, 5, 0, 0, 0, 1, 42], [128, 0, 0, 5, 0, 0, 0, 1, 42]⟩,
     .frame ⟨0, 2, [0, 0, 0, 5, 0, 0, 0, 2, 43], [0, 0, 0, 5, 0, 0, 0, 2, 43]⟩,
     .err 7 .negsize 1, .ok 8 2 1] = false := by decide
example : accepts
    [.cfg 4096 1000 false false false false, .issue 7 0, .hsReq 0 0, .hsFrame 0 [0, 0, 0, 5, 0, 0, 0, 0, 9],
     .written ⟨0, 1, 7, false, 0⟩, .err 7 .timeout 1006, .quiesce] = false := by decide
example : accepts
    [.cfg 4096 1000 false false false false, .issue 7 0, .hsReq 0 0, .hsFrame 0 [0, 0, 0, 5, 0, 0, 0, 0, 9],
     .written ⟨0, 1, 7, false, 0⟩, .err 7 .timeout 1000, .quiesce] = true := by decide

/-- SASL, clean drain: request 7 is in flight across the session expiry, request 8 is parked behind it; 7 is answered,
the client re-authenticates on connection 0 and replays 8, which is answered too. -/
example : accepts
    [.cfg 4096 3000 true false false true, .issue 7 800, .hsReq 0 0, .hsFrame 0 [0, 0, 0, 5, 0, 0, 0, 0, 9],
     .authBegin 0 1 800, .authEnd 0 1 2000 800, .written ⟨0, 3, 7, false, 800⟩, .issue 8 1900, .park 8 1900,
     .frame ⟨0, 1, [0, 0, 0, 5, 0, 0, 0, 3, 42], [0, 0, 0, 5, 0, 0, 0, 3, 42]⟩, .ok 7 1 2300,
     .authBegin 0 2 2300, .authEnd 0 2 2000 2300, .written ⟨0, 6, 8, false, 2300⟩,
     .frame ⟨0, 2, [0, 0, 0, 5, 0, 0, 0, 6, 43], [0, 0, 0, 5, 0, 0, 0, 6, 43]⟩, .ok 8 2 2300, .cpu 5, .quiesce] = true := by decide

/-- SASL, the connection is cut while 8 is parked: both fail once (accepted); a replay of the failed request 8 on a new
connection one millisecond later is refused, and so is a replay without re-authentication, a write inside the
authentication exchange, and a re-authentication that begins while the response to 7 is still outstanding. -/
example : accepts
    [.cfg 4096 3000 false false false true, .issue 7 800, .hsReq 0 0, .hsFrame 0 [0, 0, 0, 5, 0, 0, 0, 0, 9],
     .authBegin 0 1 800, .authEnd 0 1 2000 800, .written ⟨0, 3, 7, false, 800⟩, .issue 8 1900, .park 8 1900,
     .peerClose 0, .err 7 .eof 2300, .err 8 .dead 2300, .cpu 5, .quiesce] = true := by decide
example : accepts
    [.cfg 4096 3000 false false false true, .issue 7 800, .hsReq 0 0, .hsFrame 0 [0, 0, 0, 5, 0, 0, 0, 0, 9],
     .authBegin 0 1 800, .authEnd 0 1 2000 800, .written ⟨0, 3, 7, false, 800⟩, .issue 8 1900, .park 8 1900,
     .peerClose 0, .err 7 .eof 2300, .err 8 .dead 2300,
     .hsReq 1 0, .hsFrame 1 [0, 0, 0, 5, 0, 0, 0, 0, 9], .authBegin 1 1 2301, .authEnd 1 1 2000 2301,
     .written ⟨1, 3, 8, false, 2301⟩] = false := by decide
example : accepts
    [.cfg 4096 3000 false false false true, .issue 7 800, .hsReq 0 0, .hsFrame 0 [0, 0, 0, 5, 0, 0, 0, 0, 9],
     .authBegin 0 1 800, .authEnd 0 1 2000 800, .written ⟨0, 3, 7, false, 800⟩, .issue 8 1900, .park 8 1900,
     .frame ⟨0, 1, [0, 0, 0, 5, 0, 0, 0, 3, 42], [0, 0, 0, 5, 0, 0, 0, 3, 42]⟩, .ok 7 1 2300,
     .written ⟨0, 4, 8, false, 2300⟩] = false := by decide
example : accepts
    [.cfg 4096 3000 false false false true, .issue 7 800, .hsReq 0 0, .hsFrame 0 [0, 0, 0, 5, 0, 0, 0, 0, 9],
     .authBegin 0 1 800, .authEnd 0 1 2000 800, .written ⟨0, 3, 7, false, 800⟩, .issue 8 1900, .park 8 1900,
     .frame ⟨0, 1, [0, 0, 0, 5, 0, 0, 0, 3, 42], [0, 0, 0, 5, 0, 0, 0, 3, 42]⟩, .ok 7 1 2300,
     .authBegin 0 2 2300, .written ⟨0, 5, 8, false, 2300⟩] = false := by decide
example : accepts
    [.cfg 4096 3000 false false false true, .issue 7 800, .hsReq 0 0, .hsFrame 0 [0, 0, 0, 5, 0, 0, 0, 0, 9],
     .authBegin 0 1 800, .authEnd 0 1 2000 800, .written ⟨0, 3, 7, false, 800⟩, .issue 8 1900, .park 8 1900,
     .authBegin 0 2 2300] = false := by decide

end Props.C22
