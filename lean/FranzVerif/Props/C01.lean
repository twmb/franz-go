import FranzVerif.Model.Producer
import FranzVerif.Proof.Producer
import FranzVerif.Proof.ProducerFacts
/-! C01 — every produced record's promise runs exactly once (theorems over *all* accepted histories
of the producer monitor `Model.Producer`; the tie to the code is the history correspondence of
`harness/cmd/sim` (`prod_test.go`): every history of the real client must be accepted). -/
namespace Props.C01
open Model.Producer Proof.Producer

/-- (a) No promise is ever called twice: in every accepted history (any length, any interleaving)
each record id has at most one promise event. -/
theorem promise_at_most_once (c : Cfg) (h : List Ev) (s : St) (hacc : run c {} h = some s) (id : Id) :
    (promisesOf id h).length ≤ 1 := by
  have hi := inv_of_run hacc
  cases hfd : find s.recs id with
  | none => simp [(hi.recNone id hfd).promisesOf]
  | some r =>
    rw [(hi.recSome id r hfd).hprom]
    cases r.promised <;> simp

/-- (b) No promise is called for anything else: a promise event for `id` is always preceded by the
call that produced `id`. -/
theorem promise_only_for_produced (c : Cfg) (h₁ h₂ : List Ev) (id : Id) (e : Err)
    (hacc : (run c {} (h₁ ++ Ev.promise id e :: h₂)).isSome) : called id h₁ = true := by
  obtain ⟨s₁, h1, hchk⟩ := (isMonitor c).split_isSome hacc
  obtain ⟨r, hfd⟩ := find_of_check hchk rfl rfl
  exact ((inv_of_run h1).recSome id r hfd).hcalled

/-- (c)+(d) Exactly once, eventually: if a history is accepted up to and including a quiescent
point (nothing can run any more — with Close or without), then every produced record has had its
promise called exactly once, the buffered gauges are zero, and every Flush that began has returned. -/
theorem quiescent_exactly_once (c : Cfg) (h : List Ev) (n b : Nat) (s : St)
    (hacc : run c {} (h ++ [Ev.quiesce n b]) = some s) :
    (∀ id, called id h = true → (promisesOf id h).length = 1) ∧ n = 0 ∧ b = 0 ∧
    (∀ k, Ev.flushStart k ∈ h → ∃ ok, Ev.flushEnd k ok ∈ h) := by
  obtain ⟨s₁, hi, hq⟩ := at_quiesce hacc
  refine ⟨?_, hq.gauges.1, hq.gauges.2, hi.flush_returned hq.flushes⟩
  · intro id hc
    cases hfd : find s₁.recs id with
    | none => rw [(hi.recNone id hfd).called] at hc; cases hc
    | some r =>
      rw [(hi.recSome id r hfd).hprom]
      obtain ⟨e, he⟩ := Option.isSome_iff_exists.1 (hq.promised hfd)
      simp [he]

/-- Non-vacuity: a small concurrent history with a blocked producer, a failed TryProduce and a Flush is accepted. -/
example : accepts { maxRecs := 1, maxBytes := 0, manual := false }
    [.call 1 .produce 3, .hookB 1, .admit 1 1 3 3, .ret 1,
     .call 2 .produce 2, .hookB 2, .block 2,
     .call 3 .try_ 1, .hookB 3, .ret 3, .hookU 3 ⟨.maxBuffered, 7⟩, .promise 3 ⟨.maxBuffered, 7⟩,
     .flushStart 1,
     .hookU 1 .ok, .promise 1 .ok, .release 1 0 0,
     .unblock 2, .admit 2 1 2 2, .ret 2, .hookU 2 .ok, .promise 2 .ok, .release 2 0 0,
     .flushEnd 1 true, .closeStart, .closeEnd, .quiesce 0 0] = true := by decide

end Props.C01
