import FranzVerif.Model.C35
import FranzVerif.Spec.C35
import FranzVerif.Proof.C35
/-! C35 — property theorems: kadm group lag is computed exactly.

`runOut inp` is the model of `CalculateGroupLagWithStartOffsets(group, commit, start, end)` followed by
reading every `GroupMemberLag`, `TotalByTopic()` and `Total()`; `CalculateGroupLag` is `start = []`.
The model is tied to /repo by the differential run of `./check C35` (tie D).  All theorems quantify
over every input: any number of members (none: an empty group), consumer and non-consumer
assignments, duplicates inside and across members, any commit set, any listed start/end offsets with
arbitrary missing entries and errors, any offsets (unbounded integers).

The property, sentence by sentence (`Spec/C35.lean` has the words ↦ definitions dictionary):
  S1  each partition that is assigned to a member or committed by the group is reported exactly once;
  S2  its lag is end − committed, or end − start (else end) when nothing is committed, floored at 0;
  S3  the lag is −1 with a non-nil error exactly when the end offset is missing or errored or the commit errored;
  S4  totals equal the sum of the non-negative lags.
S1–S4 are proved at full strength for the partitions S1 speaks of (`…_in_scope`, `spec_scope_holds`).
`GroupMemberLag`'s doc comment promises S2/S3 of *every* reported lag, including partitions that are
only known from the listed end offsets (third pass). Read that way S3 is FALSE of the current code
(`lag_law_every_row_false`); what holds is `lag_law_every_row_partial`. -/
namespace Props.C35
open Model.C35 Spec.C35 Proof.C35

/-- S1 (coverage): every partition some consumer-type member is assigned, and every partition the
commit responses have an entry for, is reported. -/
theorem reports_every_assigned_or_committed (inp : Input) (t : Nat) (p : Int)
    (h : assignedIn inp t p = true ∨ committedIn inp t p = true) :
    ∃ r ∈ (runOut inp).rows, r.topic = t ∧ r.part = p := by
  have hs : inScope inp t p = true := by simpa [inScope] using h
  have := hasRow_of_has inp t p ((run_good_cov inp).2 t p hs)
  simpa [hasRow] using this

/-- S1 (exactly once): no two reported rows are for the same topic and partition. -/
theorem reports_exactly_once (inp : Input) : ((runOut inp).rows.map (fun r => (r.topic, r.part))).Nodup := by
  rw [row_keys_eq]; exact (run_good_cov inp).1.nodup

/-- S2+S3 in executable form, for every reported partition that is assigned or committed. -/
theorem lag_law_in_scope (inp : Input) (r : Row) (hr : r ∈ (runOut inp).rows)
    (hs : inScope inp r.topic r.part = true) : rowLaw inp r = true :=
  origin_law_scope inp r (row_origin inp r hr) hs

/-- S2: when the end offset is listed without error and the commit (if any) has no error, the lag is
end − committed offset if something is committed, else end − start if a start offset is listed
without error, else the end offset; negative values are reported as 0; and the error is nil. -/
theorem lag_formula_in_scope (inp : Input) (r : Row) (hr : r ∈ (runOut inp).rows)
    (hs : inScope inp r.topic r.part = true) (hb : bad inp r.topic r.part = false) :
    r.lag = expectLag inp r.topic r.part ∧ 0 ≤ r.lag ∧ r.err = 0 := by
  have h := lag_law_in_scope inp r hr hs
  simp only [rowLaw, hb, Bool.false_eq_true, if_false, Bool.and_eq_true, beq_iff_eq] at h
  refine ⟨h.1, ?_, h.2⟩
  rw [h.1]; unfold expectLag; simp only; split <;> omega

/-- S3: the lag is −1 with a non-nil error exactly when the end offset is missing or errored or the
commit errored. -/
theorem minus_one_with_error_iff_in_scope (inp : Input) (r : Row) (hr : r ∈ (runOut inp).rows)
    (hs : inScope inp r.topic r.part = true) :
    (r.lag = -1 ∧ r.err ≠ 0) ↔ bad inp r.topic r.part = true := by
  have h := lag_law_in_scope inp r hr hs
  cases hb : bad inp r.topic r.part with
  | true => simpa [rowLaw, hb] using h
  | false =>
    have := lag_formula_in_scope inp r hr hs hb
    simp; intro h1; omega

/-- S4: `Total()` is the sum of the non-negative lags of all reported partitions, every entry of
`TotalByTopic()` is that sum over the topic's partitions, every topic with a reported partition has
exactly one entry. -/
theorem totals_are_sums_of_nonneg_lags (inp : Input) :
    (runOut inp).total = sumBy nonneg (runOut inp).rows ∧
    (∀ tv ∈ (runOut inp).byTopic, tv.2 = sumBy (fun r => if r.topic = tv.1 then nonneg r else 0) (runOut inp).rows) ∧
    (∀ r ∈ (runOut inp).rows, r.topic ∈ keys (runOut inp).byTopic) ∧
    (keys (runOut inp).byTopic).Nodup := by
  have hg := (run_good_cov inp).1
  rw [runOut_eq]
  generalize run inp = l at hg ⊢
  simp only [keys_totalByTopic]
  refine ⟨total_eq _ hg.tnodup hg.tcover, ?_, ?_, hg.tnodup⟩
  · intro tv htv
    obtain ⟨t, _, e⟩ := List.mem_map.1 htv
    subst e
    exact topicLag_eq _ (fun kr hkr => (hg.keyok kr hkr).1) t
  · intro r hr
    obtain ⟨kr, hkr, e⟩ := List.mem_map.1 hr
    subst e
    rw [(hg.keyok kr hkr).1]
    exact hg.tcover kr hkr

/-- The executable Spec the driver evaluates on the implementation's output holds of the model for
every input (S1–S4 as written in the property). -/
theorem spec_scope_holds (inp : Input) : specScope inp (runOut inp) = true := by
  have hcov := (run_good_cov inp).2
  have ht := totals_are_sums_of_nonneg_lags inp
  simp only [specScope, Bool.and_eq_true]
  refine ⟨⟨⟨?_, ?_⟩, ?_⟩, ?_⟩
  · simp only [covers, Bool.and_eq_true, List.all_eq_true, Bool.or_eq_true, Bool.not_eq_true']
    refine ⟨?_, ?_⟩
    · intro m hm
      cases hac : m.assignedConsumer with
      | false => exact Or.inl rfl
      | true =>
        exact Or.inr fun tp htp p hp => hasRow_of_has inp tp.1 p (hcov tp.1 p (inScope_of_assigned inp hm hac htp hp))
    · intro tps _ pc _
      cases hc : committedIn inp tps.1 pc.1 with
      | false => exact Or.inl rfl
      | true => exact Or.inr (hasRow_of_has inp _ _ (hcov _ _ (by simp [inScope, hc])))
  · simp only [once]; rw [nodupB_iff]; exact reports_exactly_once inp
  · simp only [List.all_eq_true, Bool.or_eq_true, Bool.not_eq_true']
    intro r hr
    cases hs : inScope inp r.topic r.part with
    | false => exact Or.inl rfl
    | true => exact Or.inr (lag_law_in_scope inp r hr hs)
  · simp only [totalsOK, Bool.and_eq_true, List.all_eq_true, beq_iff_eq, List.contains_eq_mem, decide_eq_true_eq]
    exact ⟨⟨⟨ht.1, ht.2.1⟩, ht.2.2.1⟩, (nodupB_iff _).2 ht.2.2.2⟩

/-! ### S2/S3 read for every reported `GroupMemberLag`

Full statement (what the doc comment of `GroupMemberLag` promises):
  `∀ inp, endsNonNeg inp → ∀ r ∈ (runOut inp).rows, rowLaw inp r = true`.
It is false (`lag_law_every_row_false`). Proved: the same with the class `thirdPassErrStart` excluded.
`endsNonNeg` (an end offset listed without error is ≥ 0) is needed because the third pass does not
floor a bare end offset; the harness runs that excluded point too and reports it in the evidence. -/

theorem lag_law_every_row_partial (inp : Input) (hnn : endsNonNeg inp = true) (r : Row)
    (hr : r ∈ (runOut inp).rows) (hx : thirdPassErrStart inp r.topic r.part = false) : rowLaw inp r = true :=
  origin_law_all inp hnn r (row_origin inp r hr) hx

theorem spec_all_partial (inp : Input) (hnn : endsNonNeg inp = true)
    (hx : ∀ t p, thirdPassErrStart inp t p = false) : specAll inp (runOut inp) = true := by
  simp only [specAll, List.all_eq_true]
  exact fun r hr => lag_law_every_row_partial inp hnn r hr (hx _ _)

/-- What the code does on the excluded class, for every input: the reported row carries the error
and a lag ≥ 0 (so the driver's key `lag-nonneg-with-err-third-pass` names exactly this class). -/
theorem excluded_class_reports_nonneg_lag_with_error (inp : Input) (r : Row) (hr : r ∈ (runOut inp).rows)
    (hx : thirdPassErrStart inp r.topic r.part = true) : r.err ≠ 0 ∧ 0 ≤ r.lag ∧ rowLaw inp r = false := by
  have h := origin_excluded inp r (row_origin inp r hr) hx
  refine ⟨h.1, h.2, ?_⟩
  have hb : bad inp r.topic r.part = true := by
    simp only [thirdPassErrStart, Bool.and_eq_true] at hx
    unfold bad
    cases he : get2 inp.end_ r.topic r.part with
    | none => simp
    | some e => rw [he] at hx; simp [hx.1.2]
  simp only [rowLaw, hb, if_true]
  have : r.lag ≠ -1 := by omega
  simp [this]

/-- One member that only *joined* topic 0 (nothing assigned), nothing committed, start offset of 0/0
listed as 2 without error, end offset of 0/0 listed as 10 *with* an error. -/
def witness : Input :=
  ⟨[⟨true, [], true, [0]⟩], [], [(0, [(0, ⟨2, 0⟩)])], [(0, [(0, ⟨10, 4⟩)])]⟩

/-- What the code reports there: lag 8 with the error set (and 8 goes into the totals). -/
theorem witness_result :
    runOut witness = ⟨[⟨-1, 0, 0, -1, -1, ⟨2, 0⟩, ⟨10, 4⟩, 8, 4⟩], [(0, 8)], 8⟩ := by decide

/-- The full clause is false of the code as it is. -/
theorem lag_law_every_row_false :
    ¬ ∀ inp : Input, endsNonNeg inp = true → specAll inp (runOut inp) = true := by
  intro h
  have h1 := h witness (by decide)
  revert h1
  decide

/-- Two members assigned the same partition 0/0 (commit 3, end 10 → lag 7, the later member wins),
0/1 assigned with commit 20 beyond end 10 (→ 0), 0/2 committed with an error and not assigned
(→ −1), 1/0 assigned with a missing end (→ −1), 1/1 assigned, uncommitted, start 4 end 9 (→ 5). -/
def sample : Input :=
  ⟨[⟨true, [(0, [0, 1])], true, [0]⟩, ⟨true, [(0, [0]), (1, [0, 1])], true, [0, 1]⟩],
   [(0, [(0, ⟨3, 1, 0⟩), (1, ⟨20, 1, 0⟩), (2, ⟨5, 1, 2⟩)])],
   [(1, [(1, ⟨4, 0⟩)])],
   [(0, [(0, ⟨10, 0⟩), (1, ⟨10, 0⟩), (2, ⟨10, 0⟩)]), (1, [(1, ⟨9, 0⟩)])]⟩

example : (runOut sample).rows.map (fun r => (r.topic, r.part, r.member, r.lag, r.err))
    = [(0, 0, 1, 7, 0), (0, 1, 0, 0, 0), (1, 0, 1, -1, 1), (1, 1, 1, 5, 0), (0, 2, -1, -1, 2)] := by decide
example : (runOut sample).total = 12 ∧ (runOut sample).byTopic = [(0, 7), (1, 5)] := by decide
example : inScope sample 0 2 = true ∧ bad sample 0 2 = true ∧ bad sample 1 1 = false ∧ endsNonNeg sample = true
    ∧ (∀ t ∈ [0, 1], ∀ p ∈ [0, 1, 2], thirdPassErrStart sample t p = false) := by decide
example : thirdPassErrStart witness 0 0 = true ∧ endsNonNeg witness = true ∧ specScope witness (runOut witness) = true := by decide

end Props.C35
