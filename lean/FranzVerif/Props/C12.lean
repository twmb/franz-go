import FranzVerif.Model.C12
import FranzVerif.Spec.C12
import FranzVerif.Proof.C12
import FranzVerif.Model.Share
import FranzVerif.Proof.Share
/-! C12 — share-group acknowledgements. PURE HALF: the per-record ack state machine (`tryAck`), the ack
range builder (`buildAckRanges` / `coalesceAppendRange`) and the staleness filter (`filterStaleEntries`), model `Model.C12`.
PROTOCOL HALF (section `Protocol` at the end): theorems over the histories the share-group monitor `Model.Share` accepts.

Property text: "each delivered record is acknowledged to the broker at most once with a final outcome …
Acknowledgement batches sent for a partition are in ascending, non-overlapping offset order" (all mixes of
pending user acknowledgements and gap ranges for a partition).

The range clause is proved at full strength (`build_spec`):
    ∀ es gs, wfInput es gs → specBuild es gs (buildAckRanges es gs).1 (buildAckRanges es gs).2
i.e. ascending and non-overlapping ∧ every offset once with its type ∧ renew flag. The model is the loop of /repo as
repaired by 5958f14 (gap ranges are taken into the entry loop by first offset; emitting the user-entry ranges first and the gap
ranges afterwards made `ascending` false: entries {10,11 accept} + gap [5,9] gave [10,11],[5,9] — the witness is a regression
`example` below and in corpus/C12) and by 4fd6241 (the sorted gap ranges are merged first, `mergeGaps`, so the input may repeat
or overlap gap ranges).
-/
namespace Props.C12
open Model.C12 Spec.C12 Proof.C12

/-- Any number of concurrent callers, any interleaving of their Load/CAS operations and of renew resets:
at most one call returns `true` for a final (accept/release/reject) status. -/
theorem tryAck_terminal_at_most_once {s : TSt} (h : Reachable s) : termWinners s ≤ 1 := by
  have := (inv_reachable h).count
  split at this <;> omega

/-- The state is final exactly when one such call has won. -/
theorem tryAck_terminal_iff_winner {s : TSt} (h : Reachable s) : isTerminal s.status = true ↔ termWinners s = 1 := by
  rw [(inv_reachable h).count]
  cases isTerminal s.status <;> simp

/-- The final status is the winner's argument. -/
theorem tryAck_winner_is_final {s : TSt} (h : Reachable s) (t : Thread) (ht : t ∈ s.threads)
    (hw : isTermWinner t = true) : s.status = t.status :=
  (inv_reachable h).winner t ht hw

/-- A final status is never changed again, by any action. -/
theorem tryAck_terminal_absorbing {s s' : TSt} (h : Reachable s) (hterm : isTerminal s.status = true) (a : Act)
    (hs : tstep s a = some s') : s'.status = s.status := by
  have hne : s.status ≠ 0 ∧ s.status ≠ 4 := by
    have := (isTerminal_iff _).1 hterm; omega
  rcases tstep_cases hs with ⟨_, _, -, -, rfl⟩ | ⟨-, rfl⟩ | ⟨i, t, sh, pc, -, hti, hts, rfl⟩
  · rfl
  · exact if_neg hne.2
  · -- a thread changes the status only by a CAS from 0 or 4
    rcases (threadStep_cases hts (fun cur hc => ((inv_reachable h).loaded t (List.mem_of_getElem? hti) cur hc).1)).2 with
      ⟨rfl, _⟩ | ⟨_, _, h04⟩
    · rfl
    · omega

/-- The observable results of the calls that have returned satisfy the executable Spec
(`specTryAck`, the predicate the driver evaluates on the real code's results). -/
theorem tryAck_spec {s : TSt} (h : Reachable s) : specTryAck 0 (returned s) s.status = true := by
  have hinv := inv_reachable h
  have hcount := hinv.count
  have hd := hinv.dom
  simp only [termWinners, List.countP_eq_length_filter] at hcount
  have h0 : isTerminal 0 = false := rfl
  simp only [specTryAck, h0, Bool.false_eq_true, if_false, Bool.and_eq_true, decide_eq_true_eq, returned, wins_eq,
    List.length_map]
  refine ⟨by rw [hcount]; split <;> omega, ?_⟩
  cases hw : s.threads.filter isTermWinner with
  | nil =>
    have hnt : ¬ isTerminal s.status = true := fun ht => by simp [hw, ht] at hcount
    rw [isTerminal_iff] at hnt
    simp only [List.map_nil, Bool.or_eq_true, beq_iff_eq]
    omega
  | cons t ts =>
    have ht := List.mem_filter.1 (hw ▸ List.mem_cons_self : t ∈ s.threads.filter isTermWinner)
    simpa using hinv.winner t ht.1 ht.2

/-- Run alone (no interference), `tryAck` is the atomic function the driver folds for the sequential ops:
at most two shared-memory operations, same result and same new status. -/
theorem tryAck_alone_atomic (cur st : Int) (strict : Bool) (hv : validStatus st = true)
    (hc : cur = 0 ∨ cur = 1 ∨ cur = 2 ∨ cur = 3 ∨ cur = 4) :
    ∃ n, n ≤ 2 ∧ runActs ⟨cur, [⟨st, strict, .start⟩]⟩ (List.replicate n (.step 0)) =
      some ⟨(tryAckAtomic cur st strict).1, [⟨st, strict, .done (tryAckAtomic cur st strict).2⟩]⟩ := by
  by_cases hsr : (strict || st == 4) = true
  · refine ⟨1, by omega, ?_⟩
    by_cases h0 : cur = 0 <;> simp [runActs, tstep, threadStep, tryAckAtomic, hsr, h0]
  · have hsr' : strict = false ∧ st ≠ 4 := by simp at hsr; exact hsr
    by_cases hterm : cur ≠ 0 ∧ cur ≠ 4
    · refine ⟨1, by omega, ?_⟩
      simp [runActs, tstep, threadStep, tryAckAtomic, hsr'.1, hsr'.2, hterm]
    · refine ⟨2, by omega, ?_⟩
      have : cur = 0 ∨ cur = 4 := by omega
      rcases this with h | h <;> simp [runActs, tstep, threadStep, tryAckAtomic, hsr'.1, hsr'.2, h]

/-- Non-vacuity: three callers (accept, reject, renew) interleaved so that the renew lands first, both
terminal callers load `AckRenew`, accept wins its CAS, reject's CAS fails and its retry sees the final
status: one winner, final status accept. -/
example : (runActs {} [.spawn 1 false, .spawn 3 false, .spawn 4 false, .step 2, .step 0, .step 1, .step 0, .step 1, .step 1]).map
    (fun s => (s.status, termWinners s, s.threads.map (·.pc))) = some (1, 1, [.done true, .done false, .done true]) := by
  decide

/-- Appending with coalescing changes neither which offsets are covered nor their ack types. -/
theorem coalesce_preserves_coverage (out : List Range) (r : Range) (o : Int) (hout : ∀ x ∈ out, x.first ≤ x.last)
    (hr : r.first ≤ r.last) : cov (coalesceAppendRange out r) o = cov (out ++ [r]) o := by
  have : r :: out.reverse = (out ++ [r]).reverse := by simp
  rw [coalesceAppendRange, cov_reverse, cov_coalesceRev _ r o (by simpa using hout) hr, this, cov_reverse,
    List.reverse_reverse]

/-- … in the executable form the driver evaluates. -/
theorem coalesce_spec (out : List Range) (r : Range) (hout : ∀ x ∈ out, x.first ≤ x.last) (hr : r.first ≤ r.last) :
    specCoalesce out r (coalesceAppendRange out r) = true := by
  simp only [specCoalesce, List.all_eq_true, beq_iff_eq]
  intro o _
  exact coalesce_preserves_coverage out r o hout hr

/-- **Ordering, full strength.** For every well-formed input — gap ranges may repeat or overlap (repair 4fd6241
merges them); what `wfInput` still asks is `first ≤ last`, type gap/release, overlapping gap ranges of one type, and
no decided user entry inside a gap range — the batch list is ascending and non-overlapping (every range
`first ≤ last`, every range ends strictly before every later one starts). -/
theorem build_ascending (es : List Entry) (gs : List Range) (hwf : wfInput es gs = true) :
    ascending (buildAckRanges es gs).1 = true :=
  (ascending_iff _).2 (build_ascList ((wfInput_iff es gs).1 hwf))

/-- For every offset: at most one batch covers it, the batch's type is one the pending input asked for
at that offset (gaps stay gaps), and every offset the input asked for is covered. -/
theorem build_coverage (es : List Entry) (gs : List Range) (hwf : wfInput es gs = true) (o : Int) :
    pointOK es gs (buildAckRanges es gs).1 o = true := by
  have h := (wfInput_iff es gs).1 hwf
  simp only [pointOK, Bool.and_eq_true, decide_eq_true_eq, List.all_eq_true, List.contains_iff_mem, Bool.or_eq_true,
    List.isEmpty_iff, Bool.not_eq_true', List.isEmpty_eq_false_iff_exists_mem]
  refine ⟨⟨cov_length_le_one (build_ascList h) o, fun t ht => ?_⟩, ?_⟩
  · rcases (mem_cov_build h o t).1 ht with ⟨e, he, ho, hst⟩ | hg
    · exact mem_covIn.2 (Or.inl ⟨e, (emittedOf_mem h e he).1, (emittedOf_mem h e he).2, ho, hst⟩)
    · exact mem_covIn.2 (Or.inr hg)
  · by_cases hin : covIn es gs o = []
    · exact Or.inl hin
    · obtain ⟨t, ht⟩ := List.exists_mem_of_ne_nil _ hin
      rcases mem_covIn.1 ht with ⟨e, he, hl, ho, _⟩ | hg
      · -- the offset of a decided entry is emitted, by the first decided entry at that offset
        obtain ⟨x, hx, hxo⟩ := emittedOf_complete h e he hl
        exact Or.inr ⟨x.status, (mem_cov_build h o _).2 (Or.inl ⟨x, hx, hxo.trans ho, rfl⟩)⟩
      · exact Or.inr ⟨t, (mem_cov_build h o t).2 (Or.inr hg)⟩

theorem build_coverageOK (es : List Entry) (gs : List Range) (hwf : wfInput es gs = true) :
    coverageOK es gs (buildAckRanges es gs).1 = true := by
  simp only [coverageOK, List.all_eq_true]
  intro o _
  exact build_coverage es gs hwf o

/-- `hasRenew` (the request's `IsRenewAck`) is set exactly when a renew batch is emitted. -/
theorem build_renew_flag (es : List Entry) (gs : List Range) (hwf : wfInput es gs = true) :
    renewOK (buildAckRanges es gs).1 (buildAckRanges es gs).2 = true := by
  have h := (wfInput_iff es gs).1 hwf
  rw [renewOK, beq_iff_eq, build_snd, Bool.eq_iff_iff]
  simp only [List.any_eq_true, beq_iff_eq]
  constructor
  · rintro ⟨e, he, hs⟩
    obtain ⟨r, hr, _, _, hty⟩ := mem_cov.1 ((mem_cov_build h e.offset 4).2 (Or.inl ⟨e, he, rfl, hs⟩))
    exact ⟨r, hr, hty⟩
  · rintro ⟨x, hx, hty⟩
    -- a renew batch covers its first offset with type 4, which no gap range has
    rcases (mem_cov_build h x.first 4).1 (mem_cov.2 ⟨x, hx, Int.le_refl _, (build_ascList h).2 x hx, hty⟩) with
      ⟨e, he, _, hs⟩ | hg
    · exact ⟨e, he, hs⟩
    · obtain ⟨g, hg, _, _, hgt⟩ := mem_cov.1 hg
      have := (h.gaps g hg).2
      omega

/-- **The property's range clause, in the executable form the driver evaluates on the real code:**
ascending and non-overlapping, each offset exactly once with its ack type (gaps as gaps), renew flag exact. -/
theorem build_spec (es : List Entry) (gs : List Range) (hwf : wfInput es gs = true) :
    specBuild es gs (buildAckRanges es gs).1 (buildAckRanges es gs).2 = true := by
  simp only [specBuild, Bool.and_eq_true]
  exact ⟨⟨build_ascending es gs hwf, build_coverageOK es gs hwf⟩, build_renew_flag es gs hwf⟩

/-- Regression (finding ackranges-gaps-after-entries, repaired by 5958f14): pending accepts for offsets 10
and 11 with a gap range [5,9] below them; the defect gave [10,11],[5,9]. -/
example : (buildAckRanges [⟨10, 1, 0, 1⟩, ⟨11, 1, 0, 1⟩] [⟨5, 9, 0, 1, 0⟩]).1 = [⟨5, 9, 0, 1, 0⟩, ⟨10, 11, 0, 1, 1⟩] := by
  have h1 : sortEntries [⟨10, 1, 0, 1⟩, ⟨11, 1, 0, 1⟩] = [⟨10, 1, 0, 1⟩, ⟨11, 1, 0, 1⟩] :=
    List.mergeSort_of_pairwise (by simp)
  have h2 : sortGaps [⟨5, 9, 0, 1, 0⟩] = [⟨5, 9, 0, 1, 0⟩] := List.mergeSort_of_pairwise (by simp)
  simp only [buildAckRanges, h1, h2, mergeGaps]
  decide

/-- Regression (finding wire-gap-batch-duplicated, repaired by 4fd6241): the gap range [16,16] queued twice (a
requeued gap acknowledgement and the gap of the re-acquisition), overlapping release ranges, and an accept above
them: a well-formed input, each offset acknowledged once. -/
example : wfInput [⟨30, 1, 0, 2⟩] [⟨16, 16, 0, 1, 0⟩, ⟨16, 16, 0, 2, 0⟩, ⟨20, 24, 0, 1, 2⟩, ⟨22, 27, 0, 2, 2⟩] = true := by decide

example : mergeGaps [⟨16, 16, 0, 1, 0⟩, ⟨16, 16, 0, 2, 0⟩, ⟨20, 24, 0, 1, 2⟩, ⟨22, 27, 0, 2, 2⟩] =
    [⟨16, 16, 0, 1, 0⟩, ⟨20, 27, 0, 1, 2⟩] := by
  simp [mergeGaps]

/-- Non-vacuity: out-of-order acks with a renew-then-accept duplicate, an undecided entry, a release run, a gap
between the entries and one above them: a well-formed input with a gap below an entry. -/
example : wfInput [⟨7, 2, 0, 1⟩, ⟨5, 1, 0, 1⟩, ⟨3, 1, 0, 1⟩, ⟨5, 1, 0, 1⟩, ⟨8, 0, 0, 1⟩] [⟨9, 12, 0, 1, 0⟩, ⟨4, 4, 0, 1, 0⟩] = true ∧
    gapBelowEntry [⟨7, 2, 0, 1⟩, ⟨5, 1, 0, 1⟩, ⟨3, 1, 0, 1⟩, ⟨5, 1, 0, 1⟩, ⟨8, 0, 0, 1⟩] [⟨9, 12, 0, 1, 0⟩, ⟨4, 4, 0, 1, 0⟩] = true := by
  decide

/-- The entries kept for a request of source `self` in session `epoch` are exactly those fetched from this
source at an epoch not above the current one, in order; the counters add up; the reported error is that of the
first dropped entry (later epoch: InvalidShareSessionEpoch, other source: InvalidRecordState). -/
theorem filterStale_entries (self epoch : Int) (es : List Entry) :
    specStaleEntries self epoch es (filterEntries self epoch es).1 (filterEntries self epoch es).2.2.2 = true ∧
    (filterEntries self epoch es).2.1 = (filterEntries self epoch es).1.length ∧
    (filterEntries self epoch es).2.1 + (filterEntries self epoch es).2.2.1 = es.length := by
  have := List.length_filter_le (fun e => deliverable self epoch e.source e.epoch) es
  simp only [filterEntries_eq, specStaleEntries, BEq.rfl, Bool.and_self, true_and]
  omega

theorem filterStale_gaps (self epoch : Int) (gs : List Range) :
    specStaleGaps self epoch gs (filterGaps self epoch gs) = true := by
  simp only [specStaleGaps, beq_iff_eq]
  exact filterGaps_eq self epoch gs

/-- Non-vacuity: one deliverable entry, one from another source, one from a later epoch. -/
example : filterEntries 0 2 [⟨5, 1, 0, 1⟩, ⟨6, 1, 1, 1⟩, ⟨7, 1, 0, 3⟩] = ([⟨5, 1, 0, 1⟩], 1, 2, some .state) := by
  decide

/-! ## Protocol half: theorems over all accepted histories of `Model.Share`

An accepted history is any event list the monitor does not refuse (`run (init lock) h = some s`); the history
correspondence (real share-group members of this tree x real kfake in synctest bubbles) is what says the
implementation's histories are accepted. `stateAt lock h₁` are the monitor's ledgers after the prefix `h₁`:
`pend` the final decisions made through the API that are not yet resolved (stage 0 unsent, 1 carried by a
request, 2 that request answered without error), `confirmed` the accept/reject decisions whose request was
answered without error and whose callback then reported no error, `openRecs` the records handed to the
application without a final decision, `uncalled` the acknowledgements whose callback has not run. -/
section Protocol
open Model.Share Proof.Share

/-- **Ack batches per partition are ascending and non-overlapping on the wire.** In every accepted history, the
acknowledgement batches of any one request for any one partition, in wire order, each end strictly before every
later one starts, and each is `first ≤ last`. -/
theorem share_wire_batches_ascending (lock : Nat) (h : List Ev) (s : St) (hacc : Model.Share.run (Model.Share.init lock) h = some s) (rid part : Nat) :
    (batchesOf rid part h).Pairwise (fun a b => a.last < b.first) ∧ ∀ b ∈ batchesOf rid part h, b.first ≤ b.last := by
  have hi := ascInv_of_run hacc rid part
  rw [batches_eq hacc, List.filter_reverse] at hi
  exact ⟨List.pairwise_reverse.1 hi.1, fun b hb => hi.2 b (List.mem_reverse.2 hb)⟩

/-- **At most one final acknowledgement per delivery reaches the broker.** Whenever an accept or reject batch
goes on the wire, every offset of it is backed by a final decision the member made through the API that no
earlier request carries (a decision moves to `stage 1` when a request carries it and only comes back when that
request is answered with an error, its response is lost with the connection, or an error callback runs for the
partition); and, unless the backing decision is `lost` (an error callback ran for its partition, or a final batch
covered its offset without carrying it), the batch's type is that of an unsent decision for that offset. -/
theorem share_final_ack_backed (lock : Nat) (h₁ h₂ : List Ev) (m rid part first last ty t : Nat) (s : St)
    (hacc : Model.Share.run (Model.Share.init lock) (h₁ ++ Ev.wireAck m rid part first last ty t :: h₂) = some s) (hty : ty = 1 ∨ ty = 3) :
    ∀ o, first ≤ o → o ≤ last →
      ∃ p ∈ (stateAt lock h₁).pend, p.m = m ∧ p.part = part ∧ p.off = o ∧ p.stage = 0 ∧
        (p.lost = false → ∃ q ∈ (stateAt lock h₁).pend, q.m = m ∧ q.part = part ∧ q.off = o ∧ q.stage = 0 ∧ q.st = ty) := by
  obtain ⟨_, _, hu, htd⟩ := check_wireAck (check_stateAt hacc)
  intro o ho1 ho2
  obtain ⟨p, hp, hpm, hpp, hpo, hps⟩ := backed_of_unbacked hu hty ho1 ho2
  refine ⟨p, hp, hpm, hpp, hpo, hps, fun hlost => ?_⟩
  simpa only [hpo] using typed_of_typeDiffers htd hty hp hpm hpp (hpo ▸ ho1) (hpo ▸ ho2) hps hlost

/-- **A record whose accept or reject was confirmed without error is never redelivered.** No acquisition of an
offset is handed out at a (virtual) time strictly after the time its accept/reject was confirmed. -/
theorem share_confirmed_never_reacquired (lock : Nat) (h₁ h₂ : List Ev) (m part first last dc t : Nat) (s : St)
    (hacc : Model.Share.run (Model.Share.init lock) (h₁ ++ Ev.acquired m part first last dc t :: h₂) = some s) :
    ∀ c ∈ (stateAt lock h₁).confirmed, ¬ (c.1 = part ∧ first ≤ c.2.1 ∧ c.2.1 ≤ last ∧ c.2.2 < t) :=
  check_acquired (check_stateAt hacc)

/-- **An acknowledgement is only confirmed to the member that holds the record.** If a request's accept/reject
batch is answered without error while the newest acquisition of one of its offsets went to another member
strictly before the request arrived and within the lock duration of it, that other member has itself sent a final acknowledgement for the offset
since (so the record may be finished); otherwise the broker must answer with an error. -/
theorem share_ok_only_for_holder (lock : Nat) (h₁ h₂ : List Ev) (m rid part : Nat) (s : St)
    (hacc : Model.Share.run (Model.Share.init lock) (h₁ ++ Ev.wireRes m rid part 0 :: h₂) = some s) :
    ∀ b ∈ (stateAt lock h₁).batches, b.rid = rid → b.part = part → b.m = m → (b.ty = 1 ∨ b.ty = 3) →
      ∀ o, b.first ≤ o → o ≤ b.last → ∀ a, holder (stateAt lock h₁) part o = some a → a.m ≠ m → a.t < b.t → b.t < a.t + lock →
        ∃ hb ∈ (stateAt lock h₁).batches, hb.m = a.m ∧ hb.part = part ∧ hb.first ≤ o ∧ o ≤ hb.last ∧
          isFinalTy hb.ty = true ∧ a.t ≤ hb.t := by
  have := check_wireRes (check_stateAt hacc)
  rwa [lock_stateAt hacc] at this

/-- **At Close unacknowledged records are released.** When `Close` returns, every record the member was handed
without a final decision is covered by a final batch the member sent after it was handed the record (the release, or
an older decision for the same offset that the per-offset dedupe put in its place), or the
member's callback reported an error for the partition while closing. (`openRecs` drops a record when the member
renewed it through the API and the callback then reported an acknowledge error for its partition: the broker
refused the member's hold on the partition's records, e.g. INVALID_RECORD_STATE after a leader move.) -/
theorem share_close_releases (lock : Nat) (h₁ h₂ : List Ev) (m : Nat) (s : St)
    (hacc : Model.Share.run (Model.Share.init lock) (h₁ ++ Ev.closed m :: h₂) = some s) :
    ∀ r ∈ (stateAt lock h₁).openRecs, r.1 = m →
      (∃ b ∈ batchesSince (stateAt lock h₁) r.2.2.2, b.m = m ∧ b.part = r.2.1 ∧ b.first ≤ r.2.2.1 ∧ r.2.2.1 ≤ b.last ∧
        (b.ty = 1 ∨ b.ty = 2 ∨ b.ty = 3)) ∨
      (m, r.2.1) ∈ (stateAt lock h₁).closeErr :=
  check_closed (check_stateAt hacc)

/-- **FlushAcks returns only after the callbacks for all earlier acknowledgements have run.** When `FlushAcks`
returns without error, no acknowledgement made before it was called is still waiting for its callback. -/
theorem share_flush_after_callbacks (lock : Nat) (h₁ h₂ : List Ev) (m : Nat) (s : St)
    (hacc : Model.Share.run (Model.Share.init lock) (h₁ ++ Ev.flushEnd m true :: h₂) = some s) :
    ∀ u ∈ (stateAt lock h₁).uncalled, ¬ (u.1 = m ∧ u.2.2 = true) :=
  check_flushEnd (check_stateAt hacc)

/-- **Acknowledgements are honoured.** At quiescence every final decision of a member that has closed was put on
the wire, or is `lost`: an error was reported for its partition since, or a final batch covered its offset without
carrying it (the client's per-offset dedupe). -/
theorem share_acks_sent_by_quiescence (lock : Nat) (h₁ h₂ : List Ev) (s : St)
    (hacc : Model.Share.run (Model.Share.init lock) (h₁ ++ Ev.quiesce :: h₂) = some s) :
    ∀ p ∈ (stateAt lock h₁).pend, p.stage = 0 → p.lost = false → p.m ∉ (stateAt lock h₁).isClosed :=
  check_quiesce (check_stateAt hacc)

/-- Non-vacuity: an accepted history. Member 0 is handed offsets 0-2 (a transaction marker at 1 is acknowledged as
a gap by the client), accepts 0, rejects 2, flushes; both decisions are confirmed; member 1 is handed offset 3,
never decides, closes (release on the wire). -/
example : accepts 2000
    [.acquired 0 0 0 2 1 10, .delivered 0 0 0 1, .delivered 0 0 2 1, .ack 0 0 0 1, .ack 0 0 2 3, .flushStart 0,
     .wireAck 0 1 0 0 0 1 20, .wireAck 0 1 0 1 1 0 20, .wireAck 0 1 0 2 2 3 20, .wireRes 0 1 0 0, .callback 0 0 0 25, .flushEnd 0 true,
     .acquired 1 0 3 3 1 30, .delivered 1 0 3 1, .closeStart 1, .wireAck 1 2 0 3 3 2 40, .wireRes 1 2 0 0, .closed 1,
     .closeStart 0, .closed 0, .quiesce] = true := by decide

/-- The monitor refuses: a descending batch list (the pre-5958f14 shape on the wire), … -/
example : accepts 2000 [.acquired 0 0 0 6 1 0, .delivered 0 0 0 1, .delivered 0 0 4 1, .ack 0 0 0 1, .ack 0 0 4 1,
    .wireAck 0 1 0 0 0 1 5, .wireAck 0 1 0 4 4 1 5, .wireAck 0 1 0 3 3 0 5] = false := by decide

/-- … the same final decision carried by a second request while the first has not failed, … -/
example : accepts 2000 [.acquired 0 0 0 0 1 0, .delivered 0 0 0 1, .ack 0 0 0 1,
    .wireAck 0 1 0 0 0 1 5, .wireRes 0 1 0 0, .wireAck 0 2 0 0 0 1 6] = false := by decide

/-- … a record acquired again after its accept was confirmed (the observable of the kfake defect: the late ack of
member 0 is rejected by the broker but answered and confirmed as a success, the record comes back), … -/
example : accepts 2000 [.acquired 0 0 7 7 1 0, .delivered 0 0 7 1, .ack 0 0 7 1,
    .wireAck 0 1 0 7 7 1 3000, .wireRes 0 1 0 0, .callback 0 0 0 3300, .acquired 0 0 7 7 2 5000] = false := by decide

/-- … a success answer for an accept of a record that another member has held since before the request arrived, … -/
example : accepts 2000 [.acquired 1 0 10 16 1 81, .delivered 1 0 13 1, .acquired 0 0 10 16 2 3000, .autoAccept 1 0 13,
    .wireAck 1 22 0 13 13 1 3081, .wireRes 1 22 0 0] = false := by decide

/-- … Close returning with a record neither decided nor released, FlushAcks returning before a callback ran, and a
decision that never reaches the wire. -/
example : accepts 2000 [.acquired 0 0 0 0 1 0, .delivered 0 0 0 1, .closeStart 0, .closed 0] = false := by decide
example : accepts 2000 [.acquired 0 0 0 0 1 0, .delivered 0 0 0 1, .ack 0 0 0 1, .flushStart 0, .flushEnd 0 true] = false := by decide
example : accepts 2000 [.acquired 0 0 0 0 1 0, .delivered 0 0 0 1, .ack 0 0 0 1, .closeStart 0, .closed 0, .quiesce] = false := by decide

end Protocol

end Props.C12
