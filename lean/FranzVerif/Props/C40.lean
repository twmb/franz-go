import FranzVerif.Model.StartOff
import FranzVerif.Proof.StartOff
/-! C40 — start offsets resolve as documented. `Model.StartOff.resolve : Offset → Shape → Nat` is the documented rule
(written from the property text); the theorems below are (i) properties of `resolve` for ALL offsets and log shapes,
(ii) statements over ALL accepted histories of the `off` monitor: the first record a consumer returns is the least
returnable record at or after `resolve offset shape`. The tie is the history correspondence of the `off` scenarios
(real kgo consumer × real kfake). -/
namespace Props.C40
open Model.StartOff Proof.StartOff

/-- Every non-committed start position lies in `[log start, end]`, for every log shape with `start ≤ end`
(the end being the last stable offset under read_committed). -/
theorem resolve_within_bounds (o : Offset) (s : Shape) (hs : s.start ≤ s.fin) (ho : o ≠ .committed) :
    s.start ≤ resolve o s ∧ resolve o s ≤ s.fin := by
  cases o with
  | exact x r e => exact ⟨clamp_ge hs _, clamp_le hs _⟩
  | start r => exact ⟨clamp_ge hs _, clamp_le hs _⟩
  | fin r => exact ⟨clamp_ge hs _, clamp_le hs _⟩
  | milli t =>
    refine ⟨?_, leastOr_le _ _⟩
    exact le_leastOr hs (fun a ha => (mem_milliCands.1 ha).choose_spec.2.1)
  | committed => exact absurd rfl ho

/-- Under read_committed no position is above the last stable offset. -/
theorem read_committed_end_is_lso (o : Offset) (s : Shape) (hrc : s.rc = true) (hs : s.start ≤ s.lso) (ho : o ≠ .committed) :
    resolve o s ≤ s.lso := by
  have hf : s.fin = s.lso := by simp [Shape.fin, hrc]
  have := (resolve_within_bounds o s (by rw [hf]; exact hs) ho).2
  rwa [hf] at this

/-- At(x).Relative(r) inside `[log start, end]` is exactly `x + r`. -/
theorem resolve_exact_in_range (x : Nat) (r : Int) (e : Option Nat) (s : Shape)
    (h1 : (s.start : Int) ≤ x + r) (h2 : (x : Int) + r ≤ s.fin) : (resolve (.exact x r e) s : Int) = x + r :=
  clamp_id h1 h2

/-- below the log start it is the log start, beyond the end it is the end -/
theorem resolve_exact_out_of_range (x : Nat) (r : Int) (e : Option Nat) (s : Shape) (hs : s.start ≤ s.fin) :
    ((x : Int) + r < s.start → resolve (.exact x r e) s = s.start) ∧
    ((s.fin : Int) < x + r → resolve (.exact x r e) s = s.fin) := by
  simp only [resolve, clamp_eq hs]
  omega

/-- The position is monotone in the requested offset and in the relative amount. -/
theorem resolve_exact_monotone (x x' : Nat) (r r' : Int) (e e' : Option Nat) (s : Shape) (hs : s.start ≤ s.fin)
    (hx : x ≤ x') (hr : r ≤ r') : resolve (.exact x r e) s ≤ resolve (.exact x' r' e') s :=
  clamp_mono hs (by omega)

/-- The epoch (WithEpoch) does not move the position. -/
theorem resolve_epoch_irrelevant (x : Nat) (r : Int) (e e' : Option Nat) (s : Shape) :
    resolve (.exact x r e) s = resolve (.exact x r e') s := rfl

/-- AtStart().Relative(n) is `start + n` capped at the end (n ≥ 0); a negative amount stays at the log start. -/
theorem resolve_start_capped (n : Nat) (s : Shape) (hs : s.start ≤ s.fin) :
    resolve (.start n) s = min (s.start + n) s.fin ∧ resolve (.start (-(n : Int))) s = s.start := by
  simp only [resolve, clamp_eq hs]
  omega

/-- AtEnd().Relative(-n) is `end - n` floored at the log start; a positive amount stays at the end. -/
theorem resolve_end_floored (n : Nat) (s : Shape) (hs : s.start ≤ s.fin) :
    resolve (.fin (-(n : Int))) s = max (s.fin - n) s.start ∧ resolve (.fin n) s = s.fin := by
  simp only [resolve, clamp_eq hs]
  omega

/-- AfterMilli(t) is the LEAST offset (in `[log start, end)`) of a record with timestamp ≥ t: it is such an offset
unless it is the end, and no such offset is smaller. -/
theorem resolve_milli_is_least (t : Nat) (s : Shape) :
    (resolve (.milli t) s < s.fin → ∃ ts, (resolve (.milli t) s, ts) ∈ s.recs ∧ t ≤ ts ∧ s.start ≤ resolve (.milli t) s) ∧
    (∀ o ts, (o, ts) ∈ s.recs → s.start ≤ o → o < s.fin → t ≤ ts → resolve (.milli t) s ≤ o) := by
  constructor
  · intro hlt
    rcases leastOr_mem s.fin (milliCands s s.fin t) with h | h
    · simp only [resolve] at hlt; omega
    · obtain ⟨ts, hm, h1, _, h3⟩ := mem_milliCands.1 h
      exact ⟨ts, hm, h3, h1⟩
  · intro o ts hm h1 h2 h3
    exact leastOr_le_mem _ _ o (mem_milliCands.2 ⟨ts, hm, h1, h2, h3⟩)

/-- "… else the end": when no record in `[log start, end)` has timestamp ≥ t the position is the end. -/
theorem resolve_milli_else_end (t : Nat) (s : Shape)
    (hno : ∀ o ts, (o, ts) ∈ s.recs → s.start ≤ o → o < s.fin → ts < t) : resolve (.milli t) s = s.fin := by
  rcases leastOr_mem s.fin (milliCands s s.fin t) with h | h
  · exact h
  · obtain ⟨ts, hm, h1, h2, h3⟩ := mem_milliCands.1 h
    have := hno _ ts hm h1 h2
    omega

/-- AfterMilli is monotone in the timestamp. -/
theorem resolve_milli_monotone (t t' : Nat) (s : Shape) (ht : t ≤ t') : resolve (.milli t) s ≤ resolve (.milli t') s := by
  apply leastOr_anti
  intro a ha
  obtain ⟨ts, hm, h1, h2, h3⟩ := mem_milliCands.1 ha
  exact mem_milliCands.2 ⟨ts, hm, h1, h2, by omega⟩

/-- AtCommitted is the committed offset. -/
theorem resolve_committed (s : Shape) : resolve .committed s = s.group := rfl

/-- The two readings of AfterMilli under read_committed (see `resolveLit`) agree for every other offset kind, and for
AfterMilli whenever the consumer reads uncommitted. -/
theorem readings_agree (o : Offset) (s : Shape) (h : (∀ t, o ≠ .milli t) ∨ s.rc = false) : ambiguous o s = false := by
  unfold ambiguous
  rcases h with h | h
  · cases o with
    | milli t => exact absurd rfl (h t)
    | _ => simp [resolveLit]
  · cases o with
    | milli t =>
      have hf : s.fin = s.hwm := by simp [Shape.fin, h]
      simp only [resolveLit, resolve, hf, leastOr]
      cases hc : milliCands s s.hwm t with
      | nil => simp
      | cons a l =>
        simp only [List.foldl_cons]
        have : a < s.hwm := (mem_milliCands.1 (by rw [hc]; exact List.mem_cons_self : a ∈ milliCands s s.hwm t)).choose_spec.2.2.1
        rw [Nat.min_eq_right (Nat.le_of_lt this)]
        simp
    | _ => simp [resolveLit]

/-- the log shape a history describes -/
def shapeIn (c : Cfg) (h : List Ev) (sh : Nat × Nat × Nat) : Shape := mkShape c sh (groupOf h) (logOf h)
/-- the offsets the consumer of a history may return -/
def returnableIn (c : Cfg) (h : List Ev) : List Nat := returnable c (ackedOf h) (txnsOf h) (logOf h)

/-- In every accepted history that reaches the quiescent end, the consumer was given an Offset `o` for a partition of
shape `sh`, and the first record it returned is the least returnable record at or after the documented position
`resolve o sh` (`none`: there is no such record and nothing was returned). The only latitude is the reading of
AfterMilli under read_committed (`ambiguous`, excluded by `readings_agree` in every other case). -/
theorem first_record_at_resolved_position (c : Cfg) (h : List Ev) (s : St) (hacc : run c {} (h ++ [Ev.quiesce]) = some s) :
    ∃ o sh f, offsetOf h = some o ∧ shapeOf h = some sh ∧ firstOf h = some f ∧
      (f = firstAtOrAfter (returnableIn c h) (resolve o (shapeIn c h sh)) ∨
       (ambiguous o (shapeIn c h sh) = true ∧ f = firstAtOrAfter (returnableIn c h) (resolveLit o (shapeIn c h sh)))) := by
  obtain ⟨s₁, hr, hchk, -⟩ := (isMonitor c).snoc hacc
  exact quiesce_check (inv_of_run hr) hchk

/-- Unfolded for the unambiguous case: the first returned record `f` is a returnable record, it is not before the
documented position, and no returnable record lies between the position and `f` (nothing is skipped, nothing earlier
is returned first). -/
theorem first_record_is_least_at_or_after_position (c : Cfg) (h : List Ev) (s : St)
    (hacc : run c {} (h ++ [Ev.quiesce]) = some s) (o : Offset) (sh : Nat × Nat × Nat) (f : Nat)
    (ho : offsetOf h = some o) (hsh : shapeOf h = some sh) (hf : firstOf h = some (some f))
    (hamb : ambiguous o (shapeIn c h sh) = false) :
    f ∈ returnableIn c h ∧ resolve o (shapeIn c h sh) ≤ f ∧
    ∀ q ∈ returnableIn c h, resolve o (shapeIn c h sh) ≤ q → f ≤ q :=
  firstAtOrAfter_some (first_eq_of_unambiguous hacc ho hsh hf hamb)

/-- When the consumer returned nothing, no returnable record exists at or after the documented position. -/
theorem nothing_returned_means_nothing_there (c : Cfg) (h : List Ev) (s : St)
    (hacc : run c {} (h ++ [Ev.quiesce]) = some s) (o : Offset) (sh : Nat × Nat × Nat)
    (ho : offsetOf h = some o) (hsh : shapeOf h = some sh) (hf : firstOf h = some none)
    (hamb : ambiguous o (shapeIn c h sh) = false) :
    ∀ q ∈ returnableIn c h, q < resolve o (shapeIn c h sh) :=
  firstAtOrAfter_none (first_eq_of_unambiguous hacc ho hsh hf hamb)

/-- a log `[2, 9)` whose last stable offset is 6: records 2..8 with timestamps 10 10 20 15 30 30 40 -/
def exShape (rc : Bool) : Shape :=
  { start := 2, lso := 6, hwm := 9, rc := rc, recs := [(2, 10), (3, 10), (4, 20), (5, 15), (6, 30), (7, 30), (8, 40)], group := 5 }

example : resolve (.exact 4 0 none) (exShape false) = 4 := by decide
example : resolve (.exact 0 1 none) (exShape false) = 2 := by decide            -- below the log start
example : resolve (.exact 7 5 (some 0)) (exShape false) = 9 := by decide        -- beyond the end
example : resolve (.exact 7 5 none) (exShape true) = 6 := by decide             -- read_committed: the end is the LSO
example : resolve (.start 3) (exShape false) = 5 := by decide
example : resolve (.start 30) (exShape true) = 6 := by decide
example : resolve (.fin (-3)) (exShape false) = 6 := by decide
example : resolve (.fin (-3)) (exShape true) = 3 := by decide
example : resolve (.fin (-30)) (exShape true) = 2 := by decide
example : resolve (.milli 10) (exShape false) = 2 := by decide                  -- equal timestamps: the first of them
example : resolve (.milli 12) (exShape false) = 4 := by decide                  -- 20 at offset 4 is the first ≥ 12 (15 at offset 5 comes later)
example : resolve (.milli 35) (exShape false) = 8 := by decide
example : resolve (.milli 35) (exShape true) = 6 := by decide                   -- nothing below the LSO: the end
example : resolve (.milli 41) (exShape false) = 9 := by decide
example : resolve .committed (exShape false) = 5 := by decide
example : ambiguous (.milli 35) (exShape true) = true := by decide
example : ambiguous (.milli 12) (exShape true) = false := by decide

/-- An accepted history (read_committed): records 0..5, record 4 belongs to transaction 1 which aborts (marker at 5),
DeleteRecords to 1, shape `[1, 6)` all stable, `AtEnd().Relative(-3)`: position 3; the consumer's first record is 3. The
hypotheses of the three history theorems hold for it. -/
def exHist : List Ev :=
  [.acked 0 10 1 0, .acked 1 10 1 0, .acked 2 20 2 0, .acked 3 20 2 0, .acked 4 30 3 1, .txnEnd 1 false, .deleted 1,
   .shape 1 6 6, .offset (.fin (-3)), .first (some 3),
   .logRec 1 10 false, .logRec 2 20 false, .logRec 3 20 false, .logRec 4 30 false, .logRec 5 31 true]

example : accepts { rc := true } (exHist ++ [.quiesce]) = true := by decide
example : offsetOf exHist = some (.fin (-3)) ∧ shapeOf exHist = some (1, 6, 6) ∧ firstOf exHist = some (some 3) := by decide
example : ambiguous (.fin (-3)) (shapeIn { rc := true } exHist (1, 6, 6)) = false := by decide

/-- the same history with the position two records later: the aborted record 4 and the marker 5 are not returnable, so
a consumer positioned at 4 returns nothing (`first none`) … -/
example : accepts { rc := true }
    [.acked 0 10 1 0, .acked 1 10 1 0, .acked 2 20 2 0, .acked 3 20 2 0, .acked 4 30 3 1, .txnEnd 1 false,
     .shape 0 6 6, .offset (.exact 4 0 none), .first none,
     .logRec 0 10 false, .logRec 1 10 false, .logRec 2 20 false, .logRec 3 20 false, .logRec 4 30 false, .logRec 5 31 true, .quiesce] = true := by decide

/-- … the monitor refuses a consumer that starts one record early, one record late, or at the log start instead of the end. -/
example : accepts { rc := true } ((exHist.map fun e => if e = .first (some 3) then .first (some 2) else e) ++ [.quiesce]) = false := by decide
example : accepts { rc := true } ((exHist.map fun e => if e = .first (some 3) then .first none else e) ++ [.quiesce]) = false := by decide
example : accepts { rc := false }
    [.acked 0 10 1 0, .acked 1 10 1 0, .shape 0 2 2, .offset (.exact 7 0 none), .first (some 0),
     .logRec 0 10 false, .logRec 1 10 false, .logRec 2 50 false, .quiesce] = false := by decide
/-- AfterMilli between two timestamps of one batch: the record with the SMALLER timestamp is refused. -/
example : accepts { rc := false }
    [.acked 0 10 1 0, .acked 1 20 1 0, .acked 2 30 1 0, .shape 0 3 3, .offset (.milli 15), .first (some 0),
     .logRec 0 10 false, .logRec 1 20 false, .logRec 2 30 false, .quiesce] = false := by decide
example : accepts { rc := false }
    [.acked 0 10 1 0, .acked 1 20 1 0, .acked 2 30 1 0, .shape 0 3 3, .offset (.milli 15), .first (some 1),
     .logRec 0 10 false, .logRec 1 20 false, .logRec 2 30 false, .quiesce] = true := by decide

end Props.C40
