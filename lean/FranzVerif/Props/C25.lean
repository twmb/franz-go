import FranzVerif.Proof.C25K
import FranzVerif.Proof.C25A
/-! C25 — every balancer produces a valid assignment.

Spec (`Model.C25.validPlan subs n plan`, executable, also evaluated by the driver on the implementation's
plans): every planned triple `(member, topic, partition)` names a member subscribed to the topic and an
existing partition, and for every topic some member subscribes to, the multiset of partitions planned for it
is exactly `{0, …, n t - 1}` — each partition assigned exactly once, nothing else assigned.
`validCoop` is the cooperative variant: a partition may be assigned to nobody only when a member that
currently owns it (a claimant of maximal generation) is not assigned it in this plan.

The sticky engine (pkg/kgo/internal/sticky) is not modelled: for sticky and cooperative-sticky the theorem
below is about the modelled post-processing (`adjust` = AdjustCooperative applied to ANY valid plan); the
validity of the engine's plan itself is evaluated on its real output for every generated case by the driver. -/
namespace Props.C25
open Model.C25 Proof.C25

/-- range (with the rack phase): valid for all members, subscriptions, racks and partition counts. -/
theorem range_valid (ms : List Member) (topics : List (String × Nat)) (racks : List (String × List String)) :
    validPlan (subsOf ms) (cnt topics) (balanceRange ms topics racks) = true := by
  refine validPlan_flatMap _ _ _ (nodup_dedup _) (fun t ht hn => ?_) _ (fun t _ x hx => ?_) (fun t ht => ?_)
  · exact absurd ((mem_dedup _ _).mpr (flatMap_subs Member.id Member.topics ms ▸ ht)) hn
  · obtain ⟨h1, hc⟩ := mem_rangeTopic ms topics racks t x hx
    exact ⟨h1, sub_of_member Member.id Member.topics hc⟩
  · obtain ⟨m, hm, hmt⟩ := List.mem_flatMap.mp ((mem_dedup _ _).mp ht)
    exact rangeTopic_parts ms topics racks t (List.ne_nil_of_mem ((mem_consumersOf ms t m).mpr ⟨hm, hmt⟩))

/-- non-trivial instance: three members (one with a rack, one listing the topic twice), 7 partitions with racks. -/
example : balanceRange [{ id := "a", topics := ["t"], rack := some "r1" }, { id := "b", topics := ["t", "t"] }, { id := "c", topics := ["u"] }]
    [("t", 7), ("u", 2)] [("t", ["r2", "r1", "", "r1", "r1", "r1"])]
    = [("a", "t", 1), ("a", "t", 3), ("a", "t", 4), ("b", "t", 0), ("b", "t", 2), ("b", "t", 5), ("b", "t", 6),
       ("c", "u", 0), ("c", "u", 1)] := by decide

/-- round robin: the assignment loop terminates (`some`) and the plan is valid, for all inputs. -/
theorem roundRobin_valid (ms : List Member) (topics : List (String × Nat)) :
    ∃ plan, balanceRR ms topics = some plan ∧ validPlan (subsOf ms) (cnt topics) plan = true := by
  have hperm : (allParts ms topics).Perm (tpsOf (subTopics ms) (cnt topics)) := sortBy_perm _ _
  obtain ⟨P, hP, hmap, hall⟩ := rrGo_spec ms 0 (allParts ms topics) fun tp htp =>
    List.mem_flatMap.mp ((mem_dedup _ _).mp ((mem_tpsOf _ _ tp).mp (hperm.mem_iff.mp htp)).1)
  refine ⟨P, hP, validPlan_of_tps _ _ _ _ (nodup_dedup _) (fun t ht hn => ?_)
    (fun x hx => sub_of_member Member.id Member.topics (hall x hx)) (hmap ▸ hperm)⟩
  exact absurd ((mem_dedup _ _).mpr (flatMap_subs Member.id Member.topics ms ▸ ht)) hn

example : balanceRR [{ id := "a", topics := ["t"] }, { id := "b", topics := ["u"] }, { id := "c", topics := ["t", "u"] }]
    [("t", 3), ("u", 2)]
    = some [("a", "t", 0), ("c", "t", 1), ("a", "t", 2), ("b", "u", 0), ("c", "u", 1)] := by decide

/-- kfake `assignRange` through `computeTargetAssignment`: valid for all members (static or not, away or
not), subscriptions, prior targets and snapshots. -/
theorem kfakeRange_valid (ms : List KMember) (snap : List (String × Nat)) :
    validPlan (kSubsOf ms) (cnt snap) (kCompute "range" ms snap) = true :=
  kCompute_valid "range" ms snap

/-- kfake `assignUniform` (any assignor name other than "range" dispatches to it), as repaired in /repo
31831e3: valid for EVERY input — arbitrary prior targets, conflicting claims included (step 1 keeps a
still-valid prior partition only for the first member, in member order, that lists it). -/
theorem kfakeUniform_valid (assignor : String) (hne : (assignor == "range") = false)
    (ms : List KMember) (snap : List (String × Nat)) :
    validPlan (kSubsOf ms) (cnt snap) (kCompute assignor ms snap) = true :=
  kCompute_valid assignor ms snap

/-- non-trivial instance: two members keep disjoint prior targets, one sheds its excess, a third receives it. -/
example : kCompute "uniform" [{ id := "a", subs := ["t"], target := [("t", [0, 1, 2])] }, { id := "b", subs := ["t"], target := [("t", [3])] },
    { id := "c", subs := ["t"] }] [("t", 4)] = [("a", "t", 0), ("a", "t", 1), ("b", "t", 3), ("c", "t", 2)] := by decide

/-- regression (finding kfake-uniform-conflicting-priors, fixed in 31831e3): two members whose prior targets
both list partition 0 of a one-partition topic. Before the fix kfake kept it for both; the repaired code keeps it only
for the first. -/
example :
    let ms : List KMember := [{ id := "m0", subs := ["t"], target := [("t", [0])] }, { id := "m1", subs := ["t"], target := [("t", [0])] }]
    disjointPriors ms [("t", 1)] = false
    ∧ kCompute "uniform" ms [("t", 1)] = [("m0", "t", 0)]
    ∧ validPlan (kSubsOf ms) (cnt [("t", 1)]) (kCompute "uniform" ms [("t", 1)]) = true := by decide

/-- regression, the input reached over the wire by harness/cmd/c25/reachprobe (static member away, another
joins, static member returns, a third joins): both A2 and B list 0..3. -/
example :
    kCompute "uniform" [{ id := "A2", subs := ["t"], target := [("t", [0, 1, 2, 3])] }, { id := "B", subs := ["t"], target := [("t", [0, 1, 2, 3])] },
      { id := "C", subs := ["t"] }] [("t", 4)] = [("A2", "t", 0), ("A2", "t", 1), ("B", "t", 2), ("C", "t", 3)] := by decide

/-- AdjustCooperative never assigns anything the sticky plan did not contain. -/
theorem cooperative_adjust_only_removes (ms : List Member) (plan : List Triple) : (adjust ms plan).Sublist plan :=
  adjust_sublist ms plan

/-- Cooperative-sticky post-processing: applied to ANY valid plan (the sticky engine's, whose validity is
checked on its output by the driver), AdjustCooperative yields a plan that is valid except for partitions it
withholds, and a partition is withheld only when a current owner of it is not assigned it in the result. -/
theorem cooperative_adjust_valid (ms : List Member) (n : String → Nat) (plan : List Triple)
    (h : validPlan (subsOf ms) n plan = true) : validCoop ms n (adjust ms plan) = true := by
  unfold validCoop
  simp only [Bool.and_eq_true, List.all_eq_true, List.any_eq_true, decide_eq_true_eq, beq_iff_eq,
    List.contains_iff_mem, Bool.or_eq_true, List.mem_range, Bool.not_eq_true', ← Bool.not_eq_true]
  constructor
  · intro x hx
    obtain ⟨⟨s, hs, e1, e2⟩, hlt⟩ := ((validPlan_iff _ n plan).mp h).1 x ((adjust_sublist ms plan).subset hx)
    obtain ⟨m, hm, rfl⟩ := List.mem_map.mp hs
    exact ⟨⟨m, hm, e1, e2⟩, hlt⟩
  · intro t ht p hp
    exact adjust_count ms plan t p (validPlan_once _ n plan h t (flatMap_subs Member.id Member.topics ms ▸ ht) p hp)

/-- non-vacuity: a valid plan that moves a partition away from its current owner; it is withheld. -/
example :
    let ms : List Member := [{ id := "a", gen := 3, topics := ["t"], owned := [("t", [0, 1])] }, { id := "b", gen := 3, topics := ["t"] }]
    validPlan (subsOf ms) (cnt [("t", 2)]) [("a", "t", 0), ("b", "t", 1)] = true
    ∧ adjust ms [("a", "t", 0), ("b", "t", 1)] = [("a", "t", 0)] := by decide

end Props.C25
