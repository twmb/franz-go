import FranzVerif.Proof.C20
/-! C20 — property theorems: what `RecordFormatter` wrote is read back by `RecordReader` with the same layout.

The model (`Model/C20.lean`) is the code as it is; it is tied to /repo by the differential run of `./check C20`.
The Spec (`Spec/C20.lean`) is `specStream`: the reader returns the written records restricted to the fields the
layout mentions, in order, then `io.EOF`.

FULL STATEMENT (the property as given), for every layout `L` of the size-prefixed / fixed-width fragment
(`WF L`), unambiguous (`Unambiguous L`: an `{ascii}` number is followed by a literal that does not start with a
digit or sign), every record `r` that is a `kgo.Record` (`RecOK r`) whose numeric fields are within the widths
the layout gives them (`Fits L r`), and every continuation `rest` (one record: the definition `FullRoundTrip` below; the
stream form has no definition of its own, `full_stream_false` spells it out):

    one record :  ∃ sz, readRecord L (format L r ++ rest) = ok ⟨restrict L r, sz, rest, false⟩
    stream     :  readAll L (|rs|+1+k) (formatAll L rs) false = (rs.map (restrict L), eof)

This is FALSE of the code as it is, in exactly two classes (each refuted below by a `decide`d witness that the
harness replays on the real code, corpus/C20):
  (g) a sized text verb with `{hex}` / `{base64}` and a non-empty field: the formatter's size verb prints the raw
      length, the reader consumes that many *encoded* bytes            → `roundtrip_false_encoded_text`
  (h) a negative number printed with `{ascii}`: the formatter prints `-1`, the reader's `{ascii}` accepts digits
      only and parses unsigned                                         → `roundtrip_false_negative_ascii`
What is proved for all inputs is the statement with the two classes excluded by the decidable hypotheses
`PlainText L` and `NonNegAscii L r`: `roundtrip_partial`, `stream_partial`, `spec_stream_partial`. -/
namespace Props.C20
open Model.C20 Spec.C20 Proof.C20

/-- One record: the reader, started on the formatter's bytes followed by anything, returns the record
restricted to the layout's fields, has consumed exactly the formatter's bytes, and has not seen EOF.
(Full statement: without `hpl`, `hnn`; see the header. Missing: classes (g) and (h).) -/
theorem roundtrip_partial (L : Layout) (r : Rec) (rest : Bytes)
    (hwf : WF L = true) (hun : Unambiguous L = true) (hr : RecOK r = true) (hfit : Fits L r = true)
    (hpl : PlainText L = true) (hnn : NonNegAscii L r = true) :
    ∃ sz, readRecord L (format L r ++ rest) = .ok ⟨restrict L r, sz, rest, false⟩ := by
  simp only [WF, Bool.and_eq_true] at hwf
  exact next_ok (s := {}) {} rest true hwf.2 hun (itemOK_of_hyps L r hr hfit hpl hnn)

example :
    let L : Layout := [.flat (.num .keyLen .ascii), .flat (.lit [58]), .flat (.text .key .plain),
      .flat (.num .offset .hex64), .flat (.num .hdrCount .byte),
      .hdrs [.num .keyLen .big16, .text .key .plain, .num .valueLen .ascii, .lit [61], .text .value .plain],
      .flat (.num .timestamp .little64), .flat (.num .partition .big32), .flat (.lit [10])]
    let r : Rec := { key := [1, 2, 3], offset := 255, partition := -1, ts := some (-1500000), headers := [⟨[104], [0, 255]⟩, ⟨[], []⟩] }
    WF L = true ∧ Unambiguous L = true ∧ RecOK r = true ∧ Fits L r = true ∧ PlainText L = true
      ∧ NonNegAscii L r = true := by decide

/-- `io.EOF`, and only that, on an empty stream (every layout of the fragment starts with a fn that reads). -/
theorem eof_on_empty (L : Layout) (hwf : WF L = true) : readRecord L [] = .error .eof := by
  simp only [WF, Bool.and_eq_true] at hwf
  cases L with
  | nil => simp at hwf
  | cons it rest =>
    have hwf := hwf.2
    cases it with
    | hdrs inner => simp [wfL] at hwf
    | flat i =>
      cases i with
      | lit d =>
        simp only [wfL, Bool.and_eq_true] at hwf
        have hd : 0 < d.length := by
          cases d with
          | nil => simp at hwf
          | cons _ _ => simp
        simp [readRecord, next, step, stepFlat, readExact, readSize_nil _ hd, finishRead]
      | num fld f =>
        simp [readRecord, next, step, stepFlat, stepNum, readNumRaw_nil, finishRead]
      | text fld e => simp [wfL, Seen.has] at hwf; cases fld <;> simp at hwf

/-- The stream: `ReadRecord` called until it fails returns the written records in order and then `io.EOF`,
exactly at the end of the stream (`k` spare calls change nothing).
(Full statement: without `hpl` and the `NonNegAscii` conjunct. Missing: classes (g) and (h).) -/
theorem stream_partial (L : Layout) (rs : List Rec) (k : Nat)
    (hwf : WF L = true) (hun : Unambiguous L = true) (hpl : PlainText L = true)
    (hrs : ∀ r ∈ rs, RecOK r = true ∧ Fits L r = true ∧ NonNegAscii L r = true) :
    readAll L (rs.length + 1 + k) (formatAll L rs) false = (rs.map (restrict L), Term.eof) := by
  induction rs with
  | nil =>
    simp only [List.length_nil, formatAll, List.flatMap_nil, List.map_nil]
    rw [show 0 + 1 + k = k + 1 by omega]
    simp [readAll, eof_on_empty L hwf]
  | cons r rs ih =>
    obtain ⟨⟨hr, hfit, hnn⟩, hrs'⟩ := List.forall_mem_cons.1 hrs
    obtain ⟨sz, h⟩ := roundtrip_partial L r (formatAll L rs) hwf hun hr hfit hpl hnn
    have ih' := ih hrs'
    have hf : formatAll L (r :: rs) = format L r ++ formatAll L rs := by simp [formatAll]
    rw [hf, show (r :: rs).length + 1 + k = (rs.length + 1 + k) + 1 by simp; omega]
    simp only [readAll, h, Bool.false_eq_true, if_false, ih', List.map_cons]

/-- The Spec holds of the model on every stream of the fragment outside the two classes. -/
theorem spec_stream_partial (L : Layout) (rs : List Rec) (k : Nat)
    (hwf : WF L = true) (hun : Unambiguous L = true) (hpl : PlainText L = true)
    (hrs : ∀ r ∈ rs, RecOK r = true ∧ Fits L r = true ∧ NonNegAscii L r = true) :
    specStream L rs (readAll L (rs.length + 1 + k) (formatAll L rs) false) = true := by
  rw [stream_partial L rs k hwf hun hpl hrs]
  simp [specStream]

/-- The millisecond truncation of the Spec is Go's `/` as the model spells it. -/
theorem goDiv_is_tdiv (a b : Int) : goDiv a b = Int.tdiv a b := goDiv_eq_tdiv a b

/-! ## The full statement is false of the code as it is -/

/-- the property as given, for one record -/
def FullRoundTrip : Prop :=
  ∀ (L : Layout) (r : Rec) (rest : Bytes), WF L = true → Unambiguous L = true → RecOK r = true → Fits L r = true →
    ∃ sz, readRecord L (format L r ++ rest) = .ok ⟨restrict L r, sz, rest, false⟩

/-- witness (g): `%K{byte}%k{hex}\n`, key `ab` -/
def witG_L : Layout := [.flat (.num .keyLen .byte), .flat (.text .key .hex), .flat (.lit [10])]
def witG_r : Rec := { key := [171], ts := some 0 }

/-- witness (h): `%o\n`, offset −1 -/
def witH_L : Layout := [.flat (.num .offset .ascii), .flat (.lit [10])]
def witH_r : Rec := { offset := -1, ts := some 0 }

/-- (g) Even with every `{ascii}` number non-negative the statement fails for `{hex}` text: the formatter writes
`01 'a' 'b' '\n'`, the reader takes one byte `a` for the key and `hex.Decode` fails. -/
theorem roundtrip_false_encoded_text :
    ¬ (∀ (L : Layout) (r : Rec) (rest : Bytes), WF L = true → Unambiguous L = true → RecOK r = true → Fits L r = true →
        NonNegAscii L r = true →
        ∃ sz, readRecord L (format L r ++ rest) = .ok ⟨restrict L r, sz, rest, false⟩) := by
  intro h
  obtain ⟨sz, hsz⟩ := h witG_L witG_r [] (by decide) (by decide) (by decide) (by decide) (by decide)
  have hm : readRecord witG_L (format witG_L witG_r ++ []) = .error .other := by rfl
  rw [hm] at hsz
  cases hsz

/-- (h) Even with plain text only the statement fails for a negative `{ascii}` number: the formatter writes
`-1\n`, the reader's digit run is empty and `ParseUint("")` fails. -/
theorem roundtrip_false_negative_ascii :
    ¬ (∀ (L : Layout) (r : Rec) (rest : Bytes), WF L = true → Unambiguous L = true → RecOK r = true → Fits L r = true →
        PlainText L = true →
        ∃ sz, readRecord L (format L r ++ rest) = .ok ⟨restrict L r, sz, rest, false⟩) := by
  intro h
  obtain ⟨sz, hsz⟩ := h witH_L witH_r [] (by decide) (by decide) (by decide) (by decide) (by decide)
  have hm : readRecord witH_L (format witH_L witH_r ++ []) = .error .other := by rfl
  rw [hm] at hsz
  cases hsz

/-- hence the property as given does not hold of the code as it is -/
theorem full_roundtrip_false : ¬ FullRoundTrip := by
  intro h
  exact roundtrip_false_negative_ascii (fun L r rest a b c d _ => h L r rest a b c d)

/-- the same on streams: the reader does not return the record and `io.EOF` -/
theorem full_stream_false :
    ¬ (∀ (L : Layout) (rs : List Rec), WF L = true → Unambiguous L = true →
        (∀ r ∈ rs, RecOK r = true ∧ Fits L r = true) →
        specStream L rs (readAll L (rs.length + 1) (formatAll L rs) false) = true) := by
  intro h
  have := h witG_L [witG_r] (by decide) (by decide) (by decide)
  revert this
  decide

end Props.C20
