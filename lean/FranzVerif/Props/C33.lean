import FranzVerif.Model.C33
import FranzVerif.Proof.C33
/-! C33 — property theorems (kfake persistence survives crashes at any write).

Crash model (the property's): a file is `synced ++ tail`; create / truncate / rename / remove are atomic and durable;
a crash is any prefix of the operation sequence followed by the loss, per file, of any suffix of its unsynced tail.
`crc` is a parameter: the theorems hold of every checksum function, under the one assumption, where it is needed, that
its value fits the 4-byte field (`CrcRange`). The driver runs the model with `Model.C33.crc32c`.
JSON and OS semantics beyond this crash model are not modelled.

The model follows kfake with the fixes fc48882 (`loadSegmentBatches`: a batch without a complete index entry is a torn
append and is cut off, which keeps the k ↔ k pairing of segment and index) and a250036 (`loadGroupsLog` / `loadPIDsLog`
truncate a torn tail before appending). `pairing_all_histories` and `stateLog_all_histories` depend on them;
`pairing_regression` and `stateLog_regression` are the histories that go wrong without them. One statement of the
property is false of the code: `crash_abort_not_durable` (known finding `crash-aborted-txn-has-no-marker`). -/
namespace Props.C33
open Model.C33 Proof.C33

/-! ## Framing: `writeEntry` / `readEntries` -/

/-- Replay of complete frames followed by arbitrary bytes: exactly the framed entries, then whatever replay makes of
the rest. (All entries, all trailing bytes; the CRC only needs to fit its 4-byte field.) -/
theorem readEntries_frames_then_rest (crc : Bytes → Nat) (hc : CrcRange crc) (es : List Entry) (hes : ∀ e ∈ es, Entry.WF e)
    (rest : Bytes) :
    readEntries crc (frames crc es ++ rest) =
      (es ++ (readEntries crc rest).1, (frames crc es).length + (readEntries crc rest).2) :=
  readEntries_frames_append crc hc es hes rest

/-- A torn tail — any proper prefix of a frame — is invisible: replay returns exactly the complete entries and the
valid byte count is where the torn frame starts. The torn frame needs no assumption on the CRC (`hc` is for the
complete ones: the checksum must fit its 4-byte field to be read back). -/
theorem readEntries_torn_tail (crc : Bytes → Nat) (hc : CrcRange crc) (es : List Entry) (hes : ∀ e ∈ es, Entry.WF e)
    (e : Entry) (he : Entry.WF e) (n : Nat) (hn : n < (frame crc e).length) :
    readEntries crc (frames crc es ++ (frame crc e).take n) = (es, (frames crc es).length) :=
  readEntries_frames_torn crc hc es hes _ (.inr ⟨e, n, he, hn, rfl⟩)

example : ∃ (es : List Entry) (e : Entry) (n : Nat), es ≠ [] ∧ (∀ x ∈ es, Entry.WF x) ∧ Entry.WF e ∧ 10 < n ∧ n < (frame (fun _ => 7) e).length :=
  ⟨[⟨1, [1, 2, 3]⟩], ⟨1, [4, 5, 6]⟩, 11, by decide, by decide, by decide, by decide, by decide⟩

/-- Clean stop (nothing lost): replay returns every entry. -/
theorem readEntries_clean (crc : Bytes → Nat) (hc : CrcRange crc) (es : List Entry) (hes : ∀ e ∈ es, Entry.WF e) :
    readEntries crc (frames crc es) = (es, (frames crc es).length) := by
  simpa using readEntries_frames_torn crc hc es hes [] (.inl rfl)

/-- Arbitrary trailing junk: the complete entries are always a prefix of what replay returns, and they are exactly
what it returns under the CRC assumption that the junk does not start with a verifying frame. -/
theorem readEntries_arbitrary_junk (crc : Bytes → Nat) (hc : CrcRange crc) (es : List Entry) (hes : ∀ e ∈ es, Entry.WF e)
    (junk : Bytes) :
    es <+: (readEntries crc (frames crc es ++ junk)).1 ∧
    ((readEntries crc junk).1 = [] → (readEntries crc (frames crc es ++ junk)).1 = es) := by
  rw [readEntries_frames_append crc hc es hes]
  exact ⟨List.prefix_append _ _, fun h => by simp [h]⟩

/-! ## Crash at any operation of the append protocol (state logs under SyncWrites: write, sync per entry) -/

/-- After ANY prefix of `write f₀, sync, write f₁, sync, …` (k operations) and ANY loss of the unsynced tail, replay
returns a prefix `es.take m` of the issued entries with `k/2 ≤ m ≤ k/2+1`: every entry whose sync completed
(the only ones that can have been acknowledged) is recovered, at most the one in flight may or may not be, and
nothing else — no partial entry — is visible. -/
theorem stateLog_crash_recovery (crc : Bytes → Nat) (hc : CrcRange crc) (es : List Entry) (hes : ∀ e ∈ es, Entry.WF e)
    (k n : Nat) :
    ∃ m, k / 2 ≤ m ∧ m ≤ k / 2 + 1 ∧
      (readEntries crc ((runF {} ((appendHist (es.map (frame crc))).take k)).crash n).all).1 = es.take m := by
  obtain ⟨m, h1, h2, t, ht, hcr⟩ := crash_frames crc es hes [] k n
  refine ⟨m, h1, h2, ?_⟩
  show (readEntries crc ((runF ⟨[], []⟩ _).crash n).all).1 = _
  rw [hcr, List.nil_append, readEntries_frames_torn crc hc _ (fun e he => hes e (List.mem_of_mem_take he)) t ht]

example : ∃ (es : List Entry) (k : Nat), 2 ≤ es.length ∧ k % 2 = 1 ∧ k / 2 < es.length :=
  ⟨[⟨1, [1]⟩, ⟨1, [2]⟩], 3, by decide, by decide, by decide⟩

/-- Clean Close (every operation done, nothing lost) + restart: identical entries. -/
theorem stateLog_clean_close (crc : Bytes → Nat) (hc : CrcRange crc) (es : List Entry) (hes : ∀ e ∈ es, Entry.WF e) :
    (readEntries crc (runF {} (appendHist (es.map (frame crc)))).all).1 = es := by
  show (readEntries crc (runF ⟨[], []⟩ _).all).1 = es
  rw [runF_appendHist]
  have : (⟨[] ++ (es.map (frame crc)).flatten, []⟩ : FileSt).all = frames crc es := by simp [FileSt.all, frames]
  rw [this, readEntries_clean crc hc es hes]

/-- STATE LOGS, ALL HISTORIES. Any number of generations; each one starts by cutting the log at its last valid entry
(`loadGroupsLog` / `loadPIDsLog` after fix a250036), appends entries (write, sync each; an entry can only have been
acknowledged after its sync), and stops after ANY number `k` of file operations with ANY `n` bytes of the unsynced
tail surviving. The final replay returns, generation by generation and in order, a prefix `es.take m` of that
generation's entries with `k/2 ≤ m ≤ k/2 + 1`: every synced entry of every generation, at most the in-flight one
more, nothing partial and nothing out of order. -/
theorem stateLog_all_histories (crc : Bytes → Nat) (hc : CrcRange crc) (gs : List LogGen) (hgs : ∀ g ∈ gs, LogGenWF g) :
    ∃ ms, LogBounds gs ms ∧ (readEntries crc (runLog crc gs)).1 = pickLog gs ms := by
  obtain ⟨ms, hb, hwf, t', ht', hr⟩ := runLog_spec crc hc gs hgs [] [] (by simp) (Or.inl rfl)
  refine ⟨ms, hb, ?_⟩
  unfold runLog
  rw [show ([] : Bytes) = frames crc [] ++ [] from rfl, hr, readEntries_frames_torn crc hc _ hwf t' ht']
  rfl

example : ∃ gs : List LogGen, (∀ g ∈ gs, LogGenWF g) ∧ gs.length = 3 ∧ ∀ g ∈ gs, g.k % 2 = 1 ∧ g.k / 2 < g.es.length :=
  ⟨[⟨[⟨1, [1]⟩, ⟨1, [2]⟩], 3, 5⟩, ⟨[⟨1, [3]⟩], 1, 11⟩, ⟨[⟨1, [4]⟩, ⟨1, [5]⟩], 1, 0⟩], by decide, by decide, by decide⟩

/-- The history that loses an acknowledged entry without fix a250036 (an 11-byte torn frame, restart, one entry written and
synced, restart): the entry is recovered. (`sumCrc`: a checksum small enough for the kernel.) -/
def sumCrc (bs : Bytes) : Nat := (bs.foldl (fun a b => a + b.toNat) 0) % 4294967296

theorem stateLog_regression :
    (readEntries sumCrc (runLog sumCrc [⟨[⟨1, [170, 187]⟩], 1, 11⟩, ⟨[⟨1, [1]⟩], 2, 0⟩])).1 = [⟨1, [1]⟩] := by decide

/-! ## Snapshots: temp file + sync + rename -/

/-- After any prefix of `writeJSONFile`'s operations and any crash, the path holds the old file (as the crash leaves
it) or exactly the new content — never a mixture or a partial file. -/
theorem snapshot_old_or_new (fs : FS) (path : String) (data : Bytes) (k : Nat) (keep : String → FileSt → Nat)
    (hne : path ++ ".tmp" ≠ path) :
    (crashImage fs (writeJSONOps path data) k keep).get path = (fs.crash keep).get path ∨
    ((crashImage fs (writeJSONOps path data) k keep).get path).map FileSt.all = some data := by
  rw [crashImage, get_crash, get_crash, get_run_writeJSON fs path data k hne]
  split
  · exact .inl rfl
  · exact .inr (by simp [FileSt.crash, FileSt.all])

example : ("/d/topics.json" ++ ".tmp" ≠ "/d/topics.json") := by decide

/-! ## Segment + index: acknowledged ⇒ durable, contiguity, and the k ↔ k pairing -/

/-- File level, any codec: after any prefix of `write b₀, sync, write b₁, sync, …` and any loss of the unsynced
tail the file is the first `k/2` records complete plus a prefix of the next one: acknowledged (synced) batches
and index entries are on disk in full, in order. (Segment and index file each follow this protocol.) -/
theorem segment_crash_content (encs : List Bytes) (k n : Nat) :
    ((runF {} ((appendHist encs).take k)).crash n).all =
      (encs.take (k / 2)).flatten ++ (if k % 2 = 1 then (encs.getD (k / 2) []).take n else []) := by
  simpa using crash_appendHist encs [] k n

/-- Segment replay at byte level (`loadSegmentBatches` after fix fc48882, index file present): complete valid batches
followed by a torn batch — any proper prefix of a valid batch, no CRC assumption — replay to the complete batches that
have a complete index entry (`idx.length / 15` of them), batch k carrying index entry k; a batch without an entry and
everything behind it is dropped. -/
theorem segment_torn_tail (crc : Bytes → Nat) (idx : Bytes) (raws : List Bytes) (bs : List Batch) (h : AllOK crc raws bs)
    (raw0 : Bytes) (b0 : Batch) (h0 : BatchOK crc raw0 b0) (n : Nat) (hn : n < raw0.length) :
    loadSegment crc (raws.flatten ++ raw0.take n) (some idx) = pairIdx crc idx 0 (bs.take (idx.length / 15)) := by
  unfold loadSegment
  have := loadSegmentAux_batches_torn crc idx raws bs h raw0 b0 h0 n hn (raws.flatten ++ raw0.take n).length 0 (by
    have := flatten_length_ge crc raws bs h
    simp only [List.length_append]; omega)
  simpa [indexEntrySize] using this

example : ∃ raw b, BatchOK (fun _ => 0) raw b :=
  have h : (decodeBatch (fun _ => 0) (List.replicate 11 0 ++ [49] ++ List.replicate 49 0)).isSome := by decide
  ⟨List.replicate 11 0 ++ [49] ++ List.replicate 49 0, (decodeBatch (fun _ => 0) _).get h, by decide, by decide,
   (Option.some_get h).symm⟩

/-- offsets: (first, count) batches are contiguous from `start`. -/
def Contig : Nat → List (Nat × Nat) → Prop
  | _, [] => True
  | s, (f, c) :: r => f = s ∧ Contig (s + c) r

/-- A recovered prefix of a contiguous log is contiguous. -/
theorem contiguous_prefix (bs : List (Nat × Nat)) : ∀ (s j : Nat), Contig s bs → Contig s (bs.take j) := by
  induction bs with
  | nil => intro s j _; simp [Contig]
  | cons x r ih =>
    intro s j h
    cases j with
    | zero => simp [Contig]
    | succ j => obtain ⟨f, c⟩ := x; exact ⟨h.1, ih _ j h.2⟩

/-- PAIRING, ALL HISTORIES. Over any multi-generation history — complete appends, a crash inside an append that keeps
none, both, only the segment record or only the index record, restart (`loadSegmentBatches` after fix fc48882: surplus
index entries and entry-less batches are both cut), more appends, … — every acknowledged batch is replayed with the
index metadata (epoch, maxEarlierTimestamp, inTx) it was appended with, and every replayed batch has an index entry. -/
theorem pairing_all_histories {β μ} (gs : List (Generation β μ)) :
    (∀ bm ∈ ackedOf gs, (bm.1, some bm.2) ∈ (SegIdx.runGens ⟨[], []⟩ gs).paired) ∧
    (∀ p ∈ (SegIdx.runGens ⟨[], []⟩ gs).paired, p.2.isSome = true) := by
  rw [show (⟨[], []⟩ : SegIdx β μ) = ofPairs [] from rfl, runGens_ofPairs, paired_ofPairs, List.nil_append]
  refine ⟨fun bm hbm => List.mem_map.2 ⟨bm, ?_, rfl⟩, fun p hp => ?_⟩
  · obtain ⟨d, hd, hb⟩ := List.mem_flatten.1 hbm
    obtain ⟨g, hg, rfl⟩ := List.mem_map.1 hd
    exact List.mem_flatMap.2 ⟨g, hg, List.mem_append_left _ hb⟩
  · obtain ⟨q, -, rfl⟩ := List.mem_map.1 hp
    rfl
example : ∃ gs : List (Generation Nat Nat), (ackedOf gs).length = 2 ∧ gs.any (fun g => g.inflight.isSome) :=
  ⟨[⟨[(0, 100)], some (1, 101, .segOnly)⟩, ⟨[(2, 102)], none⟩], by decide, by decide⟩

/-- The history that skews the pairing without fix fc48882 (generation 1 crashes after the segment write of batch 0,
before its index write; generation 2 appends and acknowledges batch 1 with metadata 101): batch 0 is dropped and batch 1
replays with its own entry. -/
theorem pairing_regression :
    (SegIdx.runGens (⟨[], []⟩ : SegIdx Nat Nat) [⟨[], some (0, 100, .segOnly)⟩, ⟨[(1, 101)], none⟩]).paired
      = [(1, some 101)] := by decide

/-! ## Partition snapshots: a stale snapshot.json never hides acknowledged records -/

/-- byte-level model of `loadPartition`: the snapshot path is taken only when a snapshot is present and lists exactly
the current segment files with their current sizes -/
theorem loadPartition_snapshot_only_if_sizes_equal (crc : Bytes → Nat) (segs : List (Nat × Bytes × Option Bytes)) (sp : Bool)
    (snap : Option Snap) (h : (loadPartition crc segs sp snap).viaSnapshot = true) :
    ∃ s, snap = some s ∧ s.segs.length = segs.length ∧
      (s.segs.zip segs).all (fun (ss, sg) => ss.1 = sg.1 && ss.2 = sg.2.1.length) = true := by
  revert h
  fun_cases loadPartition crc segs sp snap
  case case1 hu _ _ _ =>
    -- only this branch sets the flag: `useSnap` has accepted the snapshot
    intro _
    cases snap with
    | none => simp +zetaDelta only [ite_self, reduceCtorEq] at hu
    | some s =>
      simp +zetaDelta only [Option.ite_none_right_eq_some] at hu
      exact ⟨s, rfl, by simpa using hu.2.1⟩
  all_goals exact fun h => nomatch h

/-- SNAPSHOTS, ALL LINEAGES. `snapshot.json` is written only by a clean Close. Over every lineage — acknowledged appends
in any segment layout (same file or after rolls), crashes leaving any torn bytes and any layout of the same complete
batches, restarts (start-up truncation), clean Closes, in any order and number — start-up recovers a high watermark
equal to the end of ALL complete durable batches, i.e. every acknowledged record, whether the snapshot path or the full
replay is taken: a stale snapshot from an earlier clean Close never lowers it. -/
theorem snapshot_all_lineages (d : PDisk) (h : PReach d) : d.recoverHwm = d.count := by
  unfold PDisk.recoverHwm PDisk.recoverHwmWith
  cases hs : d.snap with
  | none => rfl
  | some x =>
    obtain ⟨sz, hw⟩ := x
    by_cases hm : sz = d.sizes
    · have := (snapshot_matches_only_if_current (pinv_reach h) sz hw hs (congrArg List.sum hm)).1
      simp only [this, Nat.min_self, ite_self]
    · simp [hm]

/-- The key lemma behind it: on a reachable disk a snapshot whose recorded sizes equal the current file sizes (the
only case in which `loadPartition` uses it) describes exactly the current log — same high watermark, no torn bytes;
any append since the Close changes a size (every batch has bytes), so a stale snapshot forces a full replay. -/
theorem snapshot_used_only_if_current (d : PDisk) (h : PReach d) (sz : List Nat) (hw : Nat) (hs : d.snap = some (sz, hw))
    (hm : sz = d.sizes) : hw = d.count ∧ d.junk = 0 :=
  snapshot_matches_only_if_current (pinv_reach h) sz hw hs (congrArg List.sum hm)

/-- the lineage close → produce → crash: two batches before the Close, one acknowledged after it, then a crash -/
def staleDisk : PDisk := { segs := [[⟨3, 94⟩, ⟨1, 72⟩, ⟨2, 83⟩]], junk := 0, snap := some ([166], 4) }

theorem staleDisk_reachable : PReach staleDisk := by
  have h0 : PReach {} := PReach.init
  have h1 := PReach.step h0 (PStep.append {} ⟨3, 94⟩ [[⟨3, 94⟩]] rfl (by decide) rfl)
  have h2 := PReach.step h1 (PStep.append _ ⟨1, 72⟩ [[⟨3, 94⟩, ⟨1, 72⟩]] rfl (by decide) rfl)
  have h3 := PReach.step h2 (PStep.close _ rfl)
  have h4 := PReach.step h3 (PStep.restart _)
  have h5 := PReach.step h4 (PStep.append _ ⟨2, 83⟩ [[⟨3, 94⟩, ⟨1, 72⟩, ⟨2, 83⟩]] rfl (by decide) rfl)
  have h6 := PReach.step h5 (PStep.crash _ [[⟨3, 94⟩, ⟨1, 72⟩, ⟨2, 83⟩]] 0 rfl)
  exact h6

/-- non-vacuity: the stale snapshot is on disk, does not match (166 ≠ 249), and the full replay recovers all 6 records -/
example : staleDisk.snap = some ([166], 4) ∧ staleDisk.sizes = [249] ∧ staleDisk.recoverHwm = 6 ∧ staleDisk.count = 6 := by decide

/-- the comparison of the seeded change C33b (`info.Size() < ss.Size` rejects, i.e. recorded ≤ current accepts) -/
def acceptNotShorter (sz cur : List Nat) : Bool := sz.length = cur.length && (sz.zip cur).all (fun (a, b) => decide (a ≤ b))

/-- with that comparison the statement is false: the stale snapshot is accepted and records 4 and 5, acknowledged before
the crash, lie above the recovered high watermark -/
theorem snapshot_all_lineages_needs_equality :
    ¬ ∀ d, PReach d → d.recoverHwmWith acceptNotShorter = d.count := by
  intro h
  have := h staleDisk staleDisk_reachable
  revert this
  decide

/-- CRASH-ABORT DURABILITY (false):
  `∀ bs later a, a ∈ fullReplayAborted bs → ∃ a' ∈ fullReplayAborted (bs ++ later), a'.pid = a.pid ∧ a'.first = a.first`
i.e. a transaction that one recovery (`loadPartitionFullReplay`) implicitly aborts — it was open at the crash — stays
aborted in every later recovery of the extended log. The implicit abort lives only in memory (and in the snapshot of a
clean Close): no abort marker is appended, so a later full replay closes the old transaction with the producer's next
COMMIT marker. What holds trivially (`_partial`): as long as nothing is appended. -/
theorem crash_abort_durable_partial (bs : List (Batch × IdxMeta)) (a : Aborted) (h : a ∈ fullReplayAborted bs) :
    ∃ a' ∈ fullReplayAborted (bs ++ []), a'.pid = a.pid ∧ a'.first = a.first :=
  ⟨a, by simpa using h, rfl, rfl⟩

def wT (pid first : Nat) : Batch × IdxMeta :=
  (⟨first, 1, pid, 0, 0, 16, 0, 70, false, false⟩, { inTx := true })
def wCommit (pid first : Nat) : Batch × IdxMeta :=
  (⟨first, 1, pid, 0, -1, 48, 0, 70, true, false⟩, {})

/-- Negation (key `crash-aborted-txn-has-no-marker`): producer 7 has a transaction open at offset 0 when the crash
happens; after restart it produces offset 1 in a new transaction and commits (marker at 2). The first recovery lists
(7, 0) as aborted, the next full replay lists nothing: the records at offset 0 have become committed. -/
theorem crash_abort_not_durable :
    ¬ ∀ (bs later : List (Batch × IdxMeta)) (a : Aborted), a ∈ fullReplayAborted bs →
        ∃ a' ∈ fullReplayAborted (bs ++ later), a'.pid = a.pid ∧ a'.first = a.first := by
  intro h
  have := h [wT 7 0] [wT 7 1, wCommit 7 2] ⟨7, 0, 0⟩ (by decide)
  revert this
  decide

end Props.C33
