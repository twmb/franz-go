import FranzVerif.Gen.C24
import FranzVerif.Model.C24
import FranzVerif.Proof.C24
/-! C24 — protocol tables are mutually consistent.

`Gen.C24.errTable`, `keyTable`, `relTables` are regenerated on every run by executing `kerr.ErrorForCode`,
`kerr.TypedErrorForCode`, `kmsg.RequestForKey/ResponseForKey/NameForKey` (+ `Key()`, `MaxVersion()`,
`ResponseKind()/RequestKind()`) and `LookupMaxKeyVersion` of every named `kversion` release of the tree
under verification on *every* `int16` value; the theorems below are re-checked against those dumps.

The three `*_checked` theorems are kernel evaluations of the interval-level checker over the dumps
(on the order of a hundred runs each for codes and keys, a few thousand over all release tables);
`Proof.C24.table_sound` (cover lemma + soundness of the interval check) and, for the
release tables, `Proof.C24.relOk_sound` lift them to the quantified statements `∀ code : Int16`, `∀ key : Int16`,
`∀ release, ∀ key : Int16`.
The quantifier of the property *is* a finite table, so this is a proof of the property for the dumped
tables; what ties the dumps to the code is the dumper (trusted, differentially re-run by the harness).
An equality of strings is slow to evaluate in the kernel (thousands of steps per character), so the checkers
are arranged to compare as few strings as they can: `err_table_checked` runs `errCore`, which leaves the comparison
of the two answers of a code to `err_answers_agree`, and `releases_listed` compares names as numerals. -/
namespace Props.C24
open Model.C24 Gen.C24 Proof.C24

/-- `ErrorForCode c` / `TypedErrorForCode c` of the current tree (as dumped). -/
def errorForCode (c : Int16) : Option ErrOut := lookup errTable c.toInt
/-- `RequestForKey k`, `ResponseForKey k`, `NameForKey k` of the current tree (as dumped). -/
def msgsForKey (k : Int16) : Option KeyOut := lookup keyTable k.toInt

private theorem i16 (c : Int16) : -32768 ≤ c.toInt ∧ c.toInt ≤ 32767 := by
  have h1 := Int16.le_toInt c
  have h2 := Int16.toInt_lt c
  omega

/-! ## kerr: every code maps to an error carrying that code, 0 to none, unknown codes to UNKNOWN_SERVER_ERROR -/

/-- The dumped code table tiles int16 and every run passes the interval check of `errSpec`, the comparison of
    the two answers (`err_answers_agree`) left out. -/
theorem err_table_checked : tableOk errCore errUniform errTable = true := by decide +kernel

/-- For every int16 code the table answers, and the answer satisfies the Spec: `ErrorForCode` and
    `TypedErrorForCode` agree; 0 ↦ nil; a non-zero code ↦ an error whose `Code` is that code, or — only outside
    Kafka's code range −1…133 — UNKNOWN_SERVER_ERROR (code −1). -/
theorem err_every_code (c : Int16) : ∃ o, errorForCode c = some o ∧ errSpec c.toInt o = true := by
  obtain ⟨e, he, _, _, h1, h2⟩ := table_sound errCore errUniform
    (fun lo hi o x h hlo hhi => ((errSpec_iff x o).mp (errUniform_sound lo hi o x h hlo hhi)).2)
    errTable err_table_checked c.toInt (i16 c).1 (i16 c).2
  exact ⟨e.val, h1, (errSpec_iff _ _).mpr ⟨(err_answers_agree e he).symm, h2⟩⟩

/-- Code 0 maps to no error (from both functions). -/
theorem err_code_zero : errorForCode 0 = some ⟨.nil, .nil⟩ := by decide +kernel

/-- Only code 0 maps to no error. -/
theorem err_nil_only_zero (c : Int16) (o : ErrOut) (h : errorForCode c = some o) (hn : o.efc = .nil) :
    c.toInt = 0 := by
  obtain ⟨o', h1, h2⟩ := err_every_code c
  rw [h] at h1; cases h1
  simp only [errSpec_eq_true, hn] at h2
  exact h2.2

/-- Every returned error carries the code asked for, or is UNKNOWN_SERVER_ERROR (code −1) for a code outside −1…133. -/
theorem err_carries_code (c : Int16) (o : ErrOut) (v : ErrVal) (h : errorForCode c = some o) (hv : o.efc = .err v) :
    o.typed = .err v ∧
    (v.code = c.toInt ∨ (v.code = -1 ∧ v.msg = "UNKNOWN_SERVER_ERROR" ∧ (c.toInt < -1 ∨ 133 < c.toInt))) := by
  obtain ⟨o', h1, h2⟩ := err_every_code c
  rw [h] at h1; cases h1
  simp only [errSpec_eq_true, hv] at h2
  exact ⟨h2.1.symm, h2.2.2.imp_right fun ⟨⟨h3, h4⟩, h5⟩ => ⟨h3, h4, h5⟩⟩

/-- Every Kafka error code (−1 … 133 except 0) is known: it maps to an error carrying exactly that code. -/
theorem err_kafka_codes_known (c : Int16) (h1 : -1 ≤ c.toInt) (h2 : c.toInt ≤ 133) (h0 : c.toInt ≠ 0) :
    ∃ v, errorForCode c = some ⟨.err v, .err v⟩ ∧ v.code = c.toInt := by
  obtain ⟨⟨efc, typed⟩, ho, hs⟩ := err_every_code c
  simp only [errSpec_eq_true] at hs
  obtain ⟨rfl, hs⟩ := hs
  cases efc with
  | nil => exact absurd hs h0
  | other w => cases hs
  | err v => exact ⟨v, ho, hs.2.resolve_right fun h => by omega⟩

/-! ## kmsg: request and response of every key agree on key, name and max version -/

theorem key_table_checked : tableOk keySpec keyUniform keyTable = true := by decide +kernel

/-- For every int16 key the dispatch answers and the answer satisfies `keySpec`. -/
theorem key_every_key (k : Int16) : ∃ o, msgsForKey k = some o ∧ keySpec k.toInt o = true :=
  have ⟨e, _, _, _, h⟩ := table_sound keySpec keyUniform keyUniform_sound keyTable key_table_checked k.toInt (i16 k).1 (i16 k).2
  ⟨e.val, h⟩

/-- Spelled out: a key has neither a request nor a response type (and then no name), or it has both, both
    report that key, the same max version ≥ 0, and type names `<Name>Request` / `<Name>Response` where `<Name>` is
    `NameForKey`; `ResponseKind()`/`RequestKind()` point at each other's type. -/
theorem key_req_resp_agree (k : Int16) (o : KeyOut) (h : msgsForKey k = some o) :
    (o.req = .none ∧ o.resp = .none ∧ isNoName o.name = true) ∨
    (∃ q r, o.req = .msg q ∧ o.resp = .msg r ∧ q.key = k.toInt ∧ r.key = k.toInt ∧ q.max = r.max ∧ 0 ≤ q.max ∧
      q.stem = o.name ∧ r.stem = o.name ∧ q.kind = o.name ∧ r.kind = o.name ∧ isNoName o.name = false) := by
  obtain ⟨o', h1, h2⟩ := key_every_key k
  rw [h] at h1; cases h1
  obtain ⟨req, resp, name⟩ := o
  cases req <;> cases resp <;> simp [keySpec, and_assoc] at h2
  · exact Or.inl ⟨rfl, rfl, h2⟩
  · -- the conjuncts of `keySpec`, in its order
    obtain ⟨a, b, c, d, e, f, g, i, j⟩ := h2
    exact Or.inr ⟨_, _, rfl, rfl, a, b, c, d, f, g, i, j, e⟩

/-- No key above `kmsg.MaxKey` (and no negative key) has a type. -/
theorem key_bounded_by_MaxKey (k : Int16) (h : k.toInt < 0 ∨ maxKey < k.toInt) :
    ∃ o, msgsForKey k = some o ∧ o.req = .none ∧ o.resp = .none := by
  have hb : (keyTable.all fun e => (decide (0 ≤ e.lo) && decide (e.hi ≤ maxKey)) || (e.val.req == .none && e.val.resp == .none)) = true := by
    decide +kernel
  obtain ⟨e, hm, h3, h4, h5, _⟩ :=
    table_sound keySpec keyUniform keyUniform_sound keyTable key_table_checked k.toInt (i16 k).1 (i16 k).2
  have := (List.all_eq_true.mp hb) e hm
  simp only [Bool.or_eq_true, Bool.and_eq_true, decide_eq_true_eq, beq_iff_eq] at this
  refine ⟨e.val, h5, ?_⟩
  rcases this with ⟨h6, h7⟩ | h8
  · omega
  · exact h8

/-! ## kversion: no named release allows a version beyond the codec's -/

/-- Every dumped release table tiles int16 and every run passes the interval check of `relSpec` against the
    dumped codec table. -/
theorem rel_tables_checked :
    (relTables.all fun r => covers r.2 int16Min int16Max && relOk keyTable r.2) = true := by decide +kernel

/-- For every named release and every int16 key the release answers, and `relSpec` holds of that answer together
    with the codec's maxima for the key. -/
theorem release_every_key (name : String) (t : List (Entry RelVal)) (hr : (name, t) ∈ relTables) (k : Int16) :
    ∃ v, lookup t k.toInt = some v ∧ relPoint keyTable k.toInt v = true :=
  have h := (Bool.and_eq_true _ _).mp ((List.all_eq_true.mp rel_tables_checked) (name, t) hr)
  relOk_sound keyTable keyTable t int16Min int16Max (fun _ _ => rfl) h.1 h.2 k.toInt (i16 k).1 (i16 k).2

/-- Spelled out: if a named release has a key, the codec has a request and a response type for that key and the
    release's max version is within `[0, MaxVersion()]` of both; if it has not, the lookup answers −1. -/
theorem release_within_codec (name : String) (t : List (Entry RelVal)) (hr : (name, t) ∈ relTables) (k : Int16)
    (v : RelVal) (h : lookup t k.toInt = some v) :
    (v.has = true → ∃ o q r, msgsForKey k = some o ∧ o.req = .msg q ∧ o.resp = .msg r ∧
        0 ≤ v.max ∧ v.max ≤ q.max ∧ v.max ≤ r.max) ∧
    (v.has = false → v.max = -1) := by
  obtain ⟨v', h1, h2⟩ := release_every_key name t hr k
  rw [h] at h1; cases h1
  constructor
  · intro hh
    obtain ⟨o, ho, _⟩ := key_every_key k
    have ho' : lookup keyTable k.toInt = some o := ho
    simp only [relPoint, relSpec, codecOf, ho', hh, if_true, Bool.and_eq_true, decide_eq_true_eq] at h2
    obtain ⟨req, resp, nm⟩ := o
    cases req <;> cases resp <;> simp [reqMaxOf, respMaxOf] at h2
    exact ⟨_, _, _, ho, rfl, rfl, h2.1, h2.2.1, h2.2.2⟩
  · intro hh
    simpa [relPoint, relSpec, hh] using h2

/-- The release list has at least the exported constructors (whose set the dumper cross-checks against a go/ast
    scan of the kversion sources) and no name twice. -/
theorem releases_listed : numCtors ≤ relTables.length ∧ (relTables.map (·.1)).Nodup ∧
    "Stable" ∈ relTables.map (·.1) ∧ "Tip" ∈ relTables.map (·.1) := by
  -- names whose bytes, read as a numeral, differ are different; numerals are far cheaper to compare than strings
  let num (s : String) : Nat := s.toByteArray.data.toList.foldl (fun n b => n * 256 + b.toNat) 0
  have hnd : ((relTables.map (·.1)).map num).Nodup := by decide +kernel
  exact ⟨by decide +kernel, List.Pairwise.of_map num (fun _ _ h e => h (congrArg num e)) hnd, by decide +kernel,
    by decide +kernel⟩

/-- the code table has known errors (a run carrying a code other than −1) and an unknown region -/
example : (errTable.any fun e => match e.val.efc with | .err v => v.code != -1 && v.code == e.lo | _ => false) = true ∧
    (errTable.any fun e => decide (e.lo < e.hi) && errUniform e.lo e.hi e.val) = true := by decide +kernel
/-- code 45 carries 45 (OUT_OF_ORDER_SEQUENCE_NUMBER in the tree under verification) -/
example : (match errorForCode 45 with | some ⟨.err v, _⟩ => v.code == 45 | _ => false) = true := by decide +kernel
/-- some key has a request and a response, some key has neither -/
example : (keyTable.any fun e => match e.val.req, e.val.resp with | .msg _, .msg _ => true | _, _ => false) = true ∧
    (keyTable.any fun e => e.val.req == .none && e.val.resp == .none) = true := by decide +kernel
/-- some named release has key 0 with a positive max version: the hypothesis `v.has = true` of
    `release_within_codec` is satisfiable -/
example : (relTables.any fun r => match lookup r.2 0 with | some v => v.has && decide (0 < v.max) | none => false) = true := by
  decide +kernel
/-- the Specs are not trivially true: a wrong carried code, disagreeing max versions, a release beyond the codec -/
example : errSpec 1 ⟨.err ⟨2, "CORRUPT_MESSAGE", true⟩, .err ⟨2, "CORRUPT_MESSAGE", true⟩⟩ = false := by decide
example : keySpec 0 ⟨.msg ⟨0, 13, "Produce", "Produce"⟩, .msg ⟨0, 12, "Produce", "Produce"⟩, "Produce"⟩ = false := by decide
example : relSpec ⟨⟨14, true⟩, some 13, some 13⟩ = false := by decide
example : relSpec ⟨⟨0, true⟩, none, none⟩ = false := by decide

end Props.C24
