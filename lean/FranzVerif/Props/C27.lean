import FranzVerif.Proof.C25A
/-! C27 — cooperative rebalances hand off safely and converge.

Model: `adjust` (AdjustCooperative, exact, shared with C25) and one rebalance round
`round sticky ms g = (sticky ms, adjust ms (sticky ms), nextMembers …)` in which `sticky` — the sticky
engine, not modelled — is an arbitrary function; after a round every member owns exactly what the adjusted
plan gave it (it revoked the rest) and rejoins at generation `g`.

Specs (executable, evaluated by the driver on the implementation's plans):
* `safeHandoff ms plan`: whenever a member is assigned a partition that ANOTHER member owns with a current
  claim (lists it as owned, and nobody lists it at a higher generation), the assignee is itself a current owner
  — nothing is handed to a new owner while a current owner still holds it.
* `settled`: in the next round nothing is withheld, the plan is valid and nobody loses what it owns. No theorem concludes
  `settled … = true`: `second_round_settles_partial` proves its first and third part as propositions (under
  `StickyKeepsOwned`); the validity of the second plan is the engine's, and is evaluated by the driver. -/
namespace Props.C27
open Model.C25 Proof.C25

/-- each partition is planned for at most one member. -/
def Exclusive (plan : List Triple) : Prop := (plan.map Triple.tp).Nodup
/-- the plan only names members of the group. -/
def PlanMembers (ms : List Member) (plan : List Triple) : Prop := ∀ x ∈ plan, ∃ m ∈ ms, m.id = x.1

/-- Safety, for every group (any ownership claims, generations, conflicting and stale claims, duplicate owned
entries) and every plan the sticky engine may return as long as it plans each partition at most once and only
for members: after AdjustCooperative no member is handed a partition another member currently owns. -/
theorem cooperative_handoff_safe (ms : List Member) (plan : List Triple)
    (hex : Exclusive plan) (hmem : PlanMembers ms plan) : safeHandoff ms (adjust ms plan) = true := by
  unfold safeHandoff
  simp only [List.all_eq_true, Bool.or_eq_true, Bool.not_eq_true', List.any_eq_true, Bool.and_eq_true, beq_iff_eq]
  intro x hx o ho
  have hxP := (adjust_sublist ms plan).subset hx
  obtain ⟨m, hm, hmid⟩ := hmem x hxP
  cases hcond : (o.id != x.1 && currentOwner ms o (x.2.1, x.2.2)) with
  | false => exact Or.inl rfl
  | true =>
    refine Or.inr ⟨m, hm, hmid, ?_⟩
    simp only [currentOwner, Bool.and_eq_true, bne_iff_ne, ne_eq] at hcond
    cases hcm : currentOwner ms m (x.2.1, x.2.2) with
    | true => rfl
    | false => exact absurd hx (withheld_of_not_current ms plan hex x hxP m hm hmid hcm o ho hcond.2.1 hcond.1)

/-- non-vacuity: a stale claimant (generation 2) is re-given partition 0 that the current owner (generation 5)
still holds; the plan is exclusive, and the adjusted plan withholds the partition from the stale member. -/
example :
    let ms : List Member := [{ id := "stale", gen := 2, topics := ["t"], owned := [("t", [0])] },
                             { id := "cur", gen := 5, topics := ["u"], owned := [("t", [0])] }]
    Exclusive [("stale", "t", 0)] ∧ PlanMembers ms [("stale", "t", 0)]
    ∧ adjust ms [("stale", "t", 0)] = [] ∧ safeHandoff ms [("stale", "t", 0)] = false := by
  refine ⟨by unfold Exclusive; decide, ?_, by decide, by decide⟩
  intro x hx; simp at hx; subst hx; exact ⟨_, List.mem_cons_self, rfl⟩

/-- Hypothesis on the (unmodelled) sticky engine, checked on the real engine by the differential run for every
generated history: re-run on the group as it stands after a round, it keeps every partition where it is. -/
def StickyKeepsOwned (sticky : List Member → List Triple) (ms : List Member) (g : Int) : Prop :=
  ∀ x ∈ adjust ms (sticky ms), x ∈ sticky (nextMembers ms (adjust ms (sticky ms)) g)

/-- Stronger hypothesis: the engine is stable on its own adjusted output (the second plan is the first one). -/
def StickyStable (sticky : List Member → List Triple) (ms : List Member) (g : Int) : Prop :=
  (sticky (nextMembers ms (adjust ms (sticky ms)) g)).Perm (sticky ms)

/- Convergence, full statement: for every sticky engine that returns valid plans, every group `ms` and
generation `g`, with (p1, a1, ms1) = round sticky ms g and (p2, a2, _) = round sticky ms1 (g+1):
     a2.Perm p1      — the second rebalance hands out exactly the intended assignment.
   This is not provable from validity of the engine alone (`convergence_needs_engine_hypothesis`), and the
   differential run shows the real engine violating `StickyKeepsOwned` on some histories (finding
   coop-sticky-moves-owned-in-round2). Proved: the statement under `StickyStable`, and the settling part
   (nothing withheld, nothing moved) under the weaker `StickyKeepsOwned`. -/

/-- Under `StickyKeepsOwned` the second round withholds nothing and moves nothing: its adjusted plan IS the
sticky plan and contains everything every member owned, so no member revokes and the group is settled. -/
theorem second_round_settles_partial (sticky : List Member → List Triple) (ms : List Member) (g : Int)
    (h : StickyKeepsOwned sticky ms g) :
    let r1 := round sticky ms g
    let r2 := round sticky r1.2.2 (g + 1)
    r2.2.1 = r2.1 ∧ ∀ x ∈ r1.2.1, x ∈ r2.2.1 := by
  have he := adjust_next_eq ms (adjust ms (sticky ms)) g (sticky (nextMembers ms (adjust ms (sticky ms)) g)) h
  simp only [round]
  exact ⟨he, fun x hx => by rw [he]; exact h x hx⟩

/-- Under `StickyStable` the second rebalance hands out exactly the intended assignment of the first. -/
theorem two_round_convergence_partial (sticky : List Member → List Triple) (ms : List Member) (g : Int)
    (h : StickyStable sticky ms g) :
    let r1 := round sticky ms g
    let r2 := round sticky r1.2.2 (g + 1)
    r2.2.1.Perm r1.1 := by
  have hk : StickyKeepsOwned sticky ms g := fun x hx => h.symm.subset ((adjust_sublist ms (sticky ms)).subset hx)
  have := (second_round_settles_partial sticky ms g hk).1
  simp only [round] at this ⊢
  rw [this]; exact h

/-- the engine of `convergence_needs_engine_hypothesis`: two members on one partition; gives it to whoever does not own it. -/
def flipSticky (ms : List Member) : List Triple :=
  if ms.any (fun m => m.id == "a" && claims m ("t", 0)) then [("b", "t", 0)] else [("a", "t", 0)]

/-- The hypotheses are satisfiable by a non-trivial state: the constant engine moving a partition from its
owner `a` to `b` is stable; round 1 withholds the partition, round 2 completes the move. -/
example :
    let ms : List Member := [{ id := "a", gen := 1, topics := ["t"], owned := [("t", [0])] }, { id := "b", gen := 1, topics := ["t"] }]
    let st : List Member → List Triple := fun _ => [("b", "t", 0)]
    StickyStable st ms 2 ∧ (round st ms 2).2.1 = [] ∧ (round st (round st ms 2).2.2 3).2.1 = [("b", "t", 0)] := by
  refine ⟨List.Perm.refl _, by decide, by decide⟩

/-- Validity of the engine's plans alone does not give convergence: `flipSticky` returns a valid plan in both
rounds for the two-member group below, yet its second round plans the partition for the other member again instead of completing the first plan. -/
theorem convergence_needs_engine_hypothesis :
    ¬ ∀ (sticky : List Member → List Triple) (ms : List Member) (g : Int) (n : String → Nat),
        validPlan (subsOf ms) n (sticky ms) = true →
        validPlan (subsOf (round sticky ms g).2.2) n (sticky (round sticky ms g).2.2) = true →
        (round sticky (round sticky ms g).2.2 (g + 1)).2.1.Perm (round sticky ms g).1 := by
  intro h
  have := h flipSticky
    [{ id := "a", gen := 1, topics := ["t"], owned := [("t", [0])] }, { id := "b", gen := 1, topics := ["t"] }] 2
    (cnt [("t", 1)]) (by decide) (by decide)
  have hm : (("a", "t", 0) : Triple) ∈ (round flipSticky
      [{ id := "a", gen := 1, topics := ["t"], owned := [("t", [0])] }, { id := "b", gen := 1, topics := ["t"] }] 2).1 :=
    this.subset (by decide)
  revert hm
  decide

end Props.C27
