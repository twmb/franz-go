import FranzVerif.Model.C37
import FranzVerif.Proof.C37
/-! C37 — property theorems: the kotel record carrier is a string map over record headers, and a
trace context injected through it is extracted unchanged.

All statements quantify over every header list (duplicate keys, empty keys, nil/empty values
included) and every key/value; the sequence laws over every sequence of `Set`s. The model
(`cget/cset/ckeys`) is tied to plugin/kotel/carrier.go by the differential run. -/
namespace Props.C37
open Model.C37 Proof.C37

/-- After `Set(k, v)`, `Get(k)` returns `v` — also when `k` occurs several times in the headers. -/
theorem get_after_set (h : List Hdr) (k v : Bytes) : cget (cset h k v) k = v :=
  get_set_self h k v

/-- `Set(k, v)` does not change what `Get` answers for any other key. -/
theorem get_other_after_set (h : List Hdr) (k v k' : Bytes) (hne : k' ≠ k) :
    cget (cset h k v) k' = cget h k' :=
  get_set_other h k v k' hne

/-- No other header changes: `Set` rewrites exactly the first header whose key is `k` (key kept, value
`v`, everything before and after untouched), or appends `(k, v)` when no header has key `k`. -/
theorem set_changes_one_header (h : List Hdr) (k v : Bytes) :
    (∃ pre x post, h = pre ++ x :: post ∧ x.key = k ∧ (∀ y ∈ pre, y.key ≠ k) ∧
        cset h k v = pre ++ ⟨k, some v⟩ :: post) ∨
    ((∀ y ∈ h, y.key ≠ k) ∧ cset h k v = h ++ [⟨k, some v⟩]) := by
  fun_induction cset h k v with
  | case1 k v => exact Or.inr ⟨nofun, rfl⟩
  | case2 x xs v => exact Or.inl ⟨[], x, xs, rfl, rfl, nofun, rfl⟩
  | case3 x xs k v hk ih =>
    have hcons {ys : List Hdr} (hys : ∀ y ∈ ys, y.key ≠ k) : ∀ y ∈ x :: ys, y.key ≠ k :=
      List.forall_mem_cons.2 ⟨hk, hys⟩
    rcases ih with ⟨pre, y, post, h1, h2, h3, h4⟩ | ⟨h1, h2⟩
    · exact Or.inl ⟨x :: pre, y, post, by rw [h1]; rfl, h2, hcons h3, by rw [h4]; rfl⟩
    · exact Or.inr ⟨hcons h1, by rw [h2]; rfl⟩

/-- `Keys` lists the header keys in header order (duplicates included), and `Set` adds the key at the end
exactly when it was absent. -/
theorem keys_lists_header_keys (h : List Hdr) (k v : Bytes) :
    ckeys h = h.map (·.key) ∧ ckeys (cset h k v) = if k ∈ ckeys h then ckeys h else ckeys h ++ [k] :=
  ⟨keys_eq_map h, keys_set h k v⟩

/-- The executable Spec that the driver evaluates on the implementation's observations holds of the model
for every `Set`. -/
theorem set_satisfies_spec (h : List Hdr) (k v : Bytes) :
    specSet (obs h k) k v (obs (cset h k v) k) = true := by
  simp only [specSet, obs, specKeys, Bool.and_eq_true, beq_iff_eq]
  exact ⟨⟨⟨get_after_set h k v, keys_eq_map _⟩, changeOK_set h k v⟩, othersSame_set k v h h⟩

/-- Reads (`Get`, `Keys`) satisfy the read Spec: nothing changes, `Get k` is the value of the first header
with key `k`, or "" when no header has it. -/
theorem read_satisfies_spec (h : List Hdr) (k0 k : Bytes) :
    specRead (obs h k0) k (obs h k) = true ∧ (k ∉ ckeys h → cget h k = []) := by
  refine ⟨?_, fun hk => get_absent h k (by rw [← keys_eq_map]; exact hk)⟩
  simp only [specRead, obs, specKeys, Bool.and_eq_true, beq_iff_eq]
  refine ⟨⟨⟨trivial, trivial⟩, keys_eq_map _⟩, ?_⟩
  rw [expectGet_eq h h k]
  split
  · rfl
  · rename_i hk; exact get_absent h k hk

/-- Sequence law (what a TextMap propagator needs): after any sequence of `Set`s, `Get(k)` is the LAST
value set for `k`, or what the original headers gave when `k` was never set. -/
theorem get_after_set_sequence (h : List Hdr) (kvs : List (Bytes × Bytes)) (k : Bytes) :
    cget (setAll h kvs) k = (lastVal kvs k).getD (cget h k) := by
  induction kvs using rev_ind with
  | hnil => simp [setAll, lastVal]
  | snoc kvs kv ih =>
    rw [setAll_append, lastVal_append]
    by_cases hk : kv.1 = k
    · subst hk; simp [get_after_set]
    · have : k ≠ kv.1 := fun h => hk h.symm
      rw [get_set_other _ _ _ _ this, ih]; simp [hk]

/-- Inject-then-extract through the carrier: if the injected keys are pairwise distinct, extracting every
injected key returns exactly the injected values, whatever headers (duplicates of those keys included)
the record carried before. -/
theorem inject_then_extract (h : List Hdr) (kvs : List (Bytes × Bytes))
    (hnd : (kvs.map (·.1)).Nodup) :
    kvs.map (fun kv => cget (setAll h kvs) kv.1) = kvs.map (·.2) := by
  apply List.map_congr_left
  intro kv hkv
  rw [get_after_set_sequence]
  suffices lastVal kvs kv.1 = some kv.2 by simp [this]
  clear h
  induction kvs using rev_ind with
  | hnil => simp at hkv
  | snoc kvs x ih =>
    rw [lastVal_append]
    simp only [List.map_append, List.map_cons, List.map_nil] at hnd
    have hnd' := List.nodup_append.mp hnd
    rcases List.mem_append.mp hkv with hm | hm
    · have hne : x.1 ≠ kv.1 := by
        intro he
        exact hnd'.2.2 kv.1 (List.mem_map.mpr ⟨kv, hm, rfl⟩) x.1 (by simp) he.symm
      simp [hne, ih hnd'.1 hm]
    · simp at hm; subst hm; simp

/-- The trace-context corollary: for every header list, the W3C propagator's `Inject` (Set tracestate when
non-empty, Set traceparent) followed by `Extract` (the two Gets) on the same headers — which is what the
consumer-side hook sees once the record has crossed the wire with its headers intact — returns the injected
traceparent, and the injected tracestate when one was injected. -/
theorem trace_context_round_trip (h : List Hdr) (tp ts : Bytes) :
    (extract (inject h tp ts)).1 = tp ∧
    (ts ≠ [] → (extract (inject h tp ts)).2 = ts) ∧
    (ts = [] → (extract (inject h tp ts)).2 = cget h tracestateKey) := by
  rw [extract, get_inject_traceparent, get_inject_tracestate]
  exact ⟨rfl, fun hts => if_neg hts, fun hts => if_pos hts⟩

/-- The propagation Spec evaluated by the driver holds of the model whenever the record carried no stale
`tracestate` header or a tracestate is injected. -/
theorem propagate_satisfies_spec (h : List Hdr) (tp ts : Bytes)
    (hstale : ts ≠ [] ∨ cget h tracestateKey = []) :
    specPropagate tp ts (extract (inject h tp ts)).1 (extract (inject h tp ts)).2 = true := by
  obtain ⟨h1, h2, h3⟩ := trace_context_round_trip h tp ts
  simp only [specPropagate, Bool.and_eq_true, beq_iff_eq]
  refine ⟨h1, ?_⟩
  by_cases hts : ts = []
  · rw [h3 hts, hts]; rcases hstale with h | h
    · exact absurd hts h
    · exact h
  · exact h2 hts

/-! Non-vacuity: duplicate keys, a nil value, an empty key. -/
example :
    let h : List Hdr := [⟨[1], some [9]⟩, ⟨[2], none⟩, ⟨[1], some [8]⟩, ⟨[], some []⟩]
    cset h [1] [7] = [⟨[1], some [7]⟩, ⟨[2], none⟩, ⟨[1], some [8]⟩, ⟨[], some []⟩]
      ∧ cget (cset h [1] [7]) [1] = [7] ∧ cget h [2] = [] ∧ ckeys h = [[1], [2], [1], []]
      ∧ cset h [3] [] = h ++ [⟨[3], some []⟩] := by simp [cset, cget, ckeys, Hdr.str]

example : (extract (inject [⟨traceparentKey, some [0]⟩, ⟨traceparentKey, none⟩] [5] [6])) = ([5], [6]) := by
  simp [extract, inject, cset, cget, Hdr.str, traceparentKey, tracestateKey]

/-! ### Records of a fetched batch: a carrier operation on one record is an operation on that record only -/

/-- NO OTHER HEADER CHANGES, across records: a `Set` through a carrier on record `i` of a batch rewrites
record `i` exactly as `Set` does and leaves the header list of EVERY other record, and the number of
records, as they were. (Immediate in the model, where records are independent values — which is the
specification; that the Go slices handed out by the fetch decoder do not alias is what the differential run
over really fetched records checks against this.) -/
theorem set_on_one_record_leaves_other_records_unchanged (b : Batch) (i : Nat) (k v : Bytes) :
    (bset b i k v).length = b.length ∧
    (bset b i k v)[i]? = (b[i]?).map (fun h => cset h k v) ∧
    ∀ j, j ≠ i → (bset b i k v)[j]? = b[j]? :=
  ⟨bmod_length _ b i, bmod_get_self _ b i, fun j hj => bmod_get_other _ b i j hj⟩

/-- The batch Spec evaluated by the driver on the implementation's dumps holds of the model for every batch,
every record index in range and every `Set`. -/
theorem batch_set_satisfies_spec (b : Batch) (i : Nat) (k v : Bytes) (hi : i < b.length) :
    specBSet (bobs b) i k v (bobs (bset b i k v)) (cget ((bset b i k v)[i]?.getD []) k) = true := by
  obtain ⟨h, hh⟩ : ∃ h, b[i]? = some h := ⟨b[i], by simp [hi]⟩
  have hs : (bset b i k v)[i]? = some (cset h k v) := by
    rw [(set_on_one_record_leaves_other_records_unchanged b i k v).2.1, hh]; rfl
  simp only [specBSet, Bool.and_eq_true]
  refine ⟨othersUntouched_bmod _ b i, ?_⟩
  simp only [bobs, List.getElem?_map, hh, hs, Option.map_some, Option.getD_some]
  have := set_satisfies_spec h k v
  simpa [specSet, obs, robs] using this

/-- The producer-side hook on one record of a fetched batch: the other records are untouched, and on the
record itself the application headers are intact, at most the two propagation fields are added, and
`Get("traceparent")` is the injected value. -/
theorem batch_inject_satisfies_spec (b : Batch) (i : Nat) (tp ts : Bytes) (hi : i < b.length) :
    specBInj (bobs b) i tp (bobs (binj b i tp ts)) (cget ((binj b i tp ts)[i]?.getD []) traceparentKey) = true := by
  obtain ⟨h, hh⟩ : ∃ h, b[i]? = some h := ⟨b[i], by simp [hi]⟩
  have hs : (binj b i tp ts)[i]? = some (inject h tp ts) := by
    unfold binj; rw [bmod_get_self, hh]; rfl
  simp only [specBInj, Bool.and_eq_true]
  refine ⟨othersUntouched_bmod _ b i, ?_⟩
  simp only [bobs, List.getElem?_map, hh, hs, Option.map_some, Option.getD_some]
  simp [robs, obs, specKeys, specForward, keys_eq_map, appHdrs_inject, length_inject, get_inject_traceparent]

/-- A bridge forwards the records of a fetched batch in ANY order (any sequence of injections, records
visited repeatedly or not at all): each record ends up with exactly the injections addressed to it, applied
in order to its own headers — nothing done to another record shows. -/
theorem injections_act_per_record (b : Batch) (ops : List (Nat × Bytes × Bytes)) (j : Nat) :
    (binjAll b ops)[j]? =
      (b[j]?).map (fun h => (ops.filter (fun o => o.1 == j)).foldl (fun acc o => inject acc o.2.1 o.2.2) h) := by
  induction ops generalizing b with
  | nil => simp [binjAll]
  | cons o ops ih =>
    have ih' := ih (binj b o.1 o.2.1 o.2.2)
    simp only [binjAll, List.foldl_cons] at ih' ⊢
    rw [ih']
    by_cases hj : o.1 = j
    · subst hj
      simp only [binj, bmod_get_self, List.filter_cons, beq_self_eq_true, if_true, List.foldl_cons, Option.map_map]
      rfl
    · have hne : j ≠ o.1 := fun h => hj h.symm
      have hb : (o.1 == j) = false := by simp [hj]
      simp only [binj, bmod_get_other _ b o.1 j hne, List.filter_cons, hb]
      rfl

/-- …therefore the trace context the sink extracts from a forwarded record is the one the bridge's hook
injected into THAT record last, whatever was injected into the other records of the batch and in whatever
order. -/
theorem forwarded_record_extracts_its_own_context (b : Batch) (pre post : List (Nat × Bytes × Bytes))
    (j : Nat) (tp ts : Bytes) (h : List Hdr) (hj : b[j]? = some h) (hpost : ∀ o ∈ post, o.1 ≠ j) :
    ∃ h', (binjAll b (pre ++ (j, tp, ts) :: post))[j]? = some h' ∧ (extract h').1 = tp ∧ (ts ≠ [] → (extract h').2 = ts) := by
  rw [injections_act_per_record, hj]
  have hf : post.filter (fun o => o.1 == j) = [] := by
    apply List.filter_eq_nil_iff.mpr
    intro o ho; simp [hpost o ho]
  simp only [Option.map_some, List.filter_append, List.filter_cons, beq_self_eq_true, if_true, hf,
    List.foldl_append, List.foldl_cons, List.foldl_nil]
  refine ⟨_, rfl, ?_, ?_⟩
  · exact (trace_context_round_trip _ tp ts).1
  · exact (trace_context_round_trip _ tp ts).2.1

/-! Non-vacuity: a batch of three header-bearing records, a Set of a new key on the middle one, and a bridge
that forwards back to front. -/
example :
    let b : Batch := [[⟨[1], some [9]⟩], [⟨[1], some [8]⟩], [⟨[1], some [7]⟩, ⟨[2], none⟩]]
    bset b 1 [3] [5] = [[⟨[1], some [9]⟩], [⟨[1], some [8]⟩, ⟨[3], some [5]⟩], [⟨[1], some [7]⟩, ⟨[2], none⟩]]
      ∧ specBSet (bobs b) 1 [3] [5] (bobs (bset b 1 [3] [5])) [5] = true
      ∧ othersUntouched 1 (bobs b) (bobs [[⟨[1], some [9]⟩], [⟨[1], some [8]⟩, ⟨[3], some [5]⟩], [⟨[3], some [5]⟩, ⟨[2], none⟩]]) = false := by
  decide

example :
    let b : Batch := [[⟨[1], some [9]⟩], [⟨[1], some [8]⟩]]
    ((binjAll b [(1, [5], [6]), (0, [7], [])])[0]?.map extract, (binjAll b [(1, [5], [6]), (0, [7], [])])[1]?.map extract)
      = (some ([7], []), some ([5], [6])) := by
  decide

end Props.C37
