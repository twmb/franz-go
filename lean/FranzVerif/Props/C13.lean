import FranzVerif.Model.Close
import FranzVerif.Proof.Monitor
/-! C13 — Close always finishes and leaves nothing running (PARTIAL: the wall-clock bound and the absence of
leftover goroutines are runtime behaviour; they are observed by the harness inside synctest bubbles — virtual
time, the bubble's refusal to end with blocked goroutines, and a count of the goroutines that still have a frame
of the client package once Close has returned — and enter the monitor as events). Theorems
over ALL accepted histories of `Model.Close`. -/
namespace Props.C13
open Model.Close

/-- what the state an accepted history reaches records of it -/
structure Good (h : List Ev) (s : St) : Prop where
  produced : ∀ i, i ∈ s.produced ↔ Ev.produce i ∈ h
  promised : ∀ i, i ∈ s.promised ↔ ∃ ok, Ev.promise i ok ∈ h
  closed : s.closed = true ↔ ∃ ms, Ev.closeEnd ms ∈ h
  leftChecked : s.leftChecked = true ↔ ∃ n, Ev.leftover n ∈ h

theorem isMonitor (c : Cfg) : Proof.Monitor.IsMonitor (check c) (apply c) (step c) (run c) :=
  ⟨⟨fun _ => rfl, fun s e es => by rw [run]; cases step c s e <;> rfl⟩, fun s e => by rw [step]; cases check c s e <;> rfl⟩

theorem good_step {h : List Ev} {s : St} (hg : Good h s) (c : Cfg) (e : Ev) : Good (h ++ [e]) (apply c s e) where
  produced i := by
    cases e <;> simp only [apply, List.mem_append, List.mem_singleton, reduceCtorEq, or_false, hg.produced i]
    rw [List.mem_cons, hg.produced i, Ev.produce.injEq, or_comm]
  promised i := by
    cases e <;> simp only [apply, List.mem_append, List.mem_singleton, reduceCtorEq, or_false, hg.promised i]
    rw [List.mem_cons, hg.promised i, or_comm]
    simp only [Ev.promise.injEq, exists_or, exists_and_left, exists_eq, and_true]
  closed := by
    cases e <;> simp only [apply, List.mem_append, List.mem_singleton, reduceCtorEq, or_false, hg.closed]
    simp only [Ev.closeEnd.injEq, exists_or, exists_eq, or_true]
  leftChecked := by
    cases e <;> simp only [apply, List.mem_append, List.mem_singleton, reduceCtorEq, or_false, hg.leftChecked]
    simp only [Ev.leftover.injEq, exists_or, exists_eq, or_true]

theorem check_quiesce {c : Cfg} {s : St} : check c s .quiesce = none ↔
    s.closed = true ∧ s.polled = true ∧ s.leftChecked = true ∧ ∀ i ∈ s.produced, i ∈ s.promised := by
  simp [check, Proof.Monitor.ite_some_eq_none]

theorem good_of_run {c : Cfg} {h : List Ev} {s : St} (hacc : run c {} h = some s) : Good h s :=
  (isMonitor c).inv (I := Good) (fun _ _ e hg _ => good_step hg c e) ⟨by simp, by simp, by simp, by simp⟩ hacc

/-- In every accepted history Close returned within the bound whenever it returned, no promise ran for
something not produced, no goroutine leak was observed, and every count of the client's goroutines taken
after Close was zero. Each conjunct is the rule of `check` that the event in question passed. (That no promise
ran twice is a rule of `check` as well; it is not part of this statement.) -/
theorem close_bounded_and_clean (c : Cfg) (h : List Ev) (s : St) (hacc : run c {} h = some s) :
    (∀ ms, Ev.closeEnd ms ∈ h → ms ≤ c.boundMs) ∧ Ev.leaked ∉ h ∧ (∀ n, Ev.leftover n ∈ h → n = 0) ∧
    (∀ i ok, Ev.promise i ok ∈ h → Ev.produce i ∈ h) := by
  refine ⟨fun ms he => ?_, fun he => ?_, fun n he => ?_, fun i ok he => ?_⟩ <;>
    obtain ⟨h₁, h₂, s₁, rfl, hr, hc⟩ := (isMonitor c).check_of_mem hacc he <;>
    simp only [check, Proof.Monitor.ite_some_eq_none, reduceCtorEq, and_true, Bool.not_eq_true, Bool.not_eq_false',
      List.contains_eq_mem, decide_eq_true_eq, bne_eq_false_iff_eq] at hc
  · exact Nat.le_of_not_gt hc.2
  · exact hc.2
  · exact List.mem_append_left _ (((good_of_run hr).produced i).1 hc.1)

/-- A history accepted up to its quiescent point: Close returned, every produce promise was called, and the
client's goroutines were counted after Close: none remained. (`check` also demands at `quiesce` that a poll after
Close was made, and of each such poll that it reported ErrClientClosed; `Good` does not tie `s.polled` to the
history and the statement has no conjunct for it.) -/
theorem after_close_everything_finished (c : Cfg) (h : List Ev) (s : St) (hacc : run c {} (h ++ [Ev.quiesce]) = some s) :
    (∃ ms, Ev.closeEnd ms ∈ h ∧ ms ≤ c.boundMs) ∧ (∀ i, Ev.produce i ∈ h → ∃ ok, Ev.promise i ok ∈ h) ∧
    Ev.leftover 0 ∈ h ∧ (∀ n, Ev.leftover n ∈ h → n = 0) ∧ Ev.leaked ∉ h := by
  obtain ⟨s₀, h₀, hc, _⟩ := (isMonitor c).snoc hacc
  have hg := good_of_run h₀
  obtain ⟨hbound, hleak, hzero, _⟩ := close_bounded_and_clean c h s₀ h₀
  obtain ⟨hclosed, _, hleft, hall⟩ := check_quiesce.1 hc
  obtain ⟨ms, hms⟩ := hg.closed.1 hclosed
  obtain ⟨n, hn⟩ := hg.leftChecked.1 hleft
  exact ⟨⟨ms, hms, hbound ms hms⟩, fun i hi => (hg.promised i).1 (hall i ((hg.produced i).2 hi)), hzero n hn ▸ hn,
    hzero, hleak⟩

/-- Non-vacuity: a client closed mid-produce whose outstanding promises are failed by Close. -/
example : accepts { boundMs := 60000 }
    [.produce 1, .promise 1 true, .produce 2, .produce 3, .closeStart, .promise 2 false, .closeEnd 2651,
     .promise 3 false, .pollAfterClose true, .leftover 0, .quiesce] = true := by decide
example : accepts { boundMs := 60000 } [.produce 1, .closeStart, .closeEnd 10, .pollAfterClose true, .leftover 0, .quiesce] = false := by decide
/-- a consumer whose fetch-concurrency manager is still blocked in its select after Close is refused -/
example : accepts { boundMs := 60000 } [.closeStart, .closeEnd 1, .pollAfterClose true, .leftover 1, .quiesce] = false := by decide
example : accepts { boundMs := 60000 } [.closeStart, .closeEnd 1, .pollAfterClose true, .quiesce] = false := by decide
example : accepts { boundMs := 60000 } [.closeStart, .closeEnd 1, .pollAfterClose true, .leftover 0, .quiesce] = true := by decide
example : accepts { boundMs := 60000 } [.closeStart, .closeEnd 70000] = false := by decide

end Props.C13
