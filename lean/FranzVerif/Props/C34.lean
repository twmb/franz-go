import FranzVerif.Model.C34
import FranzVerif.Proof.C34
/-! C34 — property theorems: kfake's ACL decisions against Apache Kafka's authorizer.

`Model.C34` transcribes `pkg/kfake/acl.go` with fix 46d17aa of `anyAllowed`;
`Model.C34.Spec` transcribes Kafka's `StandardAuthorizer.authorize` and `authorizeByResourceType`. The property is

    (1) ∀ acls q,  allowed acls q    = Spec.authorizeAcls acls q     (entries of Kafka's domain; with the super-user glue)
    (2) ∀ acls q,  anyAllowed acls q = Spec.byTypeAcls acls q        (no hypothesis; with the super-user glue)

Both are proved at full strength, for ACL lists of any length over any names. Without 46d17aa (2) is false
(`anyAllowed` returned true on the first matching ALLOW and never consulted DENY entries); the counterexamples
are kept below as regression `example`s and in corpus/C34. -/
namespace Props.C34
open Model.C34 Proof.C34

/-- **(1)** For every ACL list (any length, any names) and every request: kfake's `allowed` is Kafka's
`authorize` below the super-user test — any matching DENY (same operation or ALL) denies, otherwise a matching
ALLOW (same operation, ALL, or an operation implying the requested one) permits, otherwise denied. -/
theorem allowed_eq_authorize (acls : List Acl) (q : Req) (wf : ∀ a ∈ acls, a.WF) :
    allowed acls q = Spec.authorizeAcls acls q := by
  unfold allowed Spec.authorizeAcls
  rw [allowedLoop_eq acls q false (fun a ha => (wf a ha).1)]
  show _ = (if ((acls.filter (Spec.aclMatches · q)).any (·.perm == permDeny)) = true then false
    else (acls.filter (Spec.aclMatches · q)).any (·.perm == permAllow))
  generalize (acls.filter (Spec.aclMatches · q)).any (·.perm == permDeny) = x
  generalize (acls.filter (Spec.aclMatches · q)).any (·.perm == permAllow) = y
  cases x <;> cases y <;> rfl

/-- non-vacuity: DENY on a prefix beats ALLOW on the literal; READ implies DESCRIBE for ALLOW only. -/
example :
    let acls : List Acl := [⟨userStar, star, 2, [97, 98], 3, 3, 3⟩, ⟨userStar, star, 2, [97], 4, 3, 2⟩, ⟨userStar, star, 2, [98], 3, 3, 3⟩]
    (∀ a ∈ acls, a.WF) ∧
    allowed acls ⟨userPfx ++ [97], [104], [97, 98], 2, 3⟩ = false ∧     -- Read ab: denied by DENY prefixed a
    allowed acls ⟨userPfx ++ [97], [104], [97, 98], 2, 8⟩ = true ∧      -- Describe ab: implied by ALLOW Read, DENY Read does not deny it
    allowed acls ⟨userPfx ++ [97], [104], [98], 2, 3⟩ = true := by decide

/-- **(1) with the glue of `allowedACL`**: with ACLs enabled, a super user is always allowed and everybody
else gets Kafka's decision for the principal `principal user`. -/
theorem allowedACL_eq_authorize (c : Cfg) (user host name : Str) (rtype op : Nat)
    (en : c.enableACLs = true) (wf : ∀ a ∈ c.acls, a.WF) (na : c.noAnonSuper) :
    allowedACL c user host name rtype op
      = Spec.authorize (c.superusers.map principal) c.acls ⟨principal user, host, name, rtype, op⟩ := by
  unfold allowedACL Spec.authorize isSuperuser
  simp only [en, Bool.not_true, Bool.false_eq_true, if_false]
  rw [supers_contains c.superusers user na.1 na.2, allowed_eq_authorize _ _ wf]

example : (⟨true, [[97, 100]], [⟨userStar, star, 2, star, 3, 2, 2⟩]⟩ : Cfg).noAnonSuper ∧
    allowedACL ⟨true, [[97, 100]], [⟨userStar, star, 2, star, 3, 2, 2⟩]⟩ [97, 100] [104] [116] 2 4 = true ∧
    allowedACL ⟨true, [[97, 100]], [⟨userStar, star, 2, star, 3, 2, 2⟩]⟩ [97] [104] [116] 2 4 = false := by decide

/-- ACLs disabled: everything is allowed (kfake's `enableACLs` switch; Kafka without an authorizer). -/
theorem acls_disabled (c : Cfg) (user host name : Str) (rtype op : Nat) (h : c.enableACLs = false) :
    allowedACL c user host name rtype op = true ∧ anyAllowedACL c user host rtype op = true := by
  simp [allowedACL, anyAllowedACL, h]

/-- **(2)** For every ACL list and every request — no hypothesis on the entries (entries outside Kafka's domain are
dropped by the code exactly as Kafka's rule ignores them) and for every operation (the code compares the
operation with the entry's operation and ALL only, like Kafka; implied operations play no role): kfake's `anyAllowed`
is Kafka's `authorizeByResourceType` below the super-user test. A relevant DENY on the literal `*` denies; a literal
ALLOW counts unless a relevant DENY has the same literal name or a non-empty DENY prefix of it; a prefixed ALLOW counts
unless a non-empty DENY prefix of it exists; an ALLOW on the literal `*` always counts. -/
theorem anyAllowed_eq_authorizeByResourceType (acls : List Acl) (q : Req) :
    anyAllowed acls q = Spec.byTypeAcls acls q := by
  rw [anyAllowed, collect_eq, byTypeAcls_eq]
  by_cases h : denyLit acls q star = true
  · simp only [h, if_true]
  · -- both sides are now "some relevant ALLOW entry counts"; whether one entry counts is `counts_eq`
    rw [if_neg h, if_neg h]
    simp only [List.nil_append, scan_eq, List.any_filter, Bool.and_assoc]
    congr 1; funext a
    rw [scanG, dominated_denies, counts_eq]

/-- non-vacuity and regression: the ACL sets on which the code without 46d17aa answers `true` (DESIGN §8-b: wildcard
DENY, DENY on the same literal, DENY on a dominating prefix, prefixed/prefixed under DENY ALL) are denied, and the
undominated neighbours are allowed. -/
example :
    let u : Str := userPfx ++ [97]
    let q : Req := ⟨u, [104], [], 2, 4⟩
    let allowFoo : Acl := ⟨u, star, 2, [102, 111, 111], 3, 4, 3⟩
    anyAllowed [allowFoo, ⟨u, star, 2, star, 3, 4, 2⟩] q = false ∧
    anyAllowed [allowFoo, ⟨u, star, 2, [102, 111, 111], 3, 4, 2⟩] q = false ∧
    anyAllowed [allowFoo, ⟨u, star, 2, [102], 4, 4, 2⟩] q = false ∧
    anyAllowed [⟨u, star, 2, [102, 111], 4, 4, 3⟩, ⟨u, star, 2, [102], 4, 2, 2⟩] q = false ∧
    anyAllowed [allowFoo] q = true ∧
    anyAllowed [allowFoo, ⟨u, star, 2, [98], 4, 4, 2⟩] q = true ∧                 -- DENY on another prefix
    anyAllowed [⟨u, star, 2, [102, 111], 4, 4, 3⟩, ⟨u, star, 2, [102, 111, 111], 4, 4, 2⟩] q = true ∧   -- DENY below the ALLOW prefix
    anyAllowed [⟨u, star, 2, star, 3, 4, 3⟩, ⟨u, star, 2, [102], 4, 4, 2⟩] q = true := by decide       -- ALLOW * survives a prefix DENY

/-- regression: implied operations play no role in the any-resource check (without 46d17aa an ALLOW READ counts for
DESCRIBE; in Kafka's `authorizeByResourceType` it does not), and malformed entries are dropped: an "ALLOW" with pattern type
MATCH(2) does not count, a permission value other than ALLOW/DENY does nothing. -/
example :
    anyAllowed [⟨userStar, star, 2, [97], 3, 3, 3⟩] ⟨userPfx ++ [97], [104], [], 2, 8⟩ = false ∧
    anyAllowed [⟨userStar, star, 2, [97], 2, 4, 3⟩] ⟨userPfx ++ [97], [104], [], 2, 4⟩ = false ∧
    anyAllowed [⟨userStar, star, 2, [97], 3, 4, 0⟩] ⟨userPfx ++ [97], [104], [], 2, 4⟩ = false ∧
    anyAllowed [⟨userStar, star, 2, [97], 3, 4, 3⟩, ⟨userStar, star, 2, [97], 1, 4, 2⟩] ⟨userPfx ++ [97], [104], [], 2, 4⟩ = true := by
  decide

/-- **(2) with the glue of `anyAllowedACL`**: with ACLs enabled a super user passes, everybody else gets Kafka's
by-resource-type decision for `principal user`. `noAnonSuper` is still needed: `principal "" = principal "ANONYMOUS"`,
so with one of them configured as a super user kfake (user names) and Kafka (principals) identify different requests
as super users. No well-formedness hypothesis is needed here. -/
theorem anyAllowedACL_eq_authorizeByResourceType (c : Cfg) (user host : Str) (rtype op : Nat)
    (en : c.enableACLs = true) (na : c.noAnonSuper) :
    anyAllowedACL c user host rtype op
      = Spec.authorizeByResourceType (c.superusers.map principal) c.acls ⟨principal user, host, [], rtype, op⟩ := by
  unfold anyAllowedACL Spec.authorizeByResourceType isSuperuser
  simp only [en, Bool.not_true, Bool.false_eq_true, if_false]
  rw [supers_contains c.superusers user na.1 na.2, anyAllowed_eq_authorizeByResourceType]

example : (⟨true, [[97, 100]], [⟨userStar, star, 2, star, 3, 2, 2⟩]⟩ : Cfg).noAnonSuper ∧
    anyAllowedACL ⟨true, [[97, 100]], [⟨userStar, star, 2, star, 3, 2, 2⟩]⟩ [97, 100] [104] 2 4 = true ∧
    anyAllowedACL ⟨true, [[97, 100]], [⟨userStar, star, 2, star, 3, 2, 2⟩]⟩ [97] [104] 2 4 = false := by decide

/-- **The ACL test of `handleInitProducerID` is Kafka's** (`KafkaApis.handleInitProducerIdRequest`): WRITE on the
transactional id, or IDEMPOTENT_WRITE on the cluster, or WRITE on some topic. `wf` is needed only by the `authorize`
halves (an entry with a permission value other than ALLOW/DENY counts as an ALLOW in `allowed`). -/
theorem initProducerID_eq (c : Cfg) (user host : Str) (txn : Option Str)
    (en : c.enableACLs = true) (wf : ∀ a ∈ c.acls, a.WF) (na : c.noAnonSuper) :
    initProducerIDAuthorized c user host txn
      = Spec.initProducerID (c.superusers.map principal) c.acls (principal user) host txn := by
  cases txn with
  | some t => simp only [initProducerIDAuthorized, Spec.initProducerID, allowedACL_eq_authorize c user host t _ _ en wf na]
  | none =>
    simp only [initProducerIDAuthorized, Spec.initProducerID, allowedClusterACL,
      allowedACL_eq_authorize c user host _ _ _ en wf na,
      anyAllowedACL_eq_authorizeByResourceType c user host _ _ en na]
    simp

/-- non-vacuity: user `a` has no IDEMPOTENT_WRITE on the cluster but may WRITE topic `t`: accepted; once a DENY on
prefix `t` for everybody is added, refused; user `b` has nothing: refused; with a transactional id the decision is the
WRITE permission on that id. -/
example :
    let acls : List Acl := [⟨userPfx ++ [97], star, 2, [116], 3, 4, 3⟩, ⟨userPfx ++ [97], star, 5, [120], 4, 4, 3⟩]
    let c : Cfg := ⟨true, [[97, 100]], acls⟩
    let c' : Cfg := ⟨true, [[97, 100]], acls ++ [⟨userStar, star, 2, [116], 4, 2, 2⟩]⟩
    c.noAnonSuper ∧ (∀ a ∈ c.acls, a.WF) ∧ (∀ a ∈ c'.acls, a.WF) ∧
    initProducerIDAuthorized c [97] [104] none = true ∧ initProducerIDAuthorized c' [97] [104] none = false ∧
    initProducerIDAuthorized c [98] [104] none = false ∧
    initProducerIDAuthorized c [97] [104] (some [120, 49]) = true ∧ initProducerIDAuthorized c [97] [104] (some [121]) = false := by
  decide

/-- Which Kafka rule is meant: the default `Authorizer.authorizeByResourceType` that `StandardAuthorizer` inherits
first probes `authorize` on the literal resource "hardcode"; for operations that nothing implies the probe never
changes the answer, so the `AclAuthorizer` form used as the Spec is also `StandardAuthorizer`'s answer there
(Kafka itself only asks for WRITE). The hypothesis is about Kafka's two implementations, not about kfake. -/
theorem hardcode_probe_redundant (supers : List Str) (acls : List Acl) (q : Req) (hop : notImplied q.op) :
    Spec.authorizeByResourceTypeStd supers acls q = Spec.authorizeByResourceType supers acls q := by
  unfold Spec.authorizeByResourceTypeStd Spec.authorizeByResourceType Spec.authorize
  by_cases hs : supers.contains q.principal = true
  · simp only [hs, if_true]
  · simp only [hs, Bool.false_eq_true, if_false]
    by_cases hp : Spec.authorizeAcls acls { q with name := Spec.hardcode } = true
    · simp [hp, probe_implies_byType acls q Spec.hardcode hop hp]
    · simp [hp]

/-- non-vacuity: an ALLOW on the prefix `hard` makes the probe succeed (and the by-type rule agrees); a DENY on
the literal `hardcode` makes the probe fail while the by-type rule still allows (prefix `hard` is not dominated). -/
example :
    let u : Str := userPfx ++ [97]
    let q : Req := ⟨u, [104], [], 2, 4⟩
    notImplied q.op ∧
    Spec.authorizeByResourceTypeStd [] [⟨u, star, 2, [104, 97, 114, 100], 4, 4, 3⟩] q = true ∧
    Spec.authorize [] [⟨u, star, 2, [104, 97, 114, 100], 4, 4, 3⟩, ⟨u, star, 2, Spec.hardcode, 3, 4, 2⟩] { q with name := Spec.hardcode } = false ∧
    Spec.authorizeByResourceTypeStd [] [⟨u, star, 2, [104, 97, 114, 100], 4, 4, 3⟩, ⟨u, star, 2, Spec.hardcode, 3, 4, 2⟩] q = true := by
  decide

end Props.C34
