import FranzVerif.Model.C32
import FranzVerif.Proof.C32
import FranzVerif.Proof.C32RC
import FranzVerif.Proof.C29Win
/-! C32 — kfake behaves like a Kafka partition log: property theorems over ALL operation histories
of the model (`Model.C32.run` from `init np`, any list of operations, any length).
`init np` is the one-broker cluster (`nb := 1`): in the histories quantified over, `.move`/`.via` to a second broker do
nothing and the not-leader answers are never taken. `Proof.C32.run_inv` itself holds from any state with the invariant. -/
namespace Props.C32
open Model.C32 Proof.C32

/-- **Contiguous offsets.** A produce request either leaves every partition log untouched, or appends
exactly its batch to the addressed partition at the high watermark (`pushBatch`: the batch gets
`first = hwm`, the new high watermark is its end) and answers that offset with error 0. -/
theorem produce_appends_at_hwm (s : State) (v12 : Bool) (k epoch seq n nbytes : Int) (p : Nat) (tx : Bool) :
    (produce s v12 k epoch seq n nbytes p tx).1.parts = s.parts ∨
    ∃ pd, s.parts[p]? = some pd ∧
      (produce s v12 k epoch seq n nbytes p tx).1.parts = s.parts.set p (pushBatch pd ⟨0, n, k, epoch, seq, tx, false, false, nbytes⟩ tx) ∧
      (produce s v12 k epoch seq n nbytes p tx).2.1 = 0 ∧ (produce s v12 k epoch seq n nbytes p tx).2.2.1 = pd.hwm ∧
      (pushBatch pd ⟨0, n, k, epoch, seq, tx, false, false, nbytes⟩ tx).batches = pd.batches ++ [⟨pd.hwm, n, k, epoch, seq, tx, false, false, nbytes⟩] ∧
      (pushBatch pd ⟨0, n, k, epoch, seq, tx, false, false, nbytes⟩ tx).hwm = pd.hwm + n := by
  rcases produce_append_aux s v12 k epoch seq n nbytes p tx with h | ⟨pd, h1, h2, h3, h4⟩
  · exact Or.inl h
  · exact Or.inr ⟨pd, h1, h2, h3, h4, rfl, rfl⟩


/-- **Every history**: the partition invariant holds in every state reachable by any operations. -/
theorem all_histories_inv (np : Nat) (ops : List Op) (hv : ∀ o ∈ ops, Op.valid o) :
    ∀ pd ∈ (run (init np) ops).parts, PInv pd :=
  run_inv pres_pinv ops hv _ (init_inv pinv_init np)

/-- LSO ≤ HWM after every history. -/
theorem lso_le_hwm (np : Nat) (ops : List Op) (hv : ∀ o ∈ ops, Op.valid o) :
    ∀ pd ∈ (run (init np) ops).parts, pd.lso ≤ pd.hwm := by
  intro pd hpd
  have h := all_histories_inv np ops hv pd hpd
  rw [h.lso]; exact minUnc_le _ _

/-- no open transaction ⇒ LSO = HWM. -/
theorem lso_eq_hwm_of_no_open (np : Nat) (ops : List Op) (hv : ∀ o ∈ ops, Op.valid o) :
    ∀ pd ∈ (run (init np) ops).parts, pd.unc = [] → pd.lso = pd.hwm := by
  intro pd hpd he
  have h := all_histories_inv np ops hv pd hpd
  rw [h.lso, he]; rfl

/-- open transactions ⇒ LSO is the smallest of their first offsets (this is what makes `pushBatch`'s
"leave the LSO alone while a transaction is open, add n otherwise" correct). -/
theorem lso_eq_min_open (np : Nat) (ops : List Op) (hv : ∀ o ∈ ops, Op.valid o) :
    ∀ pd ∈ (run (init np) ops).parts, pd.unc ≠ [] →
      (∀ e ∈ pd.unc, pd.lso ≤ e.2) ∧ ∃ e ∈ pd.unc, pd.lso = e.2 := by
  intro pd hpd hne
  have h := all_histories_inv np ops hv pd hpd
  rw [h.lso]
  exact ⟨minUnc_le_mem _ _, minUnc_attained _ _ hne h.unc_le⟩

/-- the log is contiguous up to the high watermark after every history. -/
theorem offsets_contiguous (np : Nat) (ops : List Op) (hv : ∀ o ∈ ops, Op.valid o) :
    ∀ pd ∈ (run (init np) ops).parts, Contig pd.batches pd.hwm :=
  fun pd hpd => (all_histories_inv np ops hv pd hpd).contig

/-- Non-vacuity: an open transaction at offset 2 behind plain data, a second one at 5: LSO = 2 < HWM = 8;
after aborting the first the LSO moves to 5, after committing the second to the HWM. -/
example :
    let s := run (init 1) [.initx 0 203, .initx 1 204, .prod true (-1) (-1) (-1) 2 80 0 false, .prod true 0 0 0 3 90 0 true,
                           .prod true 1 0 0 3 90 0 true]
    (s.parts.map (fun pd => (pd.lso, pd.hwm, pd.unc))) = [(2, 8, [(0, 2), (1, 5)])] ∧
    ((run s [.endt true 0 0 false]).parts.map (fun pd => (pd.lso, pd.hwm))) = [(5, 9)] ∧
    ((run s [.endt true 0 0 false, .endt false 1 0 true]).parts.map (fun pd => (pd.lso, pd.hwm, pd.aborted))) = [(10, 10, [⟨0, 2, 8⟩])] := by
  decide

/-- A read_committed walk never returns a batch at or beyond the LSO, for every offset and byte limit. -/
theorem read_committed_below_lso (lso mb pm : Int) (bs : List Batch) (pb nb : Int) (ad : Nat) :
    ∀ m ∈ (walk true lso mb pm bs pb nb ad).1, m.first < lso := walk_below_lso lso mb pm bs pb nb ad

/-- What a fetch returns is a run of consecutive batches of the log that starts at the batch containing the
fetch offset (no batch is skipped, nothing is invented), for every isolation level and byte limit. -/
theorem fetch_returns_log_run (pd : Part) (o : Int) (rc : Bool) (mb pm nb : Int) (ad : Nat) (bs : List Batch)
    (h : searchOffset pd o = .found bs) :
    (∃ pre, pd.batches = pre ++ bs ∧ ∀ m ∈ pre, m.first + m.n ≤ o) ∧
    ∃ rest, bs = (walk rc pd.lso mb pm bs 0 nb ad).1 ++ rest := by
  refine ⟨?_, walk_prefix _ _ _ _ _ _ _ _⟩
  rw [searchOffset_found pd o bs h]
  exact ⟨pd.batches.takeWhile (fun m => decide (m.first + m.n ≤ o)), List.takeWhile_append_dropWhile.symm,
    fun m hm => by simpa using List.all_eq_true.1 List.all_takeWhile m hm⟩

/-- The first batch below the bound is always returned to the first partition of a request. -/
theorem fetch_progress (rc : Bool) (lso mb pm : Int) (m : Batch) (r : List Batch) (nb : Int)
    (h : ¬ (rc = true ∧ m.first ≥ lso)) : ∃ t, (walk rc lso mb pm (m :: r) 0 nb 0).1 = m :: t := by
  simp only [walk]
  have h1 : ¬ ((rc && decide (m.first ≥ lso)) = true) := by simpa using h
  simp [h1]

/-- the partition invariant together with the invariant tying the aborted index to the log's abort markers
(`Proof.C32.RInv`: one entry per abort marker that still has data of its transaction in the log, carrying a
first offset at or below that data and after the producer's previous marker; open transactional data is
tracked in `uncommittedPIDs`) is preserved by every log operation. -/
theorem pres_full : Pres (fun pd => PInv pd ∧ RInv pd) :=
  ⟨fun pd b t hn hc ht h => ⟨pres_pinv.push pd b t hn hc ht h.1,
      rinv_appended h.2 (pushBatch_appended pd b t hn hc ht fun _ hx => Int.le_of_lt (h.2.uncLt _ _ hx))⟩,
   fun pd k e c h => ⟨pres_pinv.endTx pd k e c h.1, rinv_appended h.2 (endTxPart_appended pd k e c)⟩,
   fun pd off h => ⟨pres_pinv.del pd off h.1, rinv_delete pd off h.2⟩⟩

theorem all_histories_full (np : Nat) (ops : List Op) (hv : ∀ o ∈ ops, Op.valid o) :
    ∀ pd ∈ (run (init np) ops).parts, PInv pd ∧ RInv pd :=
  run_inv pres_full ops hv _ (init_inv ⟨pinv_init, rinv_init⟩ np)

/-- **read_committed exactness, every history.** In every reachable state, for every partition, fetch offset and
byte limits (request-level, partition-level, whatever was already added for earlier partitions): what the
consumer keeps of the returned batches after Kafka's aborted-transaction rule (with the `AbortedTransactions`
kfake lists) is exactly the committed data among them — non-transactional batches and batches whose producer's
next marker in the log is a commit; nothing of an aborted or still open transaction, and nothing dropped. -/
theorem read_committed_exact (np : Nat) (ops : List Op) (hv : ∀ o ∈ ops, Op.valid o) :
    ∀ pd ∈ (run (init np) ops).parts, ∀ (o mb pm nb : Int) (ad : Nat) (bs : List Batch), searchOffset pd o = .found bs →
      clientView (abortedFor pd.aborted o (walk true pd.lso mb pm bs 0 nb ad).1) (walk true pd.lso mb pm bs 0 nb ad).1
        = committedData (walk true pd.lso mb pm bs 0 nb ad).1 (bs.drop (walk true pd.lso mb pm bs 0 nb ad).1.length) := by
  intro pd hpd o mb pm nb ad bs h
  obtain ⟨hP, hR⟩ := all_histories_full np ops hv pd hpd
  obtain ⟨rest, hbs⟩ := walk_prefix true pd.lso mb pm bs 0 nb ad
  have hlso := walk_below_lso pd.lso mb pm bs 0 nb ad
  generalize (walk true pd.lso mb pm bs 0 nb ad).1 = out at hbs hlso ⊢
  rw [hbs, List.drop_left' rfl]
  exact rc_exact_run hP hR o out rest (by rw [← hbs, searchOffset_found pd o bs h]) hlso

/-- … and for the response as `handleFetch` builds it: every partition answered without error by a
read_committed fetch carries a run `r.batches` of that partition's log (`pre ++ r.batches ++ rest`) whose
consumer view is the committed data of the run. -/
theorem fetch_read_committed_exact (parts : List Part) (hinv : ∀ pd ∈ parts, PInv pd ∧ RInv pd) (mb unk : Int) (lead : Nat → Bool) (reqs : List FReq)
    (nb : Int) (ad : Nat) :
    ∀ r ∈ fetchLoop parts true mb unk lead reqs nb ad, r.code = 0 → unk ≠ 0 →
      ∃ pd pre rest, parts[r.p]? = some pd ∧ pd.batches = pre ++ r.batches ++ rest ∧
        clientView r.aborted r.batches = committedData r.batches rest := by
  intro r hr hc hunk
  cases fetchLoop_mem parts true mb unk lead reqs nb ad r hr with
  | unknown => exact absurd hc hunk
  | notLeader | outOfRange => cases hc
  | @atEnd _ pd hpd => exact ⟨pd, pd.batches, [], hpd, by simp, rfl⟩
  | @found _ pd bs o pm nb' ad' hpd hs =>
    obtain ⟨hP, hR⟩ := hinv pd (List.mem_of_getElem? hpd)
    obtain ⟨⟨pre, hpre, -⟩, ⟨rest, hrest⟩⟩ := fetch_returns_log_run pd o true mb pm nb' ad' bs hs
    refine ⟨pd, pre, rest, hpd, by rw [hpre, List.append_assoc, ← hrest], ?_⟩
    exact rc_exact_run hP hR o _ rest (by rw [← hrest, searchOffset_found pd o bs hs])
      (walk_below_lso pd.lso mb pm bs 0 nb' ad')

/-- Non-vacuity: two aborted transactions and a committed one interleaved with plain data; a read_committed
fetch from offset 0 limited to 400 bytes returns four batches, lists both aborted transactions, and the consumer
keeps exactly the committed producer's batch and the plain one. -/
example :
    ((run (init 1) [.initx 0 203, .initx 1 204, .initx 2 205, .prod true 0 0 0 1 70 0 true, .prod true 1 0 0 3 100 0 true,
      .prod true 2 0 0 2 90 0 true, .prod true (-1) (-1) (-1) 2 80 0 false, .endt true 0 0 false, .prod true 1 0 3 1 75 0 true,
      .endt true 2 0 true, .endt false 1 0 false]).parts.map fun pd =>
        match searchOffset pd 0 with
        | .found bs => ((walk true pd.lso 400 1048576 bs 0 0 0).1.length, abortedFor pd.aborted 0 (walk true pd.lso 400 1048576 bs 0 0 0).1,
            (clientView (abortedFor pd.aborted 0 (walk true pd.lso 400 1048576 bs 0 0 0).1) (walk true pd.lso 400 1048576 bs 0 0 0).1).map (·.first))
        | _ => (0, [], [])) = [(4, [(0, 0), (1, 1)], [4, 6])] := by
  decide

/-- A retried batch — one whose `(first sequence, next sequence)` is recorded in the producer's window of the
partition, same epoch — is answered with error 0 and the offset recorded for it, and no partition log changes.
(C29 proves that the window records exactly the last five accepted batches with their offsets.) -/
theorem retry_gets_original_offset (s : State) (v12 : Bool) (k epoch seq n nbytes : Int) (p : Nat) (tx : Bool)
    (pd : Part) (pr : Prod) (hpd : s.parts[p]? = some pd) (hlead : isLeader s p = true) (hk : 0 ≤ k) (hseq : 0 ≤ seq) (hn : 0 ≤ n)
    (hget : (getOrCreate (pidsGet s v12 k p tx).1 k epoch tx (pidsGet s v12 k p tx).2).2 = some pr)
    (hfence : ¬ (pr.inTx = true ∧ tx = false)) (hep : epoch = pr.epoch)
    (hseen : (getWin pr p).seen = true) (hwe : epoch = (getWin pr p).epoch)
    (hrec : ∃ e ∈ (getWin pr p).entries.take (getWin pr p).count, e.first = seq ∧ e.nxt = Model.C29.next seq n) :
    ∃ off, (produce s v12 k epoch seq n nbytes p tx).2 = (0, off, -1) ∧
      (∃ e ∈ (getWin pr p).entries.take (getWin pr p).count, e.first = seq ∧ e.nxt = Model.C29.next seq n ∧ e.offset = off) ∧
      (produce s v12 k epoch seq n nbytes p tx).1.parts = s.parts := by
  have hnx : Model.C29.goNext Model.C29.seqMod seq n = Model.C29.next seq n := by
    rw [Model.C29.goNext, Int.tmod_eq_emod_of_nonneg (by omega)]; rfl
  obtain ⟨off, hoff, hmem⟩ := Proof.C29W.push_dup_complete pd.hwm hseen hwe hnx hrec
  have hk' : ¬ k < 0 := by omega
  have hf : (pr.inTx && !tx) = false := by
    cases h1 : pr.inTx <;> cases h2 : tx <;> simp_all
  have he1 : ¬ epoch < pr.epoch := by omega
  have he2 : ¬ epoch > pr.epoch := by omega
  -- the request takes the path through the window and is answered from it
  have hprod : produce s v12 k epoch seq n nbytes p tx =
      (setProd (getOrCreate (pidsGet s v12 k p tx).1 k epoch tx (pidsGet s v12 k p tx).2).1 k
        (setWin pr p (Model.C29.push Model.C29.seqMod (getWin pr p) epoch seq n pd.hwm).1), 0, off, -1) := by
    unfold produce
    simp only [hpd, hlead, Bool.not_true, hk', decide_false, Bool.and_false, Bool.false_eq_true, if_false, hget, hf,
      he1, he2, hoff]
  rw [hprod]
  exact ⟨off, rfl, hmem, by rw [setProd_parts, getOrCreate_parts, pidsGet_parts]⟩

/-- Non-vacuity of the retry theorem: the second send of the same batch is answered with offset 0 and appends nothing. -/
example :
    let s := run (init 1) [.prod false 7 0 0 2 80 0 false, .prod false 7 0 2 1 70 0 false]
    (produce s false 7 0 0 2 80 0 false).2 = (0, 0, -1) ∧ (produce s false 7 0 0 2 80 0 false).1.parts.map (·.hwm) = [3] := by
  decide

/-- An incremental fetch drops a partition from the answer only if the session knows it, the walk returned
no batch for it, it carries no error, and its high watermark and log start are the ones recorded when the
session last answered for it. -/
theorem session_omits_only_unchanged (ps : List SPart) (resp : List PResp) (r : PResp)
    (hr : r ∈ resp) (hdrop : r ∉ resp.filter (sessInclude true ps)) :
    ∃ sp ∈ ps, sp.p = r.p ∧ r.batches = [] ∧ r.code = 0 ∧ r.hwm = sp.lastHwm ∧ r.logStart = sp.lastLs := by
  have hinc : sessInclude true ps r = false := by
    cases h : sessInclude true ps r
    · rfl
    · exact absurd (List.mem_filter.2 ⟨hr, h⟩) hdrop
  unfold sessInclude at hinc
  split at hinc
  · simp at hinc
  · rename_i sp hsp
    have hmem := List.mem_of_find?_eq_some hsp
    have hp := List.find?_some hsp
    simp only [Bool.not_true, Bool.false_or, Bool.or_eq_false_iff, Bool.not_eq_eq_eq_not, Bool.not_false,
      bne_eq_false_iff_eq, List.isEmpty_iff] at hinc
    simp at hp
    exact ⟨sp, hmem, hp, hinc.1.1.1, hinc.1.1.2, hinc.1.2, hinc.2⟩

/-- The last stable offset only moves when the high watermark moves (so a session that compares high watermark
and log start also notices every LSO change): for each log operation of a partition. -/
theorem lso_moves_only_with_hwm (pd : Part) :
    (∀ b t, 1 ≤ b.n → (pushBatch pd b t).hwm ≠ pd.hwm) ∧
    (∀ k e c, (endTxPart pd k e c).hwm ≠ pd.hwm) ∧
    (∀ off, (deleteRecords pd off).1.lso = pd.lso ∧ (deleteRecords pd off).1.hwm = pd.hwm) := by
  refine ⟨fun b t hb => ?_, fun k e c => ?_, fun off => ?_⟩
  · rw [pushBatch_hwm]; omega
  · rw [(endTxPart_appended pd k e c).hwm]
    show pd.hwm + 1 ≠ pd.hwm
    omega
  · rcases deleteRecords_fst pd off with h | h <;> rw [h] <;> exact ⟨rfl, rfl⟩

/-- every partition answered without error reports the partition's current bounds. -/
theorem fetch_reports_bounds (parts : List Part) (rc : Bool) (mb unk : Int) (hunk : unk ≠ 0) (lead : Nat → Bool) (reqs : List FReq) (nb : Int) (ad : Nat) :
    ∀ r ∈ fetchLoop parts rc mb unk lead reqs nb ad, r.code = 0 →
      ∃ pd, parts[r.p]? = some pd ∧ r.hwm = pd.hwm ∧ r.lso = pd.lso ∧ r.logStart = pd.logStart := by
  intro r hr hc
  cases fetchLoop_mem parts rc mb unk lead reqs nb ad r hr with
  | unknown => exact absurd hc hunk
  | notLeader | outOfRange => cases hc
  | atEnd hpd | found _ _ _ _ hpd => exact ⟨_, hpd, rfl, rfl, rfl⟩

end Props.C32
