import FranzVerif.Model.C38
import FranzVerif.Proof.C38
/-! C38 — property theorems: the `Fetches` accessors agree with each other.

Every statement is for all `Fetches` values (any number of fetches, topics, partitions and records: empty
fetches, topics without partitions, partitions without records, a topic name repeated across and inside
fetches, errors mixed with records). The model is tied to pkg/kgo/record_and_fetch.go by the differential
run; `flatten`, `inputParts`, `errParts`, `partsOf` are the Spec-level reference views of the input. -/
namespace Props.C38
open Model.C38 Proof.C38

/-- `prepareNext` terminates from EVERY iterator state (also ones no run reaches): the fuel `fuelOf` = total
structural size + 1 is never exhausted, and the state it stops in is settled (no fetch left, or the
indexes point at a record). -/
theorem prepareNext_terminates (s : It) :
    ∃ s', prepareNext (fuelOf s) s = some s' ∧ prepStep s' = none ∧
      (s'.fetches = [] ∨ ∃ f0 rest t p, s'.fetches = f0 :: rest ∧ f0[s'.ti]? = some t ∧
        t.parts[s'.pi]? = some p ∧ s'.ri < p.recs.length) := by
  obtain ⟨s', h1, h2⟩ := prepareNext_stops (fuelOf s) s (fuel_ok s)
  exact ⟨s', h1, h2, ready_of_prepStep_none s' h2⟩

/-- The `RecordIter` `Done/Next` loop never panics (the unguarded `fetches[0].Topics[ti].Partitions[pi].Records[ri]`
is always in range), never exhausts the model's fuel, and visits exactly the input's records in fetch /
topic / partition / record order. -/
theorem recordIter_visits_all (fs : Fetches) : iterRecords fs = .ok (flatten fs) := by
  rw [iterRecords_eq, recordsAll_spec]
  rfl

/-- `RecordsAll` yields the same sequence; a consumer that breaks after `k+1` records gets the first `k+1`. -/
theorem recordsAll_visits_all (fs : Fetches) (lim : Nat) :
    recordsAll fs 0 = .ok (flatten fs) ∧
    recordsAll fs (lim + 1) = .ok ((flatten fs).take (lim + 1)) := by
  constructor
  · simpa using recordsAll_spec fs 0
  · simpa using recordsAll_spec fs (lim + 1)

/-- `EachRecord` and `Records` visit the same records in the same order as `RecordIter`. -/
theorem eachRecord_records_agree (fs : Fetches) :
    eachRecord fs = iterRecords fs ∧ iterRecords fs = .ok (records fs) := by
  refine ⟨rfl, ?_⟩
  rw [recordIter_visits_all, records_eq]

/-- `NumRecords` is the number of records the iterators visit, and `Empty` is true exactly when it is zero. -/
theorem numRecords_empty (fs : Fetches) :
    numRecords fs = (flatten fs).length ∧ (empty fs = true ↔ numRecords fs = 0) := by
  refine ⟨numRecords_eq fs, ?_⟩
  rw [empty_eq]; simp

/-- `EachPartition` visits every partition of the input exactly once, in order, under its topic name. -/
theorem eachPartition_covers (fs : Fetches) : eachPartition fs = inputParts fs :=
  eachPartition_eq fs

/-- `EachTopic` satisfies the executable Spec: under every topic name it reports exactly that topic's input
partitions in order (so every partition exactly once, grouped by topic); one fetch passes through unchanged;
with several fetches every topic name is reported once (merged), every input topic is reported, and the
reported topic ID is non-zero whenever some fetch carried a non-zero ID for that name (and is one of them). -/
theorem eachTopic_satisfies_spec (fs : Fetches) : specEachTopic fs (eachTopic fs) = true := by
  unfold specEachTopic
  simp only [Bool.and_eq_true]
  constructor
  · rw [List.all_eq_true]; intro n _; simp [eachTopic_parts]
  · match fs with
    | [] => simp [eachTopic]
    | [f] => simp [eachTopic]
    | f1 :: f2 :: rest =>
      simp only [Bool.and_eq_true]
      refine ⟨⟨⟨?_, ?_⟩, ?_⟩, ?_⟩
      · rw [nodupB_iff, eachTopic_names]
        exact mergeParts_nodup _ [] List.nodup_nil
      · rw [List.all_eq_true, eachTopic_multi]
        intro t ht
        obtain ⟨kv, _, rfl⟩ := List.mem_map.mp ht
        simp only [idOK, mkT, mergeIds_lookup]
        cases cands (allTopics (f1 :: f2 :: rest)) kv.1 with
        | nil => rfl
        | cons a l =>
          rw [List.getLast?_cons]
          simpa using List.mem_of_getLast? (l := a :: l) List.getLast?_cons
      · rw [List.all_eq_true]
        intro t ht
        rw [List.contains_iff_mem, eachTopic_names, mergeParts_keys]
        exact Or.inr (List.mem_map.mpr ⟨t, ht, rfl⟩)
      · rw [List.all_eq_true]
        intro t ht
        have := List.mem_map_of_mem (f := (·.name)) ht
        rw [eachTopic_names, mergeParts_keys] at this
        rw [List.contains_iff_mem]
        exact this.resolve_left List.not_mem_nil

/-- `EachTopic` covers every partition exactly once: the (topic, partition) pairs it reports are a
permutation of the pairs `EachPartition` reports. -/
theorem eachTopic_covers_exactly_once (fs : Fetches) :
    (tparts (eachTopic fs)).Perm (eachPartition fs) := by
  rw [eachPartition_eq]
  have hin : inputParts fs = tparts (allTopics fs) := by
    simp only [inputParts_eq, tparts_eq, allTopics, List.flatMap_assoc, id]
  rw [hin, List.perm_iff_count]
  intro ⟨n, p⟩
  rw [count_tparts, count_tparts, eachTopic_parts]

/-- `Errors` and `EachError` list exactly the partitions that carry an error, in order. -/
theorem errors_exact (fs : Fetches) : errors fs = errParts fs ∧ eachError fs = errParts fs :=
  ⟨errors_eq fs, eachError_eq fs⟩

/-- All together: the run of every accessor (as the harness performs it) succeeds and satisfies the
executable Spec that the driver evaluates on the implementation's outputs. -/
theorem accessors_satisfy_spec (fs : Fetches) (lim : Nat) :
    ∃ o, run fs lim = .ok o ∧ spec fs lim o = true := by
  have h1 := recordIter_visits_all fs
  have h2 := recordsAll_spec fs 0
  have h3 := recordsAll_spec fs lim
  refine ⟨⟨flatten fs, flatten fs, (if lim = 0 then flatten fs else (flatten fs).take lim), flatten fs,
    records fs, numRecords fs, empty fs, eachPartition fs, eachTopic fs, errors fs, eachError fs⟩, ?_, ?_⟩
  · simp only [run, eachRecord, h1, h2, h3, if_true]
    rfl
  · simp [spec, records_eq, numRecords_eq, eachPartition_eq, eachTopic_satisfies_spec, errors_eq,
      eachError_eq, empty_eq]

/-! Non-vacuity: an empty fetch, a topic without partitions, partitions without records, topic "a" spread
over two fetches (zero ID first, non-zero ID later), errors mixed with records. -/
def sample : Fetches :=
  [ [],
    [⟨"a", 0, [⟨0, 0, []⟩, ⟨1, 3, [10, 11]⟩]⟩, ⟨"b", 7, []⟩],
    [⟨"c", 0, [⟨0, 4, []⟩]⟩, ⟨"a", 5, [⟨2, 0, [12]⟩]⟩] ]

example : flatten sample = [10, 11, 12] ∧ numRecords sample = 3 ∧ empty sample = false := by
  simp [sample, flatten, frecs, trecs, precs, numRecords, eachPartition, empty]

example : (eachTopic sample).map (fun t => (t.name, t.id, t.parts.map (·.num))) =
    [("a", 5, [0, 1, 2]), ("b", 7, []), ("c", 0, [0])] := by
  simp [sample, eachTopic, allTopics, mergeParts, mergeIds, upsert, setId, lookupId]

example : errParts sample = [("a", 1, 3), ("c", 0, 4)] := by
  simp [sample, errParts, inputParts, tparts]

end Props.C38
