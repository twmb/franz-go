import FranzVerif.Model.C23
import FranzVerif.Proof.C23
/-! C23 — Sharded requests account for every requested item once.

Property text: "For every request type the client splits across brokers, each requested topic-partition, group or
transactional ID appears in exactly one returned shard, either in a broker's response or in an error shard. The merged
response from Request contains each requested item exactly once, for any cluster layout, leader and coordinator
placement, and retriable errors during the request."

The theorems are about `Model.C23.issue` (the recursion of `handleShardedReq`) instantiated by a `Kind` (the per-sharder
placement). They hold for every kind, every layout, every list of requested items, every retry budget and every
`oracle` (= which attempts fail retriably, which layout the client believes in afterwards, which renewed shardings
fail wholesale). The tie to the Go code is the `shard` scenario correspondence (real kgo × real kfake), where the same
statements are evaluated as the executable Spec (`Model.C23.spec*`) on the real shards.

Readings fixed here, as the code behaves (and as the driver checks on the real code):
* "exactly once" for a requested item that the caller listed n times means n times: the sharders keep duplicates
  (`leaves_are_a_permutation_of_the_request`, `each_item_as_often_as_requested`), all copies in one shard
  (`no_item_in_two_shards`, needs that no destination is of the one-shard-per-occurrence kind, or no duplicates).
  FindCoordinator alone collapses duplicated keys before sharding (`findCoordinator_each_key_once`).
* the merged-response clause is stated under the explicit hypothesis that every item is mappable
  (`merged_is_the_request_when_all_mappable`); without it `Request` returns the merge of the successful shards together
  with the first shard error (`merge_preserves_the_multiset`, `merge_reports_an_error_iff_some_error_shard`); the
  excluded case is executed by the harness and reported in the evidence distribution. -/
namespace Props.C23
open Model.C23 Proof.C23 List

set_option linter.unusedSectionVars false
variable {ι δ Λ : Type} [DecidableEq δ]

/-- Per-sharder obligation (the partition lemma), for every placement function: the buckets built by `shard` hold
exactly the requested items (as a multiset), every bucket is non-empty and holds only items whose destination it is —
in particular unmappable items (those whose destination is an error) are in error buckets and nothing else is —
and two buckets have different destinations unless the destination is of the one-bucket-per-occurrence kind. -/
theorem sharder_partition_lemma (solo : δ → Bool) (place : ι → δ) (items : List ι) :
    allItems (shardBy solo place items) ~ items ∧
    (∀ s ∈ shardBy solo place items, s.items ≠ [] ∧ ∀ y ∈ s.items, place y = s.dest) ∧
    (shardBy solo place items).Pairwise (fun a b => a.dest ≠ b.dest ∨ solo a.dest = true) :=
  ⟨shardBy_perm solo place items, shardBy_consistent solo place items, shardBy_distinct solo place items⟩

/-- Unmappable items go to error shards, mappable ones never: a bucket is an error bucket iff all (iff some) of its
items are unmappable under the layout used. -/
theorem error_buckets_hold_exactly_the_unmappable_items (solo : δ → Bool) (place : ι → δ) (isErr : δ → Bool) (items : List ι) :
    ∀ s ∈ shardBy solo place items, ∀ y ∈ s.items, isErr (place y) = isErr s.dest := by
  intro s hs y hy
  rw [(shardBy_consistent solo place items s hs).2 y hy]

/-- Clause 1, main theorem: the items of the returned shards (leaves of the split / issue / re-split recursion) are a
permutation of the requested items: nothing dropped, nothing duplicated, nothing invented — for any layout, item list,
retry budget and sequence of retriable failures / layout changes. -/
theorem leaves_are_a_permutation_of_the_request (k : Kind ι δ Λ) (oracle : Nat → δ → List ι → Choice Λ δ)
    (fuel tries : Nat) (lay : Λ) (items : List ι) :
    allItems (issue k oracle fuel tries lay items) ~ items :=
  issue_perm k oracle fuel tries lay items

/-- The same as counts: every item occurs in the returned shards exactly as often as it was requested. -/
theorem each_item_as_often_as_requested [BEq ι] [LawfulBEq ι] (k : Kind ι δ Λ) (oracle : Nat → δ → List ι → Choice Λ δ)
    (fuel tries : Nat) (lay : Λ) (items : List ι) (x : ι) :
    (allItems (issue k oracle fuel tries lay items)).count x = items.count x :=
  (issue_perm k oracle fuel tries lay items).count_eq x

/-- No item is in two returned shards (all copies of a duplicated item stay together), provided the request has no
duplicates or no destination is of the one-shard-per-occurrence kind (`unkerrs`: coordinator load errors that are not
Kafka error codes get one error shard per requested occurrence, so a duplicated group is then in two error shards). -/
theorem no_item_in_two_shards (k : Kind ι δ Λ) (oracle : Nat → δ → List ι → Choice Λ δ)
    (fuel tries : Nat) (lay : Λ) (items : List ι) (h : items.Nodup ∨ ∀ d, k.solo d = false) :
    (issue k oracle fuel tries lay items).Pairwise (fun a b => ∀ x, x ∈ a.items → x ∉ b.items) := by
  rcases h with h | h
  · exact disj_of_nodup _ ((issue_perm k oracle fuel tries lay items).symm.nodup h)
  · exact issue_disj k oracle h fuel tries lay items

/-- Every returned shard is consistent with a layout the client believed in when it built that shard: all its items
have the shard's destination under that layout (or the shard is the error shard of a renewed sharding that failed
wholesale). -/
theorem shard_items_belong_to_the_shard_destination (k : Kind ι δ Λ) (oracle : Nat → δ → List ι → Choice Λ δ)
    (fuel tries : Nat) (lay : Λ) (items : List ι) :
    ∀ l ∈ issue k oracle fuel tries lay items,
      (∃ lay', ∀ y ∈ l.items, k.place lay' y = l.dest) ∨ (∃ t d is, oracle t d is = .reshardFails l.dest) := by
  refine issue_leaf_induction k oracle ?_ ?_ ?_ ?_ fuel tries lay items
    (Q := fun _ l => (∃ lay', ∀ y ∈ l.items, k.place lay' y = l.dest) ∨ ∃ t d is, oracle t d is = .reshardFails l.dest)
  · exact fun lay => .inl ⟨lay, nofun⟩
  · exact fun lay items s hs => .inl ⟨lay, (shardBy_consistent _ _ _ s hs).2⟩
  · exact fun _ _ s _ t _ he => .inr ⟨t, s.dest, s.items, he⟩
  · exact fun _ _ _ _ _ h => h

/-- Clause 2 in general: `merge` loses and invents nothing — merged items plus the items of the error shards are a
permutation of the requested items. -/
theorem merge_preserves_the_multiset (k : Kind ι δ Λ) (oracle : Nat → δ → List ι → Choice Λ δ)
    (fuel tries : Nat) (lay : Λ) (items : List ι) :
    mergedItems k.isErr (issue k oracle fuel tries lay items) ++ errItems k.isErr (issue k oracle fuel tries lay items) ~ items :=
  (merged_err_perm k.isErr _).trans (issue_perm k oracle fuel tries lay items)

/-- `Request` returns an error beside the merged response exactly when some returned shard is an error shard. -/
theorem merge_reports_an_error_iff_some_error_shard (isErr : δ → Bool) (ss : List (Shard ι δ)) :
    (firstErr isErr ss).isSome = ss.any (fun s => isErr s.dest) := by
  unfold firstErr
  induction ss with
  | nil => simp
  | cons s rest ih =>
    simp only [List.find?_cons, List.any_cons]
    cases h : isErr s.dest with
    | true => simp
    | false => simpa using ih

/-- Clause 2 under `AllMappable` (no item is unmappable under any layout the client may believe in, and no renewed
sharding fails wholesale): the merged response holds exactly the requested items, each as often as requested, and
`Request` returns no error. -/
theorem merged_is_the_request_when_all_mappable (k : Kind ι δ Λ) (oracle : Nat → δ → List ι → Choice Λ δ)
    (fuel tries : Nat) (lay : Λ) (items : List ι)
    (hmap : ∀ lay', AllMappable k.isErr (k.place lay') items = true)
    (hany : k.isErr k.anyDest = false) (hor : ∀ t d is e, oracle t d is ≠ .reshardFails e) :
    mergedItems k.isErr (issue k oracle fuel tries lay items) ~ items ∧
    firstErr k.isErr (issue k oracle fuel tries lay items) = none := by
  have hmap' : ∀ lay' x, x ∈ items → k.isErr (k.place lay' x) = false := by
    intro lay' x hx
    have := hmap lay'
    unfold AllMappable at this
    rw [List.all_eq_true] at this
    simpa using this x hx
  have hno := fun l hl => issue_no_err k oracle hany hor fuel tries lay items l hl hmap'
  have herr : errItems k.isErr (issue k oracle fuel tries lay items) = [] := by
    unfold errItems
    have : (issue k oracle fuel tries lay items).filter (fun s => k.isErr s.dest) = [] := by
      rw [List.filter_eq_nil_iff]
      intro a ha
      simp [hno a ha]
    rw [this]; rfl
  refine ⟨?_, ?_⟩
  · have := merge_preserves_the_multiset k oracle fuel tries lay items
    rwa [herr, List.append_nil] at this
  · unfold firstErr
    have : (issue k oracle fuel tries lay items).find? (fun s => k.isErr s.dest) = none := by
      rw [List.find?_eq_none]
      intro a ha
      simp [hno a ha]
    rw [this]; rfl

/-- FindCoordinator collapses duplicated keys before sharding (`uniq`): every requested key is then in the returned
shards exactly once. -/
theorem findCoordinator_each_key_once [BEq ι] [LawfulBEq ι] (k : Kind ι δ Λ) (oracle : Nat → δ → List ι → Choice Λ δ)
    (fuel tries : Nat) (lay : Λ) (items : List ι) (x : ι) (hx : x ∈ items) :
    (allItems (issue k oracle fuel tries lay items.eraseDups)).count x = 1 := by
  rw [(issue_perm k oracle fuel tries lay items.eraseDups).count_eq x]
  have hn : items.eraseDups.Nodup := nodup_eraseDups items
  have hm : x ∈ items.eraseDups := List.mem_eraseDups.2 hx
  rw [hn.count, if_pos hm]

/-! ## Non-vacuity: a concrete kind (partitions are numbers, destinations are broker ids, negative = error class) -/

def exKind : Kind Nat Int (Nat → Int) := { place := fun lay p => lay p, solo := fun _ => false, isErr := fun d => d < 0, anyDest := 1000 }

/-- three brokers; partition 9 does not exist (error class -3) -/
def lay0 : Nat → Int := fun p => if p = 9 then -3 else (p % 3 : Nat)
/-- after a leader election: partitions 0 and 1 swapped brokers, 3 moved to broker 2 -/
def lay1 : Nat → Int := fun p => if p = 9 then -3 else if p = 0 then 1 else if p = 1 then 0 else if p = 3 then 2 else (p % 3 : Nat)

/-- the first attempt to broker 0 fails retriably and the client then sees `lay1`; everything else is final -/
def exOracle : Nat → Int → List Nat → Choice (Nat → Int) Int := fun tries d _ => if tries = 0 ∧ d = 0 then .reshard lay1 else .final

/-- The request of DESIGN.md's probe (`a/0 a/1 a/1 a/3 a/9 … a/2`): duplicates kept, the unknown partition in an error shard,
broker 0's shard `[0,3]` re-split into `[0]→1` and `[3]→2` after the retriable failure. -/
example : issue exKind exOracle 3 0 lay0 [0, 1, 1, 3, 9, 2] =
    [⟨1, [0]⟩, ⟨2, [3]⟩, ⟨1, [1, 1]⟩, ⟨-3, [9]⟩, ⟨2, [2]⟩] := by decide
example : allItems (issue exKind exOracle 3 0 lay0 [0, 1, 1, 3, 9, 2]) ~ [0, 1, 1, 3, 9, 2] :=
  leaves_are_a_permutation_of_the_request _ _ _ _ _ _
example : mergedItems exKind.isErr (issue exKind exOracle 3 0 lay0 [0, 1, 1, 3, 9, 2]) = [0, 3, 1, 1, 2] ∧
    firstErr exKind.isErr (issue exKind exOracle 3 0 lay0 [0, 1, 1, 3, 9, 2]) = some (-3) := by decide
/-- `AllMappable` holds under a layout without errors. (`merged_is_the_request_when_all_mappable` asks it of every `lay' : Λ`;
for `exKind`, whose `Λ` is all functions `Nat → Int`, that holds of the empty request only — the theorem applies to kinds whose
layout type has no erring layout for the requested items.) -/
example : AllMappable exKind.isErr (exKind.place (fun p => (p % 3 : Nat))) [0, 1, 1, 3, 2] = true := by decide
/-- without budget the first sharding is final -/
example : issue exKind exOracle 0 0 lay0 [0, 1, 1, 3, 9, 2] = [⟨0, [0, 3]⟩, ⟨1, [1, 1]⟩, ⟨-3, [9]⟩, ⟨2, [2]⟩] := by decide
/-- an empty request still yields one (any-broker) shard -/
example : issue exKind exOracle 3 0 lay0 [] = [⟨1000, []⟩] := by decide

end Props.C23
