import FranzVerif.Model.Txn
import FranzVerif.Proof.Txn
import FranzVerif.Proof.TxnInv
import FranzVerif.Proof.TxnLost
import FranzVerif.Proof.TxnOffsets
/-! C11 — transaction end results are truthful. Theorems over ALL accepted histories of `Model.Txn`;
the tie is the history correspondence of the `txn` scenarios.

The statements hold for every accepted history; none
needs a hypothesis about where the `visible` events stand relative to the `endDone` events. The reason is the
rule `C11.harness-transaction-ended-twice`: a transaction has at most one result in the whole history
(`Proof.Txn.Inv.resNodup`), record ids are never reused (`Inv.idsNodup`), and a `visible` event is only accepted
when the result of the record's transaction *already logged* is a successful commit (`Inv.visOk`) — so that
result is the only one the transaction has, before or after the `visible` event.

The hypothesis `_hlost` of `failed_commit_records_never_visible_partial` is not used, because the
monitor refuses a visible record of a failed commit in the lost-response case too (under the separate key
`C11.unconfirmed-commit-took-effect`, the known finding): `failed_commit_records_never_visible` is the statement
without it. What `endResponseLost` is for is which *key* refuses such a history: the two `…_key…` theorems below
say that the known-finding key is given only when `endResponseLost` holds, and that without a lost response the
history is refused under a key that is not the known finding's. (`endResponseLost k h` is implied by the
monitor's `k ∈ lostEnd`, not equivalent: it does not stop its scan at an intermediate `endStart` of another
transaction, which the sequential harness never emits; see `Proof/TxnLost.lean`.) -/
namespace Props.C11
open Model.Txn Proof.Txn

/-- When End reports a successful commit, the transaction's acknowledged records are committed: all visible. -/
theorem committed_records_visible (h : List Ev) (s : St) (hacc : run {} (h ++ [Ev.quiesce]) = some s)
    (hcomplete : isIncomplete h = false) (id : Id) (k part : Nat)
    (hp : (id, k, part) ∈ producedOf h) (ha : id ∈ ackedOf h) (hr : (k, true, true) ∈ resultsOf h) :
    id ∈ visibleIds h := by
  obtain ⟨s₁, hr₁, hchk, _⟩ := isMonitor.snoc hacc
  have hi := inv_of_run hr₁
  have := quiesce_check hchk (hi.incomplete.trans hcomplete) (id, k, part) (hi.recs ▸ List.mem_reverse.2 hp)
    (hi.acked ▸ List.mem_reverse.2 ha) (hi.resultOf_of_mem hr)
  exact List.mem_reverse.1 (hi.vis ▸ this)

/-- When End reports an abort, none of that transaction's records is ever visible to read_committed consumers —
also after later transactions committed (the view is read at the end of the history). -/
theorem aborted_records_never_visible (h : List Ev) (s : St) (hacc : run {} h = some s)
    (id : Id) (k part : Nat) (ok : Bool) (hp : (id, k, part) ∈ producedOf h) (hr : (k, false, ok) ∈ resultsOf h) :
    id ∉ visibleIds h := by
  intro hv
  cases (((inv_of_run hacc).visible_result hp hv).2 _ _ hr).1

/-- When End reports an error for a commit, none of that transaction's records is visible (in an accepted
history: also not when the broker handled an EndTxn request of that call and its response was lost — the
monitor refuses that too, under the key of the known finding). -/
theorem failed_commit_records_never_visible (h : List Ev) (s : St) (hacc : run {} h = some s)
    (id : Id) (k part : Nat) (hp : (id, k, part) ∈ producedOf h) (hr : (k, true, false) ∈ resultsOf h) :
    id ∉ visibleIds h := by
  intro hv
  cases (((inv_of_run hacc).visible_result hp hv).2 _ _ hr).2

/-- When End reports an error for a commit, none of that transaction's records is visible — unless the broker
handled an EndTxn request of that very call and its response was lost (the client's documented "outcome
unconfirmed" error; listed as a known finding against the property's second sentence). -/
theorem failed_commit_records_never_visible_partial (h : List Ev) (s : St) (hacc : run {} h = some s)
    (id : Id) (k part : Nat) (hp : (id, k, part) ∈ producedOf h) (hr : (k, true, false) ∈ resultsOf h)
    (_hlost : endResponseLost k h = false) :
    id ∉ visibleIds h :=
  failed_commit_records_never_visible h s hacc id k part hp hr

/-- The key of the known finding is given to a `visible` event only when the record belongs to a transaction
whose End(commit) reported an error *and* the broker handled an EndTxn request during that End call while its
response was lost. -/
theorem unconfirmed_key_only_when_response_lost (h : List Ev) (s : St) (hacc : run {} h = some s)
    (part off : Nat) (id : Id)
    (hkey : check s (.visible part off id) = some "C11.unconfirmed-commit-took-effect") :
    ∃ k p, (id, k, p) ∈ producedOf h ∧ (k, true, false) ∈ resultsOf h ∧ endResponseLost k h = true := by
  have hi := inv_of_run hacc
  obtain ⟨k, htx, hres, hl⟩ := visible_check_unconfirmed hkey
  obtain ⟨p, hp⟩ := txnOf_some htx
  exact ⟨k, p, List.mem_reverse.1 (hi.recs ▸ hp), List.mem_reverse.1 (hi.results ▸ Proof.Ledger.lookup_some hres),
    (lostInv_of_run hacc).lost k hl⟩

/-- Without such a lost response, a visible record of a transaction whose End(commit) reported an error is
refused under a key that is not the known finding's (`C11.failed-commit-record-visible`, or
`C11.record-visible-twice` if the record was listed before). -/
theorem failed_commit_visible_refused_key (h : List Ev) (s : St) (hacc : run {} h = some s)
    (id : Id) (k part : Nat) (hp : (id, k, part) ∈ producedOf h) (hr : (k, true, false) ∈ resultsOf h)
    (hlost : endResponseLost k h = false) (part' off : Nat) :
    check s (.visible part' off id) = some "C11.failed-commit-record-visible" ∨
    check s (.visible part' off id) = some "C11.record-visible-twice" := by
  have hi := inv_of_run hacc
  have htx := hi.txnOf_of_mem hp
  have hnl : k ∉ s.lostEnd := fun hc => Bool.eq_false_iff.1 hlost ((lostInv_of_run hacc).lost k hc)
  cases hfresh : s.vis.any (·.2.2 == id) with
  | true => right; simp [check, htx, hfresh]
  | false => left; simp [check, htx, hfresh, hi.resultOf_of_mem hr, hnl]

/-- A transaction whose outcome the client never confirmed (it was never ended by this client) is not
silently merged into a later transaction: its records are not visible. -/
theorem unended_transaction_records_never_visible (h : List Ev) (s : St) (hacc : run {} h = some s)
    (id : Id) (k part : Nat) (hp : (id, k, part) ∈ producedOf h) (hr : ∀ c ok, (k, c, ok) ∉ resultsOf h) :
    id ∉ visibleIds h :=
  fun hv => hr true true ((inv_of_run hacc).visible_result hp hv).1

/-- Nothing is visible that was not produced, and nothing twice. -/
theorem visible_records_are_produced_once (h : List Ev) (s : St) (hacc : run {} h = some s) :
    (visibleIds h).Nodup ∧ ∀ id ∈ visibleIds h, ∃ k part, (id, k, part) ∈ producedOf h := by
  have hi := inv_of_run hacc
  refine ⟨hi.visNodup, fun id hv => ?_⟩
  obtain ⟨k, p, h1, _⟩ := hi.visOk id hv
  exact ⟨k, p, h1⟩

/-- Three transactions on partitions 0 and 1: transaction 1 (records 1, 2) committed, transaction 2 (record 3)
aborted, transaction 3 (record 4) whose End(commit) reported an error after `fault 26 2` (EndTxn handled, its
response dropped) happened during the End call. The read_committed view holds records 1 and 2 only, the
read_uncommitted view all four. Accepted. -/
example : accepts
    [.begin_ 1 true, .produce 1 1 0, .produce 2 1 1, .promise 1 true 0 0, .promise 2 true 1 0,
     .endStart 1 true, .endDone 1 true true,
     .begin_ 2 true, .produce 3 2 0, .promise 3 true 0 2, .endStart 2 false, .endDone 2 false true,
     .begin_ 3 true, .produce 4 3 0, .promise 4 true 0 4, .endStart 3 true, .fault 26 2, .endDone 3 true false,
     .visible 0 0 1, .visible 1 0 2,
     .raw 0 0 1, .raw 0 2 3, .raw 0 4 4, .raw 1 0 2, .quiesce] = true := by decide

/-- The observables of that history (without the closing `quiesce`). It meets the hypotheses of
`committed_records_visible` (record 1: produced by 1, acknowledged, `(1, true, true)`), `aborted_records_never_visible`
(record 3: `(2, false, true)`) and `failed_commit_records_never_visible` (record 4: `(3, true, false)`);
`endResponseLost 3` holds, so record 4 does not meet `_hlost` of `…_partial` nor `hlost` of
`failed_commit_visible_refused_key` (the two `check` examples below are the instances of the `…key…` theorems). -/
example : let h : List Ev :=
    [.begin_ 1 true, .produce 1 1 0, .produce 2 1 1, .promise 1 true 0 0, .promise 2 true 1 0,
     .endStart 1 true, .endDone 1 true true,
     .begin_ 2 true, .produce 3 2 0, .promise 3 true 0 2, .endStart 2 false, .endDone 2 false true,
     .begin_ 3 true, .produce 4 3 0, .promise 4 true 0 4, .endStart 3 true, .fault 26 2, .endDone 3 true false,
     .visible 0 0 1, .visible 1 0 2,
     .raw 0 0 1, .raw 0 2 3, .raw 0 4 4, .raw 1 0 2]
    producedOf h = [(1, 1, 0), (2, 1, 1), (3, 2, 0), (4, 3, 0)] ∧ ackedOf h = [1, 2, 3, 4] ∧
    resultsOf h = [(1, true, true), (2, false, true), (3, true, false)] ∧ visibleIds h = [1, 2] ∧
    isIncomplete h = false ∧ endResponseLost 3 h = true ∧ endResponseLost 1 h = false := by decide

/-- The same history with record 4 (of the transaction whose commit reported an error after the lost response)
in the read_committed view: refused — by the rule `C11.unconfirmed-commit-took-effect`, the known finding. -/
example : accepts
    [.begin_ 1 true, .produce 1 1 0, .produce 2 1 1, .promise 1 true 0 0, .promise 2 true 1 0,
     .endStart 1 true, .endDone 1 true true,
     .begin_ 2 true, .produce 3 2 0, .promise 3 true 0 2, .endStart 2 false, .endDone 2 false true,
     .begin_ 3 true, .produce 4 3 0, .promise 4 true 0 4, .endStart 3 true, .fault 26 2, .endDone 3 true false,
     .visible 0 0 1, .visible 1 0 2, .visible 0 4 4,
     .raw 0 0 1, .raw 0 2 3, .raw 0 4 4, .raw 1 0 2, .quiesce] = false := by decide
example : (run {}
    [.begin_ 1 true, .produce 1 1 0, .produce 2 1 1, .promise 1 true 0 0, .promise 2 true 1 0,
     .endStart 1 true, .endDone 1 true true,
     .begin_ 2 true, .produce 3 2 0, .promise 3 true 0 2, .endStart 2 false, .endDone 2 false true,
     .begin_ 3 true, .produce 4 3 0, .promise 4 true 0 4, .endStart 3 true, .fault 26 2, .endDone 3 true false,
     .visible 0 0 1, .visible 1 0 2]).bind (fun s => check s (.visible 0 4 4))
    = some "C11.unconfirmed-commit-took-effect" := by decide
/-- Without the lost response the same record is refused by `C11.failed-commit-record-visible`. -/
example : (run {}
    [.begin_ 3 true, .produce 4 3 0, .promise 4 true 0 4, .endStart 3 true, .endDone 3 true false]).bind
      (fun s => check s (.visible 0 4 4))
    = some "C11.failed-commit-record-visible" := by decide

/-- A visible record of an aborted transaction: refused. -/
example : accepts
    [.begin_ 2 true, .produce 3 2 0, .promise 3 true 0 0, .endStart 2 false, .endDone 2 false true,
     .visible 0 0 3, .raw 0 0 3, .quiesce] = false := by decide
/-- … also when a later transaction committed in between. -/
example : accepts
    [.begin_ 2 true, .produce 3 2 0, .promise 3 true 0 0, .endStart 2 false, .endDone 2 false true,
     .begin_ 3 true, .produce 4 3 0, .promise 4 true 0 2, .endStart 3 true, .endDone 3 true true,
     .visible 0 0 3, .visible 0 2 4, .raw 0 0 3, .raw 0 2 4, .quiesce] = false := by decide

/-- A visible record of a transaction that was never ended by this client (the client restarted and a later
transaction committed): refused. -/
example : accepts
    [.begin_ 1 true, .produce 1 1 0, .promise 1 true 0 0,
     .begin_ 2 true, .produce 2 2 0, .promise 2 true 0 1, .endStart 2 true, .endDone 2 true true,
     .visible 0 0 1, .visible 0 1 2, .quiesce] = false := by decide

/-- A committed, acknowledged record missing from the read_committed view: refused (at `quiesce`). -/
example : accepts
    [.begin_ 1 true, .produce 1 1 0, .produce 2 1 1, .promise 1 true 0 0, .promise 2 true 1 0,
     .endStart 1 true, .endDone 1 true true,
     .visible 0 0 1, .raw 0 0 1, .raw 1 0 2, .quiesce] = false := by decide

/-- A record listed twice, and a record that was never produced: refused. -/
example : accepts
    [.begin_ 1 true, .produce 1 1 0, .promise 1 true 0 0, .endStart 1 true, .endDone 1 true true,
     .visible 0 0 1, .visible 0 1 1, .quiesce] = false := by decide
example : accepts
    [.begin_ 1 true, .produce 1 1 0, .promise 1 true 0 0, .endStart 1 true, .endDone 1 true true,
     .visible 0 0 1, .visible 0 1 7, .quiesce] = false := by decide

end Props.C11

/-! ## The offsets half: "…the transaction's records **and offsets** are committed", GroupTransactSession.End

Theorems over ALL accepted histories of `Model.TxnOffsets` (`tofs` scenarios: GroupTransactSession members, the
group's committed offsets read by a separate plain client right after every End). `single` says that the scenario
has one member slot, so that nobody else commits offsets of the group (transactions are sequential); what is stated
for `single = true` only is exactly what needs that.

* a reported commit: the offsets observed right after End are at least (`single`: exactly) what the transaction set
  out to commit, on every partition it polled from; the coordinator has no open transaction for the id;
* an observed committed offset (right after any End, or at the end of the scenario) is always an offset that a
  transaction whose End reported a successful commit set out to commit — so never that of an aborted, failed or
  never-ended transaction, also not later through another transaction's commit;
* a reported abort or error (`single`): the observed offsets are those of the previous observation;
* the output records of the session's transactions: visible ⇒ End reported a commit; reported commit and
  acknowledged ⇒ visible at the end.

As in the records half, an accepted history contains no effect of an End(TryCommit) that reported an error: the
monitor refuses that too, under the key of the listed finding when an EndTxn(commit) response was lost. -/
namespace Props.C11
open Model.TxnOffsets Proof.TxnOffsets Proof.Ledger

/-- When End reports a successful commit, the transaction's offsets are committed: the group's committed offset
read right after End is, on every partition the transaction polled from, at least the offset it set out to commit. -/
theorem committed_end_commits_offsets (single : Bool) (h : List Ev) (s : St) (hacc : run { single := single } h = some s)
    (t p : Nat) (w off : Int) (hr : (t, Res.committed) ∈ resultsOf h) (hw : (t, p, w) ∈ wantsOf h)
    (ho : (t, p, off) ∈ observationsOf h) : w ≤ off := by
  obtain ⟨h₁, ev, h₂, rfl, hev⟩ := mem_filterMap_split ho
  obtain ⟨m, rfl⟩ := obsEv_some hev
  exact ((observation_rule hacc hr).1 rfl w hw).1

/-- … and exactly that offset when the scenario has a single member (nobody else commits, and no later transaction
has run when the offsets are read). -/
theorem committed_end_commits_offsets_exact (h : List Ev) (s : St) (hacc : run { single := true } h = some s)
    (t p : Nat) (w off : Int) (hr : (t, Res.committed) ∈ resultsOf h) (hw : (t, p, w) ∈ wantsOf h)
    (ho : (t, p, off) ∈ observationsOf h) : off = w := by
  obtain ⟨h₁, ev, h₂, rfl, hev⟩ := mem_filterMap_split ho
  obtain ⟨m, rfl⟩ := obsEv_some hev
  exact ((observation_rule hacc hr).1 rfl w hw).2 rfl

/-- Every transaction whose End reported a successful commit *was* observed, on every partition it polled from, in a
complete scenario (so the two theorems above speak about every committed transaction). -/
theorem committed_transactions_are_observed (single : Bool) (h : List Ev) (s : St)
    (hacc : run { single := single } (h ++ [Ev.quiesce]) = some s) (hcomplete : isIncomplete h = false)
    (t p : Nat) (w : Int) (hr : (t, Res.committed) ∈ resultsOf h) (hw : (t, p, w) ∈ wantsOf h) :
    ∃ off, (t, p, off) ∈ observationsOf h := by
  obtain ⟨s₁, hs₁, hchk, _⟩ := at_event hacc
  obtain ⟨⟨_, _, off⟩, ho, rfl, rfl⟩ := (quiesce_check hchk (hs₁.incomplete.trans hcomplete)).2 (t, p, w)
    (hs₁.wants ▸ List.mem_reverse.2 hw) (hs₁.resultOf_iff.2 hr)
  exact ⟨off, List.mem_reverse.1 (hs₁.obs ▸ ho)⟩

/-- When End reports a successful commit, the coordinator has no open transaction for the transactional id right
after End. -/
theorem committed_end_closes_transaction (single : Bool) (h : List Ev) (s : St) (hacc : run { single := single } h = some s)
    (t : Nat) (hr : (t, Res.committed) ∈ resultsOf h) : (t, true) ∉ coordsOf h := by
  intro hc
  obtain ⟨h₁, ev, h₂, rfl, hev⟩ := mem_filterMap_split hc
  obtain ⟨m, rfl⟩ := coordEv_some hev
  obtain ⟨s₁, hs₁, hchk, _⟩ := at_event hacc
  obtain ⟨r, hres, hno⟩ := coord_check hchk
  exact hno rfl ((reached hacc).results_unique (mem_filterMap_append_left (hs₁.resultOf_iff.1 hres) _) hr)

/-- Single member: every committed offset observed right after an End is an offset that a transaction whose End
reported a successful commit set out to commit (or `-1`, nothing committed). Hence never the offset of a transaction
whose End reported an abort or an error, or that the client never ended — also not later, after other transactions
committed. -/
theorem observed_offsets_come_from_committed_transactions (h : List Ev) (s : St) (hacc : run { single := true } h = some s)
    (t p : Nat) (off : Int) (ho : (t, p, off) ∈ observationsOf h) :
    off = -1 ∨ ∃ t', (t', p, off) ∈ wantsOf h ∧ (t', Res.committed) ∈ resultsOf h := by
  obtain ⟨h₁, ev, h₂, rfl, hev⟩ := mem_filterMap_split ho
  obtain ⟨m, rfl⟩ := obsEv_some hev
  exact justified_single hacc fun _ hchk => (observe_check hchk).1

/-- The same for the group's committed offsets at the end of the scenario. -/
theorem final_offsets_come_from_committed_transactions (h : List Ev) (s : St) (hacc : run { single := true } h = some s)
    (p : Nat) (off : Int) (ho : (p, off) ∈ finalsOf h) :
    off = -1 ∨ ∃ t', (t', p, off) ∈ wantsOf h ∧ (t', Res.committed) ∈ resultsOf h := by
  obtain ⟨h₁, ev, h₂, rfl, hev⟩ := mem_filterMap_split ho
  obtain rfl := finalEv_some hev
  exact justified_single hacc fun _ => final_check

/-- Several members. Full statement wanted: as `observed_offsets_come_from_committed_transactions`. Proved: the offset
was set out to be committed by a transaction that, in the history *before the observation*, either had its End report a
successful commit, or whose End(TryCommit) call (on another member) had been called and had not returned yet. Missing:
the second kind is not re-examined when that End later reports an abort or an error (the observation that follows that
End is checked, not the earlier one). -/
theorem observed_offsets_come_from_committed_transactions_partial (single : Bool) (h₁ h₂ : List Ev) (s : St)
    (m t p : Nat) (off : Int) (hacc : run { single := single } (h₁ ++ Ev.observe m t p off :: h₂) = some s) :
    off = -1 ∨ ∃ t', (t', p, off) ∈ wantsOf h₁ ∧
      ((t', Res.committed) ∈ resultsOf h₁ ∨ ((t', true) ∈ startsOf h₁ ∧ ∀ r, (t', r) ∉ resultsOf h₁)) := by
  obtain ⟨s₁, hs₁, hchk, _⟩ := at_event hacc
  rcases hs₁.justified_explained (observe_check hchk).1 with h0 | ⟨t', hw, hres⟩
  · exact Or.inl h0
  · exact Or.inr ⟨t', hw, hres.imp_right And.right⟩

/-- Single member: when End reports an abort, the committed offsets read right after it are unchanged: they are those
of the previous observation (`-1` when there was none). -/
theorem aborted_end_leaves_offsets (h₁ h₂ : List Ev) (s : St) (m t p : Nat) (off : Int)
    (hacc : run { single := true } (h₁ ++ Ev.observe m t p off :: h₂) = some s)
    (hr : (t, Res.aborted) ∈ resultsOf (h₁ ++ Ev.observe m t p off :: h₂)) : off = lastObserved p h₁ :=
  (observation_rule hacc hr).2 nofun rfl

/-- Single member: when End reports an error, the committed offsets read right after it (and after the application's
abort retry) are unchanged. (In an accepted history; the effect of an unconfirmed commit is refused under the key of
the listed finding.) -/
theorem failed_end_leaves_offsets (h₁ h₂ : List Ev) (s : St) (m t p : Nat) (off : Int)
    (hacc : run { single := true } (h₁ ++ Ev.observe m t p off :: h₂) = some s)
    (hr : (t, Res.error) ∈ resultsOf (h₁ ++ Ev.observe m t p off :: h₂)) : off = lastObserved p h₁ :=
  (observation_rule hacc hr).2 nofun rfl

/-- Single member: the offsets of a transaction whose End reported an abort or an error are never committed — when
such an offset is observed (right after any End), another transaction, whose End reported a successful commit, set
out to commit the very same offset. -/
theorem uncommitted_transaction_offsets_never_committed (h : List Ev) (s : St) (hacc : run { single := true } h = some s)
    (t p : Nat) (w : Int) (r : Res) (hne : r ≠ .committed) (hr : (t, r) ∈ resultsOf h) (_hw : (t, p, w) ∈ wantsOf h)
    (hpos : w ≠ -1) (u : Nat) (ho : (u, p, w) ∈ observationsOf h) :
    ∃ t', t' ≠ t ∧ (t', p, w) ∈ wantsOf h ∧ (t', Res.committed) ∈ resultsOf h := by
  rcases observed_offsets_come_from_committed_transactions h s hacc u p w ho with h0 | ⟨t', h1, h2⟩
  · exact absurd h0 hpos
  · exact ⟨t', fun he => hne ((reached hacc).results_unique hr (he ▸ h2)), h1, h2⟩

/-- Never merged: the offsets of a transaction that the client never ended (the member was restarted inside it) are
never committed, also not through a later transaction. -/
theorem unended_transaction_offsets_never_committed (h : List Ev) (s : St) (hacc : run { single := true } h = some s)
    (t p : Nat) (w : Int) (hr : ∀ r, (t, r) ∉ resultsOf h) (_hw : (t, p, w) ∈ wantsOf h)
    (hpos : w ≠ -1) (u : Nat) (ho : (u, p, w) ∈ observationsOf h) :
    ∃ t', t' ≠ t ∧ (t', p, w) ∈ wantsOf h ∧ (t', Res.committed) ∈ resultsOf h := by
  rcases observed_offsets_come_from_committed_transactions h s hacc u p w ho with h0 | ⟨t', h1, h2⟩
  · exact absurd h0 hpos
  · exact ⟨t', fun he => hr _ (he ▸ h2), h1, h2⟩

/-- The records of the session's transactions: a record in the read_committed view was produced by a transaction whose
End reported a successful commit (so none of an aborted, failed or never-ended transaction is ever visible). -/
theorem session_visible_records_are_committed (single : Bool) (h : List Ev) (s : St) (hacc : run { single := single } h = some s)
    (id : Id) (t : Nat) (hp : (id, t) ∈ producedOf h) (hv : id ∈ visibleIds h) : (t, Res.committed) ∈ resultsOf h := by
  have hs := reached hacc
  obtain ⟨t', h1, h2⟩ := visible_committed hacc hv
  have hp' : (id, t) ∈ s.recs := hs.recs ▸ List.mem_reverse.2 hp
  have h1' : (id, t') ∈ s.recs := hs.recs ▸ List.mem_reverse.2 h1
  obtain rfl : t = t' := (Prod.mk.inj (eq_of_key_nodup (·.1) hs.recsNodup hp' h1' rfl)).2
  exact h2

/-- … and every acknowledged record of a transaction whose End reported a successful commit is in the read_committed
view at the end. -/
theorem session_committed_records_visible (single : Bool) (h : List Ev) (s : St)
    (hacc : run { single := single } (h ++ [Ev.quiesce]) = some s) (hcomplete : isIncomplete h = false)
    (id : Id) (t : Nat) (hp : (id, t) ∈ producedOf h) (ha : id ∈ ackedOf h) (hr : (t, Res.committed) ∈ resultsOf h) :
    id ∈ visibleIds h := by
  obtain ⟨s₁, hs₁, hchk, _⟩ := at_event hacc
  exact List.mem_reverse.1 (hs₁.vis ▸ (quiesce_check hchk (hs₁.incomplete.trans hcomplete)).1 (id, t)
    (hs₁.recs ▸ List.mem_reverse.2 hp) (hs₁.acked ▸ List.mem_reverse.2 ha) (hs₁.resultOf_iff.2 hr))

/-- One member, input partitions 0 and 1. Transaction 1 only consumes (polled partition 0 up to offset 2) and End
reports a commit: offset 3 is observed, the coordinator has nothing open. Transaction 2 (polled both partitions,
produced record 1) is aborted: the observed offsets are unchanged. Transaction 3's End(TryCommit) reports an error (its
EndTxn was cut before the broker saw it); the application retries as an abort; offsets unchanged both times. The member
is restarted inside transaction 4 (never ended). Transaction 5 re-polls, produces records 2 and 3 and commits: offsets
6 and 2 are observed. At the end the group's offsets are 6 and 2 and the read_committed view holds records 2 and 3. -/
private def sample : List Ev :=
  [.memberStart 1 0,
   .begin_ 1 1 true, .want 1 0 3, .endStart 1 1 true, .endDone 1 1 .committed,
   .observe 1 1 0 3, .observe 1 1 1 (-1), .coord 1 1 false,
   .begin_ 1 2 true, .want 2 0 5, .want 2 1 2, .produce 2 1, .endStart 1 2 false, .promise 1 false, .endDone 1 2 .aborted,
   .observe 1 2 0 3, .observe 1 2 1 (-1), .coord 1 2 false,
   .begin_ 1 3 true, .want 3 0 4, .endStart 1 3 true, .fault 26 1 3 true, .endDone 1 3 .error,
   .observe 1 3 0 3, .observe 1 3 1 (-1), .coord 1 3 true, .retry 1 3 .aborted, .observe 1 3 0 3, .observe 1 3 1 (-1),
   .begin_ 1 4 true, .want 4 0 5, .memberKill 1 4, .memberStop 1, .memberStart 2 0,
   .begin_ 2 5 true, .want 5 0 6, .want 5 1 2, .produce 5 2, .produce 5 3, .endStart 2 5 true, .promise 2 true, .promise 3 true,
   .endDone 2 5 .committed, .observe 2 5 0 6, .observe 2 5 1 2, .coord 2 5 false, .memberStop 2,
   .final 0 6, .final 1 2, .output 0 0 2, .output 1 0 3]

example : accepts true (sample ++ [.quiesce]) = true := by decide

/-- The observables of that history. It meets the hypotheses of every theorem above but
`unended_transaction_offsets_never_committed`: no observation shows offset 5 of partition 0, which the never-ended
transaction 4 set out to commit. (For `uncommitted_transaction_offsets_never_committed`: the aborted transaction 2 and the
committed transaction 5 both set out to commit offset 2 of partition 1, which is observed after 5.) -/
example :
    wantsOf sample = [(1, 0, 3), (2, 0, 5), (2, 1, 2), (3, 0, 4), (4, 0, 5), (5, 0, 6), (5, 1, 2)] ∧
    resultsOf sample = [(1, .committed), (2, .aborted), (3, .error), (5, .committed)] ∧
    observationsOf sample = [(1, 0, 3), (1, 1, -1), (2, 0, 3), (2, 1, -1), (3, 0, 3), (3, 1, -1), (3, 0, 3), (3, 1, -1),
      (5, 0, 6), (5, 1, 2)] ∧
    finalsOf sample = [(0, 6), (1, 2)] ∧ coordsOf sample = [(1, false), (2, false), (3, true), (5, false)] ∧
    producedOf sample = [(1, 2), (2, 5), (3, 5)] ∧ ackedOf sample = [2, 3] ∧ visibleIds sample = [2, 3] ∧
    isIncomplete sample = false := by decide

/-- A defect class this half is there for: a transaction that only consumed, End reports a commit, but the group's offset did not
move (no EndTxn was sent; the offsets sit in an open transaction): refused, whether or not the coordinator state is read. -/
example : (run { single := true }
    [.begin_ 1 1 true, .want 1 0 3, .endStart 1 1 true, .endDone 1 1 .committed]).bind
      (fun s => check s (.observe 1 1 0 (-1))) = some "C11.committed-offsets-not-committed" := by decide
example : (run { single := true }
    [.begin_ 1 1 true, .want 1 0 3, .endStart 1 1 true, .endDone 1 1 .committed]).bind
      (fun s => check s (.coord 1 1 true)) = some "C11.committed-end-left-transaction-open" := by decide
/-- … also with two members (at least the offset). -/
example : accepts false
    [.begin_ 1 1 true, .want 1 0 3, .endStart 1 1 true, .endDone 1 1 .committed, .observe 1 1 0 (-1)] = false := by decide

/-- The offsets of an aborted transaction that ride along with the next transaction's commit (transaction 2 polled
partition 1 only, yet partition 0 moves to what the aborted transaction 1 set out to commit): refused. -/
example : (run { single := true }
    [.begin_ 1 1 true, .want 1 0 3, .endStart 1 1 false, .endDone 1 1 .aborted, .observe 1 1 0 (-1), .observe 1 1 1 (-1),
     .begin_ 1 2 true, .want 2 1 4, .endStart 1 2 true, .endDone 1 2 .committed]).bind
      (fun s => check s (.observe 1 2 0 3)) = some "C11.aborted-transaction-offsets-committed" := by decide
/-- The offsets of a transaction the client never ended, committed through a later transaction (merged): refused. -/
example : (run { single := true }
    [.begin_ 1 1 true, .want 1 0 3, .memberKill 1 1,
     .begin_ 2 2 true, .want 2 1 4, .endStart 2 2 true, .endDone 2 2 .committed]).bind
      (fun s => check s (.observe 2 2 0 3)) = some "C11.unended-transaction-offsets-committed" := by decide
/-- End(TryCommit) reported an error and the offsets are committed: the listed finding when an EndTxn(commit) of the call
was handled and its response lost, a violation of its own otherwise. -/
example : (run { single := true }
    [.begin_ 1 1 true, .want 1 0 3, .endStart 1 1 true, .fault 26 2 1 true, .endDone 1 1 .error]).bind
      (fun s => check s (.observe 1 1 0 3)) = some "C11.unconfirmed-commit-took-effect" := by decide
example : (run { single := true }
    [.begin_ 1 1 true, .want 1 0 3, .endStart 1 1 true, .fault 26 1 1 true, .endDone 1 1 .error]).bind
      (fun s => check s (.observe 1 1 0 3)) = some "C11.failed-commit-offsets-committed" := by decide
/-- An abort after which the committed offset changed (single member), a record of an aborted session transaction in the
read_committed view, a committed acknowledged record missing from it: refused. -/
example : accepts true
    [.begin_ 1 1 true, .want 1 0 3, .endStart 1 1 true, .endDone 1 1 .committed, .observe 1 1 0 3,
     .begin_ 1 2 true, .want 2 0 5, .endStart 1 2 false, .endDone 1 2 .aborted, .observe 1 2 0 (-1)] = false := by decide
example : accepts true
    [.begin_ 1 1 true, .want 1 0 3, .produce 1 7, .promise 7 true, .endStart 1 1 false, .endDone 1 1 .aborted,
     .observe 1 1 0 (-1), .output 0 0 7] = false := by decide
example : accepts true
    [.begin_ 1 1 true, .want 1 0 3, .produce 1 7, .promise 7 true, .endStart 1 1 true, .endDone 1 1 .committed,
     .observe 1 1 0 3, .quiesce] = false := by decide

end Props.C11
